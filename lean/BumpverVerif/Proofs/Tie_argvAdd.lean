/-
  Proofs/Tie_argvAdd.lean — source-level tie for the VALUES `vcs.VCSAPI.add` passes to `VCSAPI.__call__`
  (Gen/F_argvAdd.lean; property C12, and C10: a failing `add` stops the run).  Proofs/Tie_vcsCommit.lean fixes the
  SEQUENCE of subcommands; here the keyword argument is visible, and which failure of the command is passed on.
  `tie_argvAdd`: generated definition = reference, for EVERY `VCSAPI` object (any name, any template table), all
  strings, worlds and traces; stated with `callRef` (= `__call__`, Proofs/Tie_argvCall.lean).
  The composition down to the argument vector of the process that runs: Proofs/Tie_argvEndToEnd.lean.
-/
import BumpverVerif.Gen.F_argvAdd
import BumpverVerif.Proofs.Tie_argvCall
set_option linter.unusedSimpArgs false
namespace BV.TieK
open BV.TieK.Gen

/-- `VCSAPI.add(path)`: the path is the keyword argument `path`; a failure is passed on, except when Mercurial
    itself says "already tracked!" on stderr -/
def addRef (self : VcsApi) (path : Str) : Eff Unit := fun w s =>
  match callRef self ['a', 'd', 'd', '_', 'p', 'a', 't', 'h'] none [(['p', 'a', 't', 'h'], path)] w s with
  | (s', .ok _) => (s', .ok ())
  | (s', .error (.called se)) =>
    if self.name = ['h', 'g'] ∧ isInfix ['a', 'l', 'r', 'e', 'a', 'd', 'y', ' ', 't', 'r', 'a', 'c', 'k', 'e', 'd', '!'] (se.getD []) = true then (s', .ok ())
    else (s', .error (.called se))
  | (s', .error x) => (s', .error x)

theorem tie_argvAdd (self : VcsApi) (path : Str) : argvAdd self path = addRef self path := by
  funext w s
  unfold argvAdd addRef
  simp only [tie_argvCall]
  simp only [Eff.tryCatch]
  rw [bind_unit]
  try simp only [bind_unit_id]  -- `if …: raise` followed by `return` (a join) instead of `return` / `raise` in the branches
  rcases callRef self _ _ _ w s with ⟨s', r⟩
  cases r with
  | ok a => rfl
  | error x =>
    cases x with
    | called se =>
      have hisA : (Stop.called se).isA .calledProcessError = true := rfl
      simp only [unitOf, Except.map, hisA, if_true, excStderr_bind, Eff.ite_run, Eff.pure, Eff.throw]
      -- the test, whatever the order of its conjuncts: decided by the name and by the search result
      have fin : ∀ (x : Option Str) (b : Bool) (c : Bool), (c = (self.name == ['h', 'g'] && b)) →
          (if c = true then ((s', Except.ok ()) : List KEv × Except Stop Unit) else (s', Except.error (Stop.called x)))
          = if self.name = ['h', 'g'] ∧ b = true then (s', Except.ok ()) else (s', Except.error (Stop.called x)) := by
        intro x b c hc
        subst hc
        by_cases h1 : self.name = ['h', 'g']
        · have h1' : (self.name == ['h', 'g']) = true := by rw [h1]; rfl
          cases b <;> simp [h1]
        · have h1' : (self.name == ['h', 'g']) = false := by
            apply Bool.eq_false_iff.mpr
            intro h; exact h1 (by simpa using h)
          simp [h1, h1']
      rcases se with _ | (_ | ⟨c, r⟩)
      · exact fin none _ _ (by first | rfl | exact Bool.and_comm _ _)
      · exact fin (some []) _ _ (by first | rfl | exact Bool.and_comm _ _)
      · exact fin (some (c :: r)) _ _ (by first | rfl | exact Bool.and_comm _ _)
    | exit n => rfl
    | osError => rfl
    | keyError => rfl
    | valueError => rfl
    | unsupported => rfl

end BV.TieK
