/-
  Proofs/Tie_convertToPep440.lean — the definition GENERATED from the Python source of
  `v2patterns._convert_to_pep440` (Gen/F_convertToPep440.lean) against the hand model
  `BV.convertToPep440With` (Model/V2Patterns.lean).

  `tie_convertToPep440` is EXACT: generated = `none` where Python raises IndexError (`pep440IndexError`: an
  iteration in which a numerical part with a substitution is not found in the pattern converted so far —
  `find` = -1, so `pattern[part_index - 1]` is `pattern[-2]` — while that pattern has fewer than two
  characters), otherwise `some` of the model's value (the model reads "no character" there: this is the one
  place where hand model and Python differ; the witness at the end of the file needs other tables).
  `pep440IndexError_false`: no exception when the stripped pattern has ≥ 2 characters and every substitution
  text has ≥ 2.  `gen_pep440IndexError_false` / `tie_convertToPep440_gen_total`: over the GENERATED tables
  Python never raises, on any input, and generated = `some (convertToPep440 vp)`.
  Hypothesis `hne`: no key of PATTERN_PART_FIELDS is "" (Python's `replace("", x)` inserts `x` everywhere).
-/
import BumpverVerif.Gen.F_convertToPep440
import BumpverVerif.Proofs.Tie_patternsPrims
import BumpverVerif.Proofs.Tie_patternsSort
set_option linter.unusedSimpArgs false
namespace BV
open PyP

/-- `re.subn(r"[^a-zA-Z0-9\.\!\[\]]", "", s)` as translated (class semantics of Model/Regex.lean) is the
    model's `keepPep440Chars` -/
theorem subnDeleteCls_pep440 (s : Str) :
    (subnDeleteCls true [ClsItem.range 'a' 'z', ClsItem.range 'A' 'Z', ClsItem.range '0' '9', ClsItem.ch '.',
      ClsItem.ch '!', ClsItem.ch '[', ClsItem.ch ']'] s).1 = keepPep440Chars s := by
  simp only [subnDeleteCls, keepPep440Chars]
  congr 1
  funext c
  simp only [List.any_cons, List.any_nil, ClsItem.matches, isAlnum, isAlpha, isLower, isUpper, isDigit,
    Bool.or_false, bne_iff_ne, ne_eq, Bool.not_eq_true, Bool.or_assoc]
  cases h : ('a' ≤ c && c ≤ 'z' || ('A' ≤ c && c ≤ 'Z' || ('0' ≤ c && c ≤ '9' ||
    (c == '.' || (c == '!' || (c == '[' || c == ']')))))) <;> simp [h]

/-- `part_names.sort(key=len, reverse=True)` as translated is the model's `sortByLenDesc` -/
theorem sortByKeyDesc_len (l : List Str) : sortByKeyDesc List.length l = sortByLenDesc l := by
  simp only [sortByKeyDesc, sortByLenDesc, insert_eq_of_eqns _ (insertSortedBy _) (fun _ => rfl) (fun _ _ _ => rfl) _
    insertByLenDesc (fun _ => rfl) (fun _ _ _ => rfl) (fun _ _ => decide_eq_true_iff)]

/-- the model's loop step (the body of the `foldl` in `convertToPep440With`, verbatim) -/
def pepStep (subst : List (Str × Str)) (versionPattern : Str) (acc : Str) (name : Str) : Str :=
  if !isInfix name versionPattern then acc
  else match lookup name subst with
    | none => acc
    | some sub =>
      if isInfix sub acc then acc
      else if name != "TAG".toList && name != "PYTAG".toList then
        match findIdx name acc with
        | none =>
          let ch := if acc.length ≥ 2 then acc[acc.length - 2]? else none
          if ch == some '.' then replaceAll name sub acc else acc
        | some i =>
          if i == 0 || acc[i - 1]? == some '.' then replaceAll name sub acc else acc
      else replaceAll name sub acc

/-- the part of the conversion before the loop -/
def pep440Stripped (versionPattern : Str) : Str :=
  keepPep440Chars (replaceAll "\\]".toList [] (replaceAll "\\[".toList []
    (if startsWith versionPattern ['v'] then versionPattern.drop 1 else versionPattern)))

/-- the part of the conversion after the loop -/
def pep440Tail (p4 : Str) : Str :=
  if !isInfix "PYTAGNUM".toList p4 then
    replaceAll "[]".toList [] (replaceAll "NUM".toList [] (replaceAll "PYTAG".toList [] p4)) ++ "[PYTAGNUM]".toList
  else p4

theorem convertToPep440With_eq (partFields subst : List (Str × Str)) (vp : Str) :
    convertToPep440With partFields subst vp =
      pep440Tail ((sortByLenDesc (partFields.map (·.1))).foldl (pepStep subst vp) (pep440Stripped vp)) := rfl

/-- Python raises IndexError in this iteration: a numerical part that has a substitution, occurs in the
    version pattern but NOT in the pattern converted so far (`find` = -1, so `pattern[-2]` is read), and the
    converted pattern has fewer than two characters.  The model reads "no character" there. -/
def pepStepRaises (subst : List (Str × Str)) (versionPattern : Str) (acc : Str) (name : Str) : Bool :=
  isInfix name versionPattern &&
    match lookup name subst with
    | none => false
    | some sub =>
      !isInfix sub acc && (name != "TAG".toList && name != "PYTAG".toList) &&
        (findIdx name acc).isNone && decide (acc.length < 2)

/-- `_convert_to_pep440(version_pattern)` raises IndexError -/
def pep440IndexError (partFields subst : List (Str × Str)) (vp : Str) : Bool :=
  raisesAlong (pepStepRaises subst vp) (pepStep subst vp) (sortByLenDesc (partFields.map (·.1))) (pep440Stripped vp)

theorem elem_two (x a b : Str) : List.elem x [a, b] = !(x != a && x != b) := by
  by_cases h1 : x = a <;> by_cases h2 : x = b <;> simp [h1, h2]

/-- one iteration of the generated loop, exactly: `none` where Python raises IndexError, otherwise the
    model's step -/
theorem pepStep_gen (subst : List (Str × Str)) (vp acc name : Str) (hne : name ≠ []) :
    (if (!isInfix name vp) then some acc else
      if (!(lookup name subst).isSome) then some acc else
        match lookup name subst with
        | none => none
        | some sub =>
          if isInfix sub acc then some acc else
            if (!List.elem name ["TAG".toList, "PYTAG".toList]) then
              match (if (PyP.find acc name 0 == 0) then some true else
                      match PyP.getItem acc (PyP.find acc name 0 - 1) with
                      | none => none
                      | some c => some (c == ".".toList)) with
              | none => none
              | some b => some (if b then PyP.replace name sub acc else acc)
            else some (PyP.replace name sub acc))
    = if pepStepRaises subst vp acc name then none else some (pepStep subst vp acc name) := by
  unfold pepStepRaises pepStep
  by_cases h1 : isInfix name vp = true
  · cases h2 : lookup name subst with
    | none => simp [h1]
    | some sub =>
      by_cases h3 : isInfix sub acc = true
      · simp [h1, h3]
      · rw [elem_two]
        cases h4 : (name != "TAG".toList && name != "PYTAG".toList) with
        | false =>
          simp only [h1, h3, Bool.not_true, Bool.false_eq_true, if_false, Option.isSome_some,
            Bool.not_false, replace_of_ne _ _ _ hne, Bool.and_false, Bool.false_and, Bool.true_and]
        | true =>
          simp only [h1, h3, Bool.not_true, Bool.false_eq_true, if_false, Option.isSome_some,
            Bool.not_false, if_true, Bool.true_and, replace_of_ne _ _ _ hne]
          cases h5 : findIdx name acc with
          | none =>
            have hm1 : ¬ ((-1 : Int) == 0) = true := by decide
            simp only [find_zero_none acc name h5, hm1, if_false, getItem_neg_two, Option.isNone_none,
              Bool.true_and, decide_eq_true_eq]
            by_cases h6 : acc.length < 2
            · simp [h6]
            · have h6' : acc.length ≥ 2 := by omega
              have hlt : acc.length - 2 < acc.length := by omega
              simp only [h6, if_false, h6', if_true, List.getElem?_eq_getElem hlt, Option.map_some]
              by_cases h7 : acc[acc.length - 2] = '.'
              · simp [h7]
              · have : ¬ ([acc[acc.length - 2]] == ".".toList) = true := by simpa using h7
                simp [h7, this]
          | some i =>
            simp only [find_zero_some acc name i hne h5, Option.isNone_some, Bool.false_and,
              Bool.false_eq_true, if_false]
            cases i with
            | zero => simp
            | succ k =>
              have hk : k < acc.length := by have := findIdx_le h5; omega
              have e3 : ¬ (((k + 1 : Nat) : Int) == 0) = true := by simp; omega
              have e4 : ((k + 1 : Nat) : Int) - 1 = (k : Int) := by omega
              simp only [e3, if_false, e4, getItem_natCast, List.getElem?_eq_getElem hk, Option.map_some]
              have e5 : acc[k]? = some acc[k] := List.getElem?_eq_getElem hk
              by_cases h7 : acc[k] = '.'
              · simp [h7, e5]
              · have : ¬ ([acc[k]] == ".".toList) = true := by simpa using h7
                simp [h7, this, e5]
  · simp [h1]

/-- `_convert_to_pep440` generated from the source, EXACTLY: `none` where Python raises IndexError
    (`pep440IndexError`), otherwise the model's result.
    Hypothesis `hne` (decidable, true of the generated table): no key of PATTERN_PART_FIELDS is the empty
    string — for the key "" Python's `str.replace("", …)` inserts the substitution between all characters,
    the model's `replaceAll` leaves the string unchanged. -/
theorem tie_convertToPep440 (partFields subst : List (Str × Str)) (vp : Str)
    (hne : ∀ pf ∈ partFields, pf.1 ≠ []) :
    GenF.convertToPep440 partFields subst vp =
      if pep440IndexError partFields subst vp then none else some (convertToPep440With partFields subst vp) := by
  have hnames : ∀ name ∈ sortByLenDesc (partFields.map Prod.fst), name ≠ [] := by
    intro name hn
    obtain ⟨pf, hpf, rfl⟩ := List.mem_map.mp (mem_sortByLenDesc.mp hn)
    exact hne pf hpf
  have hstrip : (subnDeleteCls true [ClsItem.range 'a' 'z', ClsItem.range 'A' 'Z', ClsItem.range '0' '9',
        ClsItem.ch '.', ClsItem.ch '!', ClsItem.ch '[', ClsItem.ch ']']
      (replaceAll "\\]".toList "".toList (replaceAll "\\[".toList "".toList
        (if startsWith vp "v".toList then sliceFrom vp 1 else vp)))).1 = pep440Stripped vp := by
    rw [subnDeleteCls_pep440, sliceFrom_one]; rfl
  rw [convertToPep440With_eq, pep440IndexError]
  simp only [GenF.convertToPep440, sortByKeyDesc_len]
  rw [hstrip, forM_raises _ (pepStep subst vp) (pepStepRaises subst vp) _ ?_]
  · cases raisesAlong (pepStepRaises subst vp) (pepStep subst vp) (sortByLenDesc (partFields.map Prod.fst))
      (pep440Stripped vp) <;> rfl
  · intro name hn acc
    have := pepStep_gen subst vp acc name (hnames name hn)
    first
    | exact this
    -- two guards merged with `or`, a negated test with the branches exchanged
    | (simp only [ite_bnot, ite_bor, ite_band, Bool.not_not] at this ⊢
       exact this)

theorem le_length_replaceAllF (pat rep : Str) : ∀ (f : Nat) (s : Str) (n : Nat), n ≤ rep.length → n ≤ s.length →
    n ≤ (replaceAllF f pat rep s).length
  | 0, s, n, _, hs => hs
  | f + 1, [], n, _, hs => hs
  | f + 1, c :: cs, n, hrep, hs => by
    simp only [replaceAllF]
    split
    · exact hs
    · split
      · simp only [List.length_append]; omega
      · have := le_length_replaceAllF pat rep f cs (n - 1) (by omega) (by simp only [List.length_cons] at hs; omega)
        simp only [List.length_cons]; omega

theorem ite_cases {α : Type} (P : α → Prop) (c : Prop) [Decidable c] (a b : α) (ha : P a) (hb : P b) :
    P (if c then a else b) := by split <;> assumption

/-- an iteration leaves the pattern as it is or replaces the part by its substitution -/
theorem pepStep_ind (subst : List (Str × Str)) (vp acc name : Str) (P : Str → Prop) (h0 : P acc)
    (h1 : ∀ sub, lookup name subst = some sub → P (replaceAll name sub acc)) : P (pepStep subst vp acc name) := by
  unfold pepStep
  refine ite_cases P _ _ _ h0 ?_
  cases hl : lookup name subst with
  | none => exact h0
  | some sub =>
    have hr := h1 sub hl
    refine ite_cases P _ _ _ h0 (ite_cases P _ _ _ ?_ hr)
    cases findIdx name acc with
    | none => exact ite_cases P _ _ _ hr h0
    | some i => exact ite_cases P _ _ _ hr h0

/-- the converted pattern keeps at least two characters when every substitution has at least two -/
theorem pepStep_len2 (subst : List (Str × Str)) (vp acc name : Str)
    (hsub : ∀ s ∈ subst, 2 ≤ s.2.length) (hacc : 2 ≤ acc.length) : 2 ≤ (pepStep subst vp acc name).length :=
  pepStep_ind subst vp acc name (2 ≤ ·.length) hacc fun sub hl =>
    le_length_replaceAllF name sub _ acc 2 (hsub _ (lookup_mem hl)) hacc

/-- SUFFICIENT for "no IndexError": the version pattern keeps at least two characters after stripping and
    every substitution text has at least two characters (true of PEP440_PART_SUBSTITUTIONS) -/
theorem pep440IndexError_false (partFields subst : List (Str × Str)) (vp : Str)
    (hsub : ∀ s ∈ subst, 2 ≤ s.2.length) (hlen : 2 ≤ (pep440Stripped vp).length) :
    pep440IndexError partFields subst vp = false := by
  unfold pep440IndexError
  refine raisesAlong_false _ _ (fun acc => 2 ≤ acc.length) _ ?_ ?_ _ hlen
  · intro name _ acc hacc
    unfold pepStepRaises
    have : ¬ acc.length < 2 := by omega
    cases lookup name subst <;> simp [this]
  · intro name _ acc hacc
    exact pepStep_len2 subst vp acc name hsub hacc

theorem genSubst_len2 : ∀ s ∈ Gen.pep440PartSubstitutions, 2 ≤ s.2.length := by decide +kernel

/-- `_convert_to_pep440` over the generated tables, exactly -/
theorem tie_convertToPep440_gen (vp : Str) :
    GenF.convertToPep440 Gen.partFields Gen.pep440PartSubstitutions vp =
      if pep440IndexError Gen.partFields Gen.pep440PartSubstitutions vp then none
      else some (convertToPep440 vp) :=
  tie_convertToPep440 _ _ vp partFields_keys_ne

/-! ### with the generated tables Python never raises: a part that has a substitution consists of at least
    two letters/digits other than `v`, and stripping keeps those -/

/-- number of letters/digits other than `v` -/
def cntA (s : Str) : Nat := (s.filter (fun c => isAlnum c && c != 'v')).length

theorem replaceAllF_nil_filter (pat : Str) (p : Char → Bool) (hp : ∀ c ∈ pat, p c = false) :
    ∀ (f : Nat) (s : Str), (replaceAllF f pat [] s).filter p = s.filter p
  | 0, s => by simp [replaceAllF]
  | f + 1, [] => by simp [replaceAllF]
  | f + 1, c :: cs => by
    simp only [replaceAllF]
    split
    · rfl
    · split
      · rename_i hpre
        obtain ⟨rest, hrest⟩ := List.isPrefixOf_iff_prefix.mp hpre
        rw [List.nil_append, replaceAllF_nil_filter pat p hp f, ← hrest, List.drop_left, List.filter_append]
        have : pat.filter p = [] := by
          rw [List.filter_eq_nil_iff]; intro a ha; simp [hp a ha]
        rw [this, List.nil_append]
      · simp only [List.filter_cons, replaceAllF_nil_filter pat p hp f cs]

theorem cntA_stripped (vp : Str) : cntA (pep440Stripped vp) = cntA vp := by
  unfold cntA pep440Stripped keepPep440Chars replaceAll
  rw [List.filter_filter]
  have e : (fun c => (isAlnum c && c != 'v') && (isAlnum c || c == '.' || c == '!' || c == '[' || c == ']'))
      = (fun c => isAlnum c && c != 'v') := by
    funext c; cases isAlnum c <;> simp
  rw [e, replaceAllF_nil_filter _ _ (by decide), replaceAllF_nil_filter _ _ (by decide)]
  split
  · rename_i hv
    cases vp with
    | nil => rfl
    | cons c cs =>
      have : c = 'v' := by have := hv; simp [startsWith] at this; exact this.symm
      subst this
      simp [isAlnum]
  · rfl

theorem cntA_infix (name vp : Str) (h : isInfix name vp = true) : cntA name ≤ cntA vp := by
  simp only [isInfix, Option.isSome_iff_exists] at h
  obtain ⟨i, hi⟩ := h
  obtain ⟨rest, hrest⟩ := List.isPrefixOf_iff_prefix.mp (findIdx_some_prefix hi)
  have : vp = vp.take i ++ (name ++ rest) := by rw [hrest, List.take_append_drop]
  unfold cntA
  rw [this, List.filter_append, List.filter_append]
  simp only [List.length_append]
  omega

theorem genSubst_keys_cnt : ∀ s ∈ Gen.pep440PartSubstitutions, 2 ≤ cntA s.1 := by decide +kernel

/-- over the generated tables `_convert_to_pep440` never raises IndexError, whatever the version pattern -/
theorem gen_pep440IndexError_false (vp : Str) :
    pep440IndexError Gen.partFields Gen.pep440PartSubstitutions vp = false := by
  by_cases hlen : 2 ≤ (pep440Stripped vp).length
  · exact pep440IndexError_false _ _ vp genSubst_len2 hlen
  · unfold pep440IndexError
    refine raisesAlong_false _ _ (fun _ => True) _ ?_ (fun _ _ _ _ => trivial) _ trivial
    intro name _ acc _
    unfold pepStepRaises
    by_cases h1 : isInfix name vp = true
    · cases h2 : lookup name Gen.pep440PartSubstitutions with
      | none => simp
      | some sub =>
        exfalso
        have hk := genSubst_keys_cnt _ (lookup_mem h2)
        have h3 := cntA_infix name vp h1
        have h4 := cntA_stripped vp
        have h5 : cntA (pep440Stripped vp) ≤ (pep440Stripped vp).length := List.length_filter_le _ _
        simp only at hk
        omega
    · simp [h1]

/-- `_convert_to_pep440` generated from the source, over the generated tables, IS the model's
    `convertToPep440` — on EVERY version pattern (in particular Python never raises) -/
theorem tie_convertToPep440_gen_total (vp : Str) :
    GenF.convertToPep440 Gen.partFields Gen.pep440PartSubstitutions vp = some (convertToPep440 vp) := by
  rw [tie_convertToPep440_gen, gen_pep440IndexError_false]
  rfl

/-- the case that needs nothing of the tables but `genSubst_len2`: a version pattern that keeps at least two characters
    after stripping (`v` prefix, escaped brackets, characters outside `[a-zA-Z0-9.!\[\]]`) -/
theorem tie_convertToPep440_gen_some (vp : Str) (hlen : 2 ≤ (pep440Stripped vp).length) :
    GenF.convertToPep440 Gen.partFields Gen.pep440PartSubstitutions vp = some (convertToPep440 vp) := by
  rw [tie_convertToPep440_gen, pep440IndexError_false _ _ vp genSubst_len2 hlen]
  rfl

/-- whenever Python returns at all, it returns the model's value -/
theorem tie_convertToPep440_gen_partial (vp r : Str)
    (h : GenF.convertToPep440 Gen.partFields Gen.pep440PartSubstitutions vp = some r) : r = convertToPep440 vp := by
  rw [tie_convertToPep440_gen_total] at h
  exact (Option.some.inj h).symm

/-- the IndexError is real for OTHER tables (model ≠ Python): with PATTERN_PART_FIELDS = {"abc", "bc"} and
    substitutions abc→x, bc→yy the version pattern "abc" becomes "x", then `"x".find("bc") = -1` and
    `"x"[-2]` raises; the model goes on and answers "x[PYTAGNUM]" -/
example : GenF.convertToPep440 [("abc".toList, "f".toList), ("bc".toList, "g".toList)]
    [("abc".toList, "x".toList), ("bc".toList, "yy".toList)] "abc".toList = none := by decide +kernel
example : convertToPep440With [("abc".toList, "f".toList), ("bc".toList, "g".toList)]
    [("abc".toList, "x".toList), ("bc".toList, "yy".toList)] "abc".toList = "x[PYTAGNUM]".toList := by decide +kernel

end BV
