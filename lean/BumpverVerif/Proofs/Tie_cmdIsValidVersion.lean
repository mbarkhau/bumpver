/-
  Proofs/Tie_cmdIsValidVersion.lean — `cli._is_valid_version` translated INTO THE COMMAND MONAD
  (Gen/F_cmdIsValidVersion.lean, harness/translate_commands.py): here `vcs.get_tags(...)` is not a parameter (as in
  the pure translation Gen/F_isValidVersion.lean of translate_cli.py) but the CALL of the generated
  `GenE.getTags` — so the tie also says WHEN the VCS is asked, and what the trace looks like.

    tie_cmdIsValidVersion_new     for a pattern without braces and all inputs, environments and states:
        the result is that of `TieL.gateCmd`: the two tests of `BV.gate … (unique := false) []` first
        (full match through the pattern, strictly greater — no VCS invocation, state unchanged); ONLY when both
        pass and `unique` holds, ONE call `get_tags(fetch=False, scope=GLOBAL)` (its events, its exception),
        then the membership test among the valid tags (`BV.parseVersionTags`).
    TieL.gate_split                the model's `gate … unique tags` split the same way: the two tests first, then,
                                   only under `unique`, the membership test among the valid tags served.
    tie_cmdIsValidVersion_legacy   the same for a pattern with braces (`BV.v1Gate`).
-/
import BumpverVerif.Gen.F_cmdIsValidVersion
import BumpverVerif.Proofs.CmdLemmas
import BumpverVerif.Proofs.Tie_isValidVersion
set_option linter.unusedSimpArgs false
namespace BV
namespace TieL

attribute [local irreducible] isValid parseVersionInfo v1IsValid v1ParseVersionInfo

/-- the uniqueness half of the gate, run as a command: the tag listing of ALL branches without fetching, then
    "is the candidate among the valid version tags?" (`check tags` answers `True` when it is not) -/
def uniqueCmd (check : List Str → Except CStop Bool) : Cmd Bool := fun ce s =>
  match GenE.getTags false .GLOBAL ce.eff s.p with
  | (p', .error x) => ({ s with p := p' }, .error (.eff x))
  | (p', .ok tags) => ({ s with p := p' }, check tags)

/-- `_is_valid_version` for a new-style pattern, as a command -/
def gateCmd (today : Date) (pat old new : Str) (unique : Bool) : Cmd Bool := fun ce s =>
  match gate pat old new false [] today with
  | .error e => (s, .error (.exc (.v2 e)))
  | .ok .accept =>
    if unique then
      uniqueCmd (fun tags => ofV2 ((parseVersionTags pat today tags).map (fun vts => !vts.contains new))) ce s
    else (s, .ok true)
  | .ok _ => (s, .ok false)

/-- the same for a pattern with braces -/
def v1GateCmd (pat old new : Str) (unique : Bool) : Cmd Bool := fun ce s =>
  match v1Gate pat old new false [] with
  | .error e => (s, .error (.exc (.v1 e)))
  | .ok .accept =>
    if unique then
      uniqueCmd (fun tags => ofV1 ((v1ParseVersionTags pat tags).map (fun vts => !vts.contains new))) ce s
    else (s, .ok true)
  | .ok _ => (s, .ok false)

end TieL

open TieL

attribute [local irreducible] isValid parseVersionInfo v1IsValid v1ParseVersionInfo

theorem tie_cmdIsValidVersion_new (today : Date) (pat old new : Str) (unique : Bool)
    (hp : isNewPattern pat = true) (ce : CmdEnv) (s : CState) :
    GenL.isValidVersion today pat old new unique ce s = gateCmd today pat old new unique ce s := by
  unfold GenL.isValidVersion gateCmd gate uniqueCmd pepLe
  simp only [TieL.isNewPattern_gen', TieL.isNewPattern_gen'c, TieL.isNewPattern_gen'o, TieL.isNewPattern_gen'oc,
    TieL.isOldPattern_gen, TieL.isOldPattern_genc, hp, if_true, Bool.not_true, Bool.not_false, Bool.false_eq_true,
    if_false, pyV2ParseVersionInfo, tie_parseVersionTags_new]
  try simp only [verLt_eq_not_verLe, Bool.not_not]
  cases hpv : parseVersionInfo new pat today with
  | error e => cases e <;> cmd_simp [liftV2, CStop.isA, Exc.isPatternError]
  | ok vi =>
    by_cases hle : verLe (parseVersion new) (parseVersion old) = true
    · cmd_simp [liftV2, hle]
    · cases unique
      · cmd_simp [liftV2, hle]
      · rcases hg : GenE.getTags false .GLOBAL ce.eff s.p with ⟨p', r⟩
        cases r with
        | error x => cmd_simp [liftV2, hle, hg]
        | ok tags =>
          cases hvt : parseVersionTags pat today tags with
          | error e => cmd_simp [liftV2, hle, hg, hvt]
          | ok vts => by_cases hm : vts.contains new = true <;> cmd_simp [liftV2, hle, hg, hvt, hm] <;> simp_all

theorem tie_cmdIsValidVersion_legacy (today : Date) (pat old new : Str) (unique : Bool)
    (hp : isNewPattern pat = false) (ce : CmdEnv) (s : CState) :
    GenL.isValidVersion today pat old new unique ce s = v1GateCmd pat old new unique ce s := by
  unfold GenL.isValidVersion v1GateCmd v1Gate uniqueCmd pepLe
  simp only [TieL.isNewPattern_gen', TieL.isNewPattern_gen'c, TieL.isNewPattern_gen'o, TieL.isNewPattern_gen'oc,
    TieL.isOldPattern_gen, TieL.isOldPattern_genc, hp, Bool.false_eq_true, if_false, Bool.not_true, Bool.not_false,
    if_true, pyV1ParseVersionInfo, tie_parseVersionTags_legacy]
  try simp only [verLt_eq_not_verLe, Bool.not_not]
  cases hpv : v1ParseVersionInfo new pat with
  | error e => cases e <;> cmd_simp [liftV1, CStop.isA, Exc.isPatternError]
  | ok vi =>
    by_cases hle : verLe (parseVersion new) (parseVersion old) = true
    · cmd_simp [liftV1, hle]
    · cases unique
      · cmd_simp [liftV1, hle]
      · rcases hg : GenE.getTags false .GLOBAL ce.eff s.p with ⟨p', r⟩
        cases r with
        | error x => cmd_simp [liftV1, hle, hg]
        | ok tags =>
          cases hvt : v1ParseVersionTags pat tags with
          | error e => cmd_simp [liftV1, hle, hg, hvt]
          | ok vts => by_cases hm : vts.contains new = true <;> cmd_simp [liftV1, hle, hg, hvt, hm] <;> simp_all

/-- without `unique` nothing is asked of the VCS and the state is untouched: the verdict of `BV.gate` -/
theorem TieL.cmdIsValidVersion_not_unique (today : Date) (pat old new : Str) (hp : isNewPattern pat = true)
    (ce : CmdEnv) (s : CState) :
    GenL.isValidVersion today pat old new false ce s
      = (s, ofV2 ((gate pat old new false [] today).map GateVerdict.toBool)) := by
  rw [tie_cmdIsValidVersion_new today pat old new false hp]
  unfold gateCmd
  cases gate pat old new false [] today with
  | error e => rfl
  | ok v => cases v <;> rfl

/-- the link to the model's full gate: when the tag listing succeeds with `tags`, the answer is the verdict of
    `gate pat old new unique tags` -/
theorem TieL.gate_split (today : Date) (pat old new : Str) (unique : Bool) (tags : List Str) :
    gate pat old new unique tags today =
      (match gate pat old new false [] today with
       | .error e => .error e
       | .ok .accept =>
         if unique then
           (match parseVersionTags pat today tags with
            | .error e => .error e
            | .ok vts => if vts.contains new then .ok .rejectNotUnique else .ok .accept)
         else .ok .accept
       | .ok v => .ok v) := by
  unfold gate
  cases parseVersionInfo new pat today with
  | error e => cases e <;> rfl
  | ok vi =>
    by_cases hle : pepLe new old = true
    · simp [hle]
    · cases unique <;> simp [hle]
      cases parseVersionTags pat today tags <;> rfl

end BV
