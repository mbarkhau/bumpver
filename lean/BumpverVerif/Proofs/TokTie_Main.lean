/-
  Proofs/TokTie_Main.lean — the string level of the tie: under `tokSafe` the string surgery of
  `_compile_pattern_re` produces the structural regex source (`compileStr_text`).
-/
import BumpverVerif.Proofs.TokTie_Items
import BumpverVerif.Proofs.TokTie_Iter
namespace BV

theorem orderOk_split (pp pp1 pp2 : List (Str × Str)) (e : Str × Str) (h : orderOk pp = true)
    (hs : pp = pp1 ++ e :: pp2) :
    ∀ e' ∈ pp1, ¬ (isInfix e'.1 e.1 = true ∧ fieldOf e'.1 = fieldOf e.1) := by
  induction pp1 generalizing pp with
  | nil => intro e' he'; cases he'
  | cons a pp1' ih =>
    subst hs
    simp only [List.cons_append, orderOk, Bool.and_eq_true, List.all_eq_true] at h
    intro e' he'
    rcases List.mem_cons.mp he' with r | r
    · subst r
      have := h.1 e (by simp)
      rintro ⟨q1, q2⟩
      simp [q1, q2] at this
    · exact ih _ h.2 rfl e' r

theorem lookup_split {α} (n : Str) (l : List (Str × α)) (v : α) (h : lookup n l = some v) :
    ∃ l1 l2, l = l1 ++ (n, v) :: l2 ∧ ∀ e' ∈ l1, e'.1 ≠ n := by
  induction l with
  | nil => simp [lookup] at h
  | cons e l ih =>
    obtain ⟨k, w⟩ := e
    simp only [lookup] at h
    by_cases hk : n = k
    · subst hk
      simp only [if_true, Option.some.injEq] at h
      subst h
      exact ⟨[], l, rfl, fun _ h => by cases h⟩
    · simp only [hk, if_false] at h
      obtain ⟨l1, l2, e1, e2⟩ := ih h
      refine ⟨(k, w) :: l1, l2, by rw [e1]; rfl, ?_⟩
      intro e' he'
      rcases List.mem_cons.mp he' with r | r
      · subst r; exact fun e => hk e.symm
      · exact e2 e' r

/-! ### general list facts -/

theorem inj_of_nodup_map {α β} (f : α → β) (l : List α) (h : (l.map f).Nodup) :
    ∀ a ∈ l, ∀ b ∈ l, f a = f b → a = b :=
  have hp := List.pairwise_map.mp h
  List.Pairwise.forall_of_forall_of_flip (R := fun a b => f a = f b → a = b) (fun _ _ _ => rfl)
    (hp.imp fun hne e => absurd e hne) (hp.imp fun hne e => absurd e.symm hne)

theorem pairwise_trichotomy {α} (R : α → α → Prop) (l : List α) (h : l.Pairwise R) :
    ∀ a ∈ l, ∀ b ∈ l, a = b ∨ R a b ∨ R b a :=
  List.Pairwise.forall_of_forall_of_flip (R := fun a b => a = b ∨ R a b ∨ R b a) (fun _ _ => .inl rfl)
    (h.imp fun r => .inr (.inl r)) (h.imp fun r => .inr (.inr r))

theorem nodup_of_nodupStr (l : List Str) (h : nodupStr l = true) : l.Nodup := by
  induction l with
  | nil => exact List.nodup_nil
  | cons x xs ih =>
    simp only [nodupStr, Bool.and_eq_true, Bool.not_eq_true', List.contains_eq_mem, decide_eq_false_iff_not] at h
    exact List.nodup_cons.mpr ⟨h.1, ih h.2⟩

theorem prefix_eq_of_length {a b X : Str} (ha : a.isPrefixOf X = true) (hb : b.isPrefixOf X = true)
    (hl : a.length = b.length) : a = b := by
  have h1 := List.isPrefixOf_iff_prefix.mp ha
  have h2 := List.isPrefixOf_iff_prefix.mp hb
  have := List.prefix_of_prefix_length_le h1 h2 (Nat.le_of_eq hl)
  exact this.eq_of_length hl

/-! ### items of `iterPartPatterns` -/

theorem iter_sound (pp pf : List (Str × Str)) (G : Str) :
    ∀ x ∈ iterPartPatterns pp pf G, ∃ e ∈ pp, x.name = e.1 ∧ x.stop = x.start + e.1.length ∧
      x.start ∈ findAllFrom e.1 (G.length + 1) 0 G ∧ e.1.isPrefixOf (G.drop x.start) = true := by
  intro x hx
  rw [iterPartPatterns_eq] at hx
  obtain ⟨o, ho, h1, h2, h3⟩ := goParts_shape pf [] _ x hx
  obtain ⟨e, he, e1, e2, e3⟩ := mem_occsOf ho
  refine ⟨e, he, by rw [h3, e1], by rw [h2, h1, e1], by rw [h1]; exact e3, ?_⟩
  have := (findAllFrom_sound e.1 (G.length + 1) 0 G _ e3).2
  rw [h1]
  simpa using this

theorem occs_keys_nodup (pp : List (Str × Str)) (G : Str) (h : (pp.map (·.1)).Nodup) :
    ((occsOf pp G).map (fun o => (o.1, o.2.2))).Nodup := by
  induction pp with
  | nil => simp [occsOf]
  | cons e pp ih =>
    rw [List.map_cons, List.nodup_cons] at h
    have : occsOf (e :: pp) G = occsOfEntry G e ++ occsOf pp G := by simp [occsOf]
    rw [this, List.map_append, List.nodup_append]
    refine ⟨?_, ih h.2, ?_⟩
    · simp only [occsOfEntry, List.map_map]
      have hnd := findAllFrom_nodup e.1 (G.length + 1) 0 G
      exact List.pairwise_map.mpr (hnd.imp fun hne e => hne (by simpa using e))
    · intro a ha b hb
      simp only [occsOfEntry, List.map_map, List.mem_map, Function.comp] at ha
      obtain ⟨st, -, rfl⟩ := ha
      obtain ⟨o, ho, rfl⟩ := List.mem_map.mp hb
      obtain ⟨e', he', e1, -, -⟩ := mem_occsOf ho
      intro heq
      have : e.1 = o.1 := congrArg Prod.fst heq
      apply h.1
      rw [this, e1]
      exact List.mem_map_of_mem he'

theorem iter_unique (pp pf : List (Str × Str)) (G : Str) (h : (pp.map (·.1)).Nodup) :
    ∀ x ∈ iterPartPatterns pp pf G, ∀ y ∈ iterPartPatterns pp pf G,
      x.name = y.name → x.start = y.start → x = y := by
  intro x hx y hy hn hs
  rw [iterPartPatterns_eq] at hx hy
  have hk := goParts_keys pf [] (occsOf pp G)
  have hnd := occs_keys_nodup pp G h
  rw [← hk] at hnd
  exact inj_of_nodup_map _ _ hnd x hx y hy (by simp [hn, hs])

/-! ### names of items and parts of the tree -/

def itemNames : List Item → List Str
  | [] => []
  | .raw _ :: r => itemNames r
  | .tok n :: r => n :: itemNames r

theorem itemNames_append (a b : List Item) : itemNames (a ++ b) = itemNames a ++ itemNames b := by
  induction a with
  | nil => rfl
  | cons x r ih => cases x <;> simp [itemNames, ih]

theorem itemNames_items (p : Pat) : itemNames p.items = p.parts := by
  induction p with
  | done => rfl
  | lit c rest ih => simp [Pat.items, itemNames, Pat.parts, ih]
  | part n rest ih => simp [Pat.items, itemNames, Pat.parts, ih]
  | opt body rest ihb ihr => simp [Pat.items, itemNames, itemNames_append, Pat.parts, ihb, ihr]

theorem toks_names (items : List Item) (off : Nat) : (toks off items).map (·.name) = itemNames items := by
  induction items generalizing off with
  | nil => rfl
  | cons x r ih => cases x <;> simp [toks, itemNames, ih, plainTok]

theorem parts_ok (p : Pat) (h : p.shapeOk = true) :
    ∀ n ∈ p.parts, (lookup n Gen.partPatterns).isSome = true ∧ (lookup n Gen.partFields).isSome = true := by
  induction p with
  | done => intro n hn; cases hn
  | lit c rest ih =>
    simp only [Pat.shapeOk, Bool.and_eq_true] at h
    exact ih h.2
  | part m rest ih =>
    simp only [Pat.shapeOk, Bool.and_eq_true] at h
    intro n hn
    rcases List.mem_cons.mp hn with r | r
    · subst r; exact h.1
    · exact ih h.2 n r
  | opt body rest ihb ihr =>
    simp only [Pat.shapeOk, Bool.and_eq_true] at h
    intro n hn
    rcases List.mem_append.mp hn with r | r
    · exact ihb h.1.2 n r
    · exact ihr h.2 n r

theorem filterMap_lookup_eq (l : List Str) (h : ∀ n ∈ l, (lookup n Gen.partFields).isSome = true) :
    l.filterMap (fun n => lookup n Gen.partFields) = l.map fieldOf := by
  induction l with
  | nil => rfl
  | cons n l ih =>
    have hn := h n List.mem_cons_self
    cases hl : lookup n Gen.partFields with
    | none => rw [hl] at hn; cases hn
    | some f =>
      rw [List.filterMap_cons, hl, List.map_cons, ih (fun m hm => h m (List.mem_cons_of_mem _ hm))]
      simp [fieldOf, hl]

theorem fields_eq (p : Pat) (h : p.shapeOk = true) : p.fields = p.parts.map fieldOf :=
  filterMap_lookup_eq p.parts (fun n hn => (parts_ok p h n hn).2)

/-! ### the tie at string level -/

structure Ctx (p : Pat) : Prop where
  sh : p.shapeOk = true
  safe : safeItemsK p.items []
  nd : nodupStr p.fields = true
  inner : p.parts.all (innerOk p.fields) = true

theorem ctx_of_tokSafe (p : Pat) (h : tokSafe p = true) : Ctx p := by
  simp only [tokSafe, Bool.and_eq_true] at h
  exact ⟨h.1.1.1, safeItems_of_safeK p [] [] h.1.1.1 rfl h.1.1.2, h.1.2, h.2⟩

theorem tok_name_mem {p : Pat} (c : Ctx p) {t : PosPart} (ht : t ∈ toks 0 p.items) :
    t.name ∈ p.parts ∧ t.name ∈ partNames := by
  have h1 : t.name ∈ p.parts := by
    rw [← itemNames_items, ← toks_names p.items 0]
    exact List.mem_map_of_mem ht
  exact ⟨h1, mem_partNames_of_lookup (parts_ok p c.sh _ h1).1⟩

theorem tok_field_inj {p : Pat} (c : Ctx p) :
    ∀ t1 ∈ toks 0 p.items, ∀ t2 ∈ toks 0 p.items, fieldOf t1.name = fieldOf t2.name → t1 = t2 := by
  have hnd := nodup_of_nodupStr _ c.nd
  rw [fields_eq p c.sh, ← itemNames_items, ← toks_names p.items 0, List.map_map] at hnd
  exact inj_of_nodup_map _ _ hnd

/-- every occurrence of a part name in `gtext` lies inside a token, hence inside its name -/
theorem occ_in_token {p : Pat} (c : Ctx p) {m : Str} (hm : m ∈ partNames) {i : Nat}
    (hp : m.isPrefixOf (p.gtext.drop i) = true) :
    ∃ t ∈ toks 0 p.items, t.start ≤ i ∧ i + m.length ≤ t.stop ∧ m.isPrefixOf (t.name.drop (i - t.start)) = true := by
  have hlen := prefix_drop_lt (name_ne_nil hm) hp
  have h0 : 0 < m.length := List.length_pos_iff.mpr (name_ne_nil hm)
  have := occ_inside p.items [] 0 c.safe i (by rw [srcAll_items]; omega) m hm
    (by rw [List.append_nil, srcAll_items]; exact hp)
  simpa using this

/-- every token is found by `_iter_part_patterns`, with the plain group name -/
theorem tok_in_iter {p : Pat} (c : Ctx p) {t : PosPart} (ht : t ∈ toks 0 p.items) :
    t ∈ iterPartPatterns Gen.partPatterns Gen.partFields p.gtext := by
  obtain ⟨hpart, hname⟩ := tok_name_mem c ht
  obtain ⟨-, f2, -, -, f5, f6⟩ := toks_facts p.items 0 t ht
  rw [srcAll_items, Nat.sub_zero] at f6
  have hne := name_ne_nil hname
  -- the table entry
  cases hl : lookup t.name Gen.partPatterns with
  | none => have := (parts_ok p c.sh _ hpart).1; rw [hl] at this; cases this
  | some rx =>
    obtain ⟨pp1, pp2, hsplit, hpp1⟩ := lookup_split _ _ _ hl
    -- the token is found by the scan for its name
    have hfound : t.start ∈ findAllFrom t.name (p.gtext.length + 1) 0 p.gtext := by
      have := findAllFrom_complete t.name hne (p.gtext.length + 1) 0 p.gtext t.start (Nat.lt_succ_self _) f6 ?_
      · simpa using this
      · intro j' hj' hp'
        obtain ⟨t', ht', a1, a2, -⟩ := occ_in_token c hname hp'
        have f2' := (toks_facts p.items 0 t' ht').2.1
        rcases pairwise_trichotomy _ _ (toks_pairwise p.items 0) t' ht' t ht with e | e | e
        · subst e; omega
        · omega
        · have h0 : 0 < t.name.length := List.length_pos_iff.mpr hne
          omega
    obtain ⟨S1, S2, hS1, hocc⟩ := occsOf_split pp1 pp2 (t.name, rx) p.gtext t.start hfound
    rw [iterPartPatterns_eq, hsplit, hocc]
    have hplain : plainOf Gen.partFields (t.name, rx, t.start) = t := by
      rw [f5]
      simp [plainOf, plainTok, groupText, occField, fieldOf, rxOf, hl]
    rw [← hplain]
    apply goParts_plain
    -- no earlier occurrence has the token's field
    intro o' ho' hfe
    have hfe' : fieldOf o'.1 = fieldOf t.name := hfe
    -- o' is a sound occurrence
    have ho'occ : o' ∈ occsOf Gen.partPatterns p.gtext := by
      rw [hsplit, hocc]
      exact List.mem_append_left _ ho'
    obtain ⟨e', he', e1, -, e3⟩ := mem_occsOf ho'occ
    have hm : o'.1 ∈ partNames := by rw [e1]; exact List.mem_map_of_mem he'
    have hp' : o'.1.isPrefixOf (p.gtext.drop o'.2.2) = true := by
      have := (findAllFrom_sound e'.1 (p.gtext.length + 1) 0 p.gtext _ e3).2
      rw [e1]; simpa using this
    obtain ⟨t', ht', a1, a2, hinf⟩ := occ_in_token c hm hp'
    obtain ⟨hpart', hname'⟩ := tok_name_mem c ht'
    have f2' := (toks_facts p.items 0 t' ht').2.1
    -- where o' comes from
    have hsrc : (o'.1 ≠ t.name ∧ ∃ e'' ∈ pp1, e''.1 = o'.1) ∨ (o'.1 = t.name ∧ o'.2.2 ≠ t.start) := by
      rcases List.mem_append.mp ho' with r | r
      · obtain ⟨e'', he'', q1, -, -⟩ := mem_occsOf r
        exact Or.inl ⟨fun e => hpp1 e'' he'' (by rw [← q1, e]), e'', he'', q1.symm⟩
      · obtain ⟨s, hs, rfl⟩ := List.mem_map.mp r
        exact Or.inr ⟨rfl, (hS1 s hs).2⟩
    by_cases hmn : o'.1 = t'.name
    · -- o' is the token t' itself
      have hst : o'.2.2 = t'.start := by rw [hmn] at a2; omega
      have : t' = t := tok_field_inj c t' ht' t ht (by rw [← hmn]; exact hfe')
      subst this
      rcases hsrc with ⟨h1, -⟩ | ⟨-, h2⟩
      · exact h1 hmn
      · exact h2 hst
    · -- o' lies properly inside t'
      have hin := List.all_eq_true.mp (List.all_eq_true.mp c.inner t'.name hpart') o'.1 hm
      have hinfix := isInfix_of_prefix_drop hinf
      have hfin : (p.fields.contains (fieldOf o'.1)) = true := by
        rw [fields_eq p c.sh, hfe']
        simpa using List.mem_map_of_mem hpart
      simp only [hinfix, hfin, Bool.not_true, Bool.or_false, Bool.or_eq_true, beq_iff_eq] at hin
      have hf' : fieldOf o'.1 = fieldOf t'.name := by
        rcases hin with r | r
        · exact absurd r hmn
        · exact r
      have : t' = t := tok_field_inj c t' ht' t ht (by rw [← hf']; exact hfe')
      subst this
      rcases hsrc with ⟨-, e'', he'', q⟩ | ⟨h1, -⟩
      · exact orderOk_split _ pp1 pp2 (t'.name, rx) tbl_order hsplit e'' he''
          ⟨by rw [q]; exact hinfix, by rw [q]; exact hf'⟩
      · exact hmn h1

/-- items with the same key are the same item -/
theorem iter_key_unique {p : Pat} :
    ∀ x ∈ iterPartPatterns Gen.partPatterns Gen.partFields p.gtext,
    ∀ y ∈ iterPartPatterns Gen.partPatterns Gen.partFields p.gtext,
      x.stop = y.stop → x.name.length = y.name.length → x = y := by
  intro x hx y hy hs hl
  obtain ⟨e1, -, n1, s1, -, p1⟩ := iter_sound _ _ _ x hx
  obtain ⟨e2, -, n2, s2, -, p2⟩ := iter_sound _ _ _ y hy
  have hst : x.start = y.start := by rw [n1] at hl; rw [n2] at hl; omega
  have hn : x.name = y.name := by
    rw [n1, n2]
    rw [hst] at p1
    exact prefix_eq_of_length p1 p2 (by rw [← n1, ← n2]; exact hl)
  exact iter_unique _ _ _ tbl_names.2.1 x hx y hy hn hst

/-- STRING LEVEL: part substitution on `gtext` gives the structural regex source -/
theorem substParts_gtext (p : Pat) (c : Ctx p) :
    substParts p.gtext (sortParts (iterPartPatterns Gen.partPatterns Gen.partFields p.gtext)) = p.regexText := by
  rw [substParts_eq, ← outAll_items, ← foldl_toks_reverse, srcAll_items]
  congr 1
  apply subst_skip
  · exact sortParts_sorted _
  · intro x hx
    obtain ⟨e, -, n1, s1, -, -⟩ := iter_sound _ _ _ x (mem_sortParts hx)
    rw [s1, n1]
  · exact List.pairwise_reverse.mpr (toks_pairwise p.items 0)
  · intro t ht
    have ht' := List.mem_reverse.mp ht
    obtain ⟨-, f2, -⟩ := toks_facts p.items 0 t ht'
    have h0 : 0 < t.name.length := List.length_pos_iff.mpr (name_ne_nil (tok_name_mem c ht').2)
    exact ⟨by omega, f2⟩
  · intro t ht
    obtain ⟨-, -, f3, -⟩ := toks_facts p.items 0 t (List.mem_reverse.mp ht)
    rw [srcAll_items] at f3
    omega
  · intro t ht
    have ht' := List.mem_reverse.mp ht
    have hin := tok_in_iter c ht'
    exact mem_sortParts_of_mem hin (fun y hy hk => by
      rw [keyEq_iff] at hk
      exact iter_key_unique y hy t hin hk.1 hk.2)
  · intro x hx
    have hxi := mem_sortParts hx
    obtain ⟨e, he, n1, s1, -, p1⟩ := iter_sound _ _ _ x hxi
    have hm : e.1 ∈ partNames := List.mem_map_of_mem he
    obtain ⟨t, ht, a1, a2, -⟩ := occ_in_token c hm p1
    obtain ⟨-, f2, -⟩ := toks_facts p.items 0 t ht
    have h0 : 0 < e.1.length := List.length_pos_iff.mpr (name_ne_nil hm)
    by_cases hsame : x.start = t.start ∧ x.stop = t.stop
    · left
      have hin := tok_in_iter c ht
      have hxl : x.name.length = e.1.length := by rw [n1]
      have : x = t := iter_key_unique x hxi t hin hsame.2 (by omega)
      rw [this]
      exact List.mem_reverse.mpr ht
    · right; right
      refine ⟨t, List.mem_reverse.mpr ht, ?_, a1, by omega, by omega⟩
      intro e'
      apply hsame
      rw [e']
      exact ⟨rfl, rfl⟩

/-- STRING LEVEL of the tie: `_compile_pattern_re`'s string surgery on the source text of a `tokSafe` tree
    produces exactly the structural regex source -/
theorem compileStr_text (p : Pat) (h : tokSafe p = true) : compileStr p.text = p.regexText := by
  have c := ctx_of_tokSafe p h
  have hb := escape_brackets_text p c.sh
  simp only at hb
  simp only [compileStr, compileStrWith, replacePatternParts, hb]
  exact substParts_gtext p c

end BV
