/-
  Proofs/Tie_pepLegacy.lean — the definitions GENERATED from the Python source of `_parse_version_parts`,
  `_legacy_cmpkey`, `LegacyVersion.__init__` and `LegacyVersion.__str__` (Gen/F_pepParseVersionParts.lean,
  F_pepLegacyCmpkey.lean, F_pepLegacyInit.lean, F_pepLegacyStr.lean) against the hand model's `parseVersionParts`,
  `legacyKeyParts` (Model/Pep440.lean, section 4).

  The regex `_legacy_version_component_re` is a trusted primitive: its `split` is the PARAMETER `legacy_split`.
  The model describes it by `legacyTokens` = "the NON-EMPTY items of `re.split`, in order"; hypothesis `hs` says
  exactly that about the parameter (the Python loop skips the empty items itself: `if not part … continue`).

  * `tie_pepParseVersionParts` : generated generator (as the list it yields) = `parseVersionParts`;
  * `tie_pepLegacyCmpkey`      : generated `_legacy_cmpkey(s)` = `(-1, legacyKeyParts s)` — the Python loop appends to
       `parts` and pops from its end, the model folds over the reversed list (`legacyStep`);
  * `tie_pepLegacyInit`, `tie_pepLegacyStr` : the object and its text.
-/
import BumpverVerif.Gen.F_pepLegacyInit
import BumpverVerif.Gen.F_pepLegacyStr
import BumpverVerif.Model.PepGroups
import BumpverVerif.Proofs.Digits
import BumpverVerif.Proofs.Basics
set_option linter.unusedSimpArgs false
namespace BV
namespace TieQ

theorem mem_of_isInfix_singleton (c : Char) (l : Str) (h : isInfix [c] l = true) : c ∈ l := by
  rwa [isInfix_singleton, List.contains_iff_mem] at h

theorem isInfix_digit (c : Char) : isInfix [c] "0123456789".toList = isDigit c := by
  by_cases h : isDigit c = true
  · have hall : ∀ d : Fin 10, isInfix [digitChar d.val] "0123456789".toList = true := by decide
    rw [h, ← digitChar_digitVal c h]
    exact hall ⟨_, digitVal_lt c h⟩
  · have hf : isDigit c = false := by simpa using h
    rw [hf]
    cases hi : isInfix [c] "0123456789".toList with
    | false => rfl
    | true =>
      have hm := mem_of_isInfix_singleton c _ hi
      have hd : ∀ d ∈ "0123456789".toList, isDigit d = true := by decide
      rw [hd c hm] at hf
      cases hf

/-- one element of the loop of `_parse_version_parts`, as the generated code computes it -/
def genPart (part0 : Str) : Option Str :=
  let part := (lookup part0 [("pre".toList, "c".toList), ("preview".toList, "c".toList), ("-".toList, "final-".toList),
    ("rc".toList, "c".toList), ("dev".toList, "@".toList)]).getD part0
  if ((!(!part.isEmpty)) || (part == ".".toList)) then none
  else if isInfix (List.take 1 part) "0123456789".toList then some (zfill 8 part) else some ("*".toList ++ part)

theorem genPart_eq (p : Str) : genPart p = legacyPart p := by
  have hr : (lookup p [("pre".toList, "c".toList), ("preview".toList, "c".toList), ("-".toList, "final-".toList),
      ("rc".toList, "c".toList), ("dev".toList, "@".toList)]).getD p = legacyReplace p := by
    simp only [lookup, legacyReplace]
    repeat' split
    all_goals first | rfl | simp_all
  simp only [genPart, legacyPart, hr]
  cases hq : legacyReplace p with
  | nil => simp
  | cons c cs =>
    simp only [List.isEmpty_cons, Bool.not_false, Bool.not_true, Bool.false_or, beq_iff_eq, Bool.or_eq_true,
      Bool.false_eq_true, false_or, List.take_succ_cons, List.take_zero, isInfix_digit]
    have hstar : "*".toList = ['*'] := rfl
    by_cases h1 : c :: cs = ['.']
    · have h2 : c :: cs = ".".toList := h1
      simp [h1, h2]
    · have h2 : ¬ c :: cs = ".".toList := h1
      cases isDigit c <;> simp [h1, h2, hstar]

theorem foldl_append_opt {α β : Type} (f : β → Option α) (xs : List β) (init : List α) :
    List.foldl (fun acc x => acc ++ (f x).toList) init xs = init ++ xs.filterMap f := by
  induction xs generalizing init with
  | nil => simp
  | cons x xs ih =>
    simp only [List.foldl_cons, ih, List.filterMap_cons]
    cases f x <;> simp

theorem filterMap_filter_nonempty {α : Type} (f : Str → Option α) (hf : f [] = none) (xs : List Str) :
    (xs.filter (fun p => !p.isEmpty)).filterMap f = xs.filterMap f := by
  induction xs with
  | nil => rfl
  | cons x xs ih =>
    cases x with
    | nil => simp [List.filter_cons, List.filterMap_cons, hf, ih]
    | cons c cs => simp [List.filter_cons, List.filterMap_cons, ih]

theorem popWhile_reverse {α : Type} (p : α → Bool) (acc : List α) :
    popWhile p acc.reverse = (acc.dropWhile p).reverse := by
  simp [popWhile]

end TieQ

/-- generated `_parse_version_parts` (the list it yields) = the model's `parseVersionParts` -/
theorem tie_pepParseVersionParts (legacy_split : Str → List Str) (s : Str)
    (hs : (legacy_split s).filter (fun p => !p.isEmpty) = legacyTokens s) :
    GenQ.pepParseVersionParts legacy_split s = parseVersionParts s := by
  simp only [GenQ.pepParseVersionParts]
  rw [foldl_congr _ (fun acc x => acc ++ (TieQ.genPart x).toList)]
  · rw [TieQ.foldl_append_opt, parseVersionParts, ← hs,
      TieQ.filterMap_filter_nonempty _ (by rfl)]
    have hg : TieQ.genPart = legacyPart := funext TieQ.genPart_eq
    simp only [List.nil_append, hg]
  · intro acc part
    simp only [TieQ.genPart]
    generalize (lookup part _).getD part = p
    -- whatever Boolean shape the Python gives the two tests: decide them, then both sides are literal lists
    generalize isInfix (List.take 1 p) "0123456789".toList = b3
    generalize (p == ".".toList) = b2
    generalize zfill 8 p = z
    generalize "*".toList ++ p = st
    generalize p.isEmpty = b1
    cases b1 <;> cases b2 <;> cases b3 <;> simp

/-- generated `_legacy_cmpkey(s)` = `(-1, legacyKeyParts s)` -/
theorem tie_pepLegacyCmpkey (legacy_split : Str → List Str) (s : Str)
    (hs : (legacy_split (lowerStr s)).filter (fun p => !p.isEmpty) = legacyTokens (lowerStr s)) :
    GenQ.pepLegacyCmpkey legacy_split s = (-1, legacyKeyParts s) := by
  simp only [GenQ.pepLegacyCmpkey, tie_pepParseVersionParts legacy_split (lowerStr s) hs, legacyKeyParts]
  congr 1
  have key : ∀ (xs : List Str) (acc : List Str),
      List.foldl (fun acc part => (legacyStep acc.reverse part).reverse) acc.reverse xs
        = (List.foldl legacyStep acc xs).reverse := by
    intro xs
    induction xs with
    | nil => intro acc; rfl
    | cons x xs ih =>
      intro acc
      simp only [List.foldl_cons, List.reverse_reverse]
      exact ih _
  rw [foldl_congr _ (fun acc part => (legacyStep acc.reverse part).reverse)]
  · exact key _ []
  · intro acc part
    have hsw : startsWith part "*".toList = (part.head? == some '*') := by
      cases part with
      | nil => rfl
      | cons c cs =>
        have h1 : "*".toList = ['*'] := rfl
        simp only [startsWith, h1, List.isPrefixOf, Bool.and_true, List.head?_cons]
        by_cases hc : c = '*'
        · subst hc; rfl
        · have h2 : ('*' == c) = false := by simpa using fun h => hc h.symm
          have h3 : (some c == some '*') = false := by simpa using hc
          rw [h2, h3]
    simp only [hsw, legacyStep, popWhile, List.reverse_reverse]
    generalize "*final".toList = F1
    generalize "*final-".toList = F2
    generalize "00000000".toList = Z
    by_cases h1 : part.head? = some '*'
    · have h1' : (part.head? == some '*') = true := by simp [h1]
      simp only [h1, h1', if_true, beq_self_eq_true]
      by_cases h2 : strLt part F1 = true
      · simp only [h2, if_true, List.reverse_reverse, List.reverse_cons]
      · simp only [h2, if_false, List.reverse_reverse, List.reverse_cons, Bool.false_eq_true]
    · have h1' : (part.head? == some '*') = false := by simp [h1]
      simp only [h1, h1', if_false, List.reverse_cons, Bool.false_eq_true, List.reverse_reverse]

/-- generated `LegacyVersion.__init__` -/
theorem tie_pepLegacyInit (legacy_split : Str → List Str) (s : Str)
    (hs : (legacy_split (lowerStr s)).filter (fun p => !p.isEmpty) = legacyTokens (lowerStr s)) :
    GenQ.pepLegacyInit legacy_split s = { _version := s, _key := (-1, legacyKeyParts s) } := by
  simp only [GenQ.pepLegacyInit, tie_pepLegacyCmpkey legacy_split s hs]

/-- generated `LegacyVersion.__str__`: the original text -/
theorem tie_pepLegacyStr (o : LegacyObj) : GenQ.pepLegacyStr o = o._version := rfl

/-- the FIRST component of every legacy key is `-1`, whatever the split primitive does -/
theorem tie_pepLegacyCmpkey_epoch (legacy_split : Str → List Str) (s : Str) :
    (GenQ.pepLegacyCmpkey legacy_split s).1 = -1 := rfl

end BV
