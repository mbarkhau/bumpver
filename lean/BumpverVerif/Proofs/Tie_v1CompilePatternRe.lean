/-
  Proofs/Tie_v1CompilePatternRe.lean — the definition GENERATED from `v1patterns._compile_pattern_re(normalized_pattern)`
  equals the hand model: the escape loop over `RE_PATTERN_ESCAPES` (every entry, in table order, sequential
  `str.replace`), then `_replace_pattern_parts`, then `re.compile`.

   * `tie_v1CompilePatternRe`        : for ALL tables (`escapes`, `parts` are parameters on both sides), provided no
       escape entry has an EMPTY character string — Python's `s.replace("", x)` inserts `x` between all characters,
       the model's `replaceAll` leaves `s` alone (the model documents that restriction);
   * `tie_v1CompilePatternRe_tables` : with the GENERATED tables the hypothesis holds (kernel-checked over the
       13 entries) and the result is the model's `v1CompileRe`.

  Callees: `_replace_pattern_parts` = model `v1ReplacePatternParts` (`tie_v1ReplacePatternParts`), `re.compile` = model
  `v1ReOfSrc` (`parseRe`, a group name defined twice is `re.error`; trusted primitive, by correspondence).
-/
import BumpverVerif.Proofs.Basics
import BumpverVerif.Gen.F_v1CompilePatternRe
import BumpverVerif.Proofs.TieV1Spec
namespace BV
open GenV1

theorem tie_v1CompilePatternRe (escapes parts : List (Str × Str)) (hesc : ∀ ce ∈ escapes, ce.1 ≠ [])
    (normalized : Str) :
    GenV1.v1CompilePatternRe normalized escapes parts = v1ReOfSrc (v1CompileStrWith escapes parts normalized) := by
  unfold GenV1.v1CompilePatternRe v1CompileStrWith v1EscapePattern
  dsimp only
  have hok : ∀ x : Except V1Err Re, Except.bind x (fun r => Except.ok r) = x := fun x => by cases x <;> rfl
  rw [hok]
  refine congrArg (fun p => v1ReOfSrc (v1ReplacePatternParts parts p)) ?_
  refine foldl_congr_mem _ _ escapes (fun ce hce a => ?_) normalized
  have hne : ce.1.isEmpty = false := by
    cases hc : ce.1 with
    | nil => exact absurd hc (hesc ce hce)
    | cons => rfl
  simp [pyReplace, hne]

/-- the generated escape table has no empty entry -/
theorem rePatternEscapes_nonempty : ∀ ce ∈ Gen.rePatternEscapes, ce.1 ≠ [] := by decide

theorem tie_v1CompilePatternRe_tables (normalized : Str) :
    GenV1.v1CompilePatternRe normalized Gen.rePatternEscapes Gen.v1PartPatterns = v1CompileRe normalized :=
  tie_v1CompilePatternRe _ _ rePatternEscapes_nonempty normalized

end BV
