/-
  Proofs/V1Compose.lean — THE COMPOSITION of the per-part facts of the LEGACY (`{…}`) engine over a
  whole pattern tree (Model/V1Tree.lean), and the way back through `_parse_pattern_groups` /
  `_parse_field_values`.

  `v1c_text_at`, `v1c_ok_at` : the entries of the table of supported parts (`v1c_partSpecs`), by position
  `v1c_part_head`    : every supported part, on every value of its domain: the part's regex consumes
                       exactly the rendered text as its FIRST success before every admissible continuation
                       (the calendar alternations through `headConsumes_of_fixed`, Proofs/ComposeLemmas.lean)
  `v1_compose_head`  : structural induction over the tree (first-character class analysis as in
                       Proofs/ComposeMain.lean)
  `v1_compose_match` : `re.match` on the rendered text: consumed in full, captures = the rendered parts
  Reading back (second half): `V1Ctx` bundles the hypotheses of the round trip; `v1c_fv` is what
  `_parse_pattern_groups` hands on, `v1c_rd v p f` what `int(fvals[f])` sees (`v1c_rd_generic` and one lemma per
  field); `v1c_core` is `_parse_field_values` after its reads, in three scenarios (`v1c_core_doy`, `v1c_core_ymd`,
  `v1c_core_pass`); `v1c_readback` reads the field values of the match as a record that agrees on every field
  shown (`V1FA`), `v1c_agree_of_fa` passes from fields to parts.
  `v1_roundtrip`     : the record read back agrees on every part, and renders to the same text
-/
import BumpverVerif.Model.V1Tree
import BumpverVerif.Proofs.ComposeMain
import BumpverVerif.Proofs.V1Lemmas
import BumpverVerif.Proofs.ReadBack
namespace BV

/-! ### general facts: `optIn`, `zfill`, `filterMap` over a table, `find?` in a table with distinct fields -/

theorem optIn_some (o : Option Nat) (lo hi : Nat) (h : optIn o lo hi = true) :
    ∃ x, o = some x ∧ lo ≤ x ∧ x ≤ hi := by
  cases o with
  | none => cases h
  | some x =>
    simp only [optIn, Bool.and_eq_true, decide_eq_true_eq] at h
    exact ⟨x, rfl, h.1, h.2⟩

theorem le_zfill_length (w : Nat) (s : Str) : w ≤ (zfill w s).length := by
  simp only [zfill, List.length_append, List.length_replicate]
  omega

theorem zfill_ne_nil (w : Nat) (s : Str) (h : s ≠ []) : zfill w s ≠ [] := by
  intro e
  simp only [zfill, List.append_eq_nil_iff] at e
  exact h e.2

theorem strToNat_zfill_natToStr (w x : Nat) : strToNat (zfill w (natToStr x)) = x := by
  rw [strToNat_zfill, strToNat_natToStr]

theorem map_strToNat_map (o : Option Nat) (fmt : Nat → Str) (h : ∀ x, strToNat (fmt x) = x) :
    (o.map fmt).map strToNat = o := by
  cases o with
  | none => rfl
  | some x => simp [h]

theorem filterMap_congr_fun {α β} (l : List α) (f g : α → Option β) (h : ∀ x, f x = g x) :
    l.filterMap f = l.filterMap g := by
  congr 1; funext x; exact h x

theorem filterMap_ite_keys {α} (c : Str × Str → Bool) (h : Str × Str → α) : ∀ (T : List (Str × Str)),
    (T.filterMap (fun pf => if c pf = true then some (pf.2, h pf) else none)).map (·.1) = (T.filter c).map (·.2) := by
  intro T
  induction T with
  | nil => rfl
  | cons pf T ih =>
    cases hc : c pf with
    | true => simp only [List.filterMap_cons, hc, ↓reduceIte, List.map_cons, List.filter_cons, ih]
    | false => simp only [List.filterMap_cons, hc, Bool.false_eq_true, ↓reduceIte, List.filter_cons, ih]

theorem lookup_filterMap_ite {α} (c : Str × Str → Bool) (h : Str × Str → α) (f : Str) : ∀ (T : List (Str × Str)),
    lookup f (T.filterMap (fun pf => if c pf = true then some (pf.2, h pf) else none)) =
      ((T.filter c).find? (fun pf => pf.2 == f)).map h := by
  intro T
  induction T with
  | nil => rfl
  | cons pf T ih =>
    cases hc : c pf with
    | true =>
      simp only [List.filterMap_cons, hc, ↓reduceIte, List.filter_cons, lookup, List.find?_cons]
      by_cases e : f = pf.2
      · subst e; simp
      · have : (pf.2 == f) = false := by rw [beq_eq_false_iff_ne]; exact fun x => e x.symm
        simp only [e, ↓reduceIte, this, ih]
    | false => simp only [List.filterMap_cons, hc, Bool.false_eq_true, ↓reduceIte, List.filter_cons, ih]

theorem nodup_of_count_le_one (l : List Str) (h : (l.any (fun f => decide (l.count f > 1))) = false) : l.Nodup := by
  rw [List.nodup_iff_count]
  intro a
  by_cases ha : a ∈ l
  · have := List.any_eq_false.mp h a ha
    simpa using this
  · rw [List.count_eq_zero_of_not_mem ha]; omega

/-- a table whose selected entries have distinct fields: the entry found for field `f` is THE entry -/
theorem find?_filter_unique (c : Str × Str → Bool) (n f : Str) : ∀ (T : List (Str × Str)),
    ((T.filter c).map (·.2)).Nodup → (n, f) ∈ T → c (n, f) = true →
    (T.filter c).find? (fun pf => pf.2 == f) = some (n, f) := by
  intro T
  induction T with
  | nil => intro _ h; cases h
  | cons pf T ih =>
    intro hnd hm hc
    cases hcp : c pf with
    | false =>
      simp only [List.filter_cons, hcp, Bool.false_eq_true, ↓reduceIte] at hnd ⊢
      rcases List.mem_cons.mp hm with e | hm'
      · rw [← e, hc] at hcp; cases hcp
      · exact ih hnd hm' hc
    | true =>
      simp only [List.filter_cons, hcp, ↓reduceIte, List.map_cons, List.nodup_cons] at hnd ⊢
      by_cases e : pf.2 = f
      · have : pf = (n, f) := by
          rcases List.mem_cons.mp hm with e' | hm'
          · exact e'.symm
          · exfalso
            apply hnd.1
            rw [e]
            exact List.mem_map.mpr ⟨(n, f), List.mem_filter.mpr ⟨hm', hc⟩, rfl⟩
        subst this
        simp
      · have hb : (pf.2 == f) = false := by rw [beq_eq_false_iff_ne]; exact e
        rw [List.find?_cons, hb]
        rcases List.mem_cons.mp hm with e' | hm'
        · subst e'; exact absurd rfl e
        · exact ih hnd.2 hm' hc

theorem v1HasKey_of_mem (k x : Str) : ∀ (l : List (Str × Str)), (k, x) ∈ l → v1HasKey k l = true := by
  intro l
  induction l with
  | nil => intro h; cases h
  | cons q l ih =>
    intro h
    obtain ⟨k', y⟩ := q
    unfold v1HasKey
    simp only [lookup]
    split
    · rfl
    · next hne =>
      rcases List.mem_cons.mp h with e | hm
      · simp only [Prod.mk.injEq] at e; exact absurd e.1 hne
      · exact ih hm

/-! ### the table of supported parts, entry by entry -/

/-- the part names of `v1c_partSpecs` are distinct, so the entry at position `i` is the one `lookup` finds -/
theorem v1c_specs_nodup : (v1c_partSpecs.map (·.1)).Nodup :=
  (nodupStr_iff _).mp (by decide +kernel)

theorem v1c_spec_at (i : Nat) {n : Str} {s : V1PartSpec} (h : v1c_partSpecs[i]? = some (n, s)) :
    lookup n v1c_partSpecs = some s :=
  lookup_of_mem_nodup v1c_specs_nodup (List.mem_of_getElem? h)

theorem v1c_text_at (i : Nat) {n : Str} {s : V1PartSpec} (h : v1c_partSpecs[i]? = some (n, s)) (v : V1Info) :
    v1c_partText v n = s.text v := by
  unfold v1c_partText
  rw [v1c_spec_at i h]

theorem v1c_ok_at (i : Nat) {n : Str} {s : V1PartSpec} (h : v1c_partSpecs[i]? = some (n, s)) (v : V1Info) :
    v1c_partOk v n = s.dom v := by
  unfold v1c_partOk
  rw [v1c_spec_at i h]

theorem v1c_pt_year (v : V1Info) : v1c_partText v "year".toList = v.year.map natToStr := v1c_text_at 0 rfl v
theorem v1c_pt_yyyy (v : V1Info) : v1c_partText v "yyyy".toList = v.year.map natToStr := v1c_text_at 1 rfl v
theorem v1c_pt_yy (v : V1Info) : v1c_partText v "yy".toList = v.year.map (fun y => last2 (natToStr y)) :=
  v1c_text_at 2 rfl v
theorem v1c_pt_quarter (v : V1Info) : v1c_partText v "quarter".toList = v.quarter.map natToStr := v1c_text_at 3 rfl v
theorem v1c_pt_month (v : V1Info) : v1c_partText v "month".toList = v.month.map (fun m => zfill 2 (natToStr m)) :=
  v1c_text_at 4 rfl v
theorem v1c_pt_month_short (v : V1Info) : v1c_partText v "month_short".toList = v.month.map natToStr :=
  v1c_text_at 5 rfl v
theorem v1c_pt_dom (v : V1Info) : v1c_partText v "dom".toList = v.dom.map (fun d => zfill 2 (natToStr d)) :=
  v1c_text_at 6 rfl v
theorem v1c_pt_doy (v : V1Info) : v1c_partText v "doy".toList = v.doy.map (fun d => zfill 3 (natToStr d)) :=
  v1c_text_at 7 rfl v
theorem v1c_pt_MAJOR (v : V1Info) : v1c_partText v "MAJOR".toList = some (natToStr v.major) := v1c_text_at 8 rfl v
theorem v1c_pt_MINOR (v : V1Info) : v1c_partText v "MINOR".toList = some (natToStr v.minor) := v1c_text_at 9 rfl v
theorem v1c_pt_PATCH (v : V1Info) : v1c_partText v "PATCH".toList = some (natToStr v.patch) := v1c_text_at 10 rfl v
theorem v1c_pt_MM (v : V1Info) : v1c_partText v "MM".toList = some (zfill 2 (natToStr v.minor)) :=
  v1c_text_at 11 rfl v
theorem v1c_pt_MMM (v : V1Info) : v1c_partText v "MMM".toList = some (zfill 3 (natToStr v.minor)) :=
  v1c_text_at 12 rfl v
theorem v1c_pt_MMMM (v : V1Info) : v1c_partText v "MMMM".toList = some (zfill 4 (natToStr v.minor)) :=
  v1c_text_at 13 rfl v
theorem v1c_pt_MMMMM (v : V1Info) : v1c_partText v "MMMMM".toList = some (zfill 5 (natToStr v.minor)) :=
  v1c_text_at 14 rfl v
theorem v1c_pt_PP (v : V1Info) : v1c_partText v "PP".toList = some (zfill 2 (natToStr v.patch)) :=
  v1c_text_at 15 rfl v
theorem v1c_pt_PPP (v : V1Info) : v1c_partText v "PPP".toList = some (zfill 3 (natToStr v.patch)) :=
  v1c_text_at 16 rfl v
theorem v1c_pt_PPPP (v : V1Info) : v1c_partText v "PPPP".toList = some (zfill 4 (natToStr v.patch)) :=
  v1c_text_at 17 rfl v
theorem v1c_pt_PPPPP (v : V1Info) : v1c_partText v "PPPPP".toList = some (zfill 5 (natToStr v.patch)) :=
  v1c_text_at 18 rfl v
theorem v1c_pt_build_no (v : V1Info) : v1c_partText v "build_no".toList = some v.bid := v1c_text_at 19 rfl v
theorem v1c_pt_bid (v : V1Info) : v1c_partText v "bid".toList = some v.bid := v1c_text_at 20 rfl v
theorem v1c_pt_BID (v : V1Info) : v1c_partText v "BID".toList = some (natToStr (strToNat v.bid)) :=
  v1c_text_at 21 rfl v
theorem v1c_pt_tag (v : V1Info) : v1c_partText v "tag".toList = some v.tag := v1c_text_at 22 rfl v
theorem v1c_po_year (v : V1Info) : v1c_partOk v "year".toList = optIn v.year 1000 9999 := v1c_ok_at 0 rfl v
theorem v1c_po_yyyy (v : V1Info) : v1c_partOk v "yyyy".toList = optIn v.year 1000 9999 := v1c_ok_at 1 rfl v
theorem v1c_po_yy (v : V1Info) : v1c_partOk v "yy".toList = optIn v.year 2000 2099 := v1c_ok_at 2 rfl v
theorem v1c_po_quarter (v : V1Info) : v1c_partOk v "quarter".toList = optIn v.quarter 1 4 := v1c_ok_at 3 rfl v
theorem v1c_po_month (v : V1Info) : v1c_partOk v "month".toList = optIn v.month 1 12 := v1c_ok_at 4 rfl v
theorem v1c_po_month_short (v : V1Info) : v1c_partOk v "month_short".toList = optIn v.month 1 12 := v1c_ok_at 5 rfl v
theorem v1c_po_dom (v : V1Info) : v1c_partOk v "dom".toList = optIn v.dom 1 31 := v1c_ok_at 6 rfl v
theorem v1c_po_doy (v : V1Info) : v1c_partOk v "doy".toList = optIn v.doy 1 366 := v1c_ok_at 7 rfl v
theorem v1c_po_build_no (v : V1Info) : v1c_partOk v "build_no".toList = v1c_bidOk v := v1c_ok_at 19 rfl v
theorem v1c_po_bid (v : V1Info) : v1c_partOk v "bid".toList = v1c_bidOk v := v1c_ok_at 20 rfl v
theorem v1c_po_BID (v : V1Info) : v1c_partOk v "BID".toList = (isDigitStr v.bid && decide (1 ≤ strToNat v.bid)) :=
  v1c_ok_at 21 rfl v
theorem v1c_po_tag (v : V1Info) : v1c_partOk v "tag".toList = v1c_tags.contains v.tag := v1c_ok_at 22 rfl v

theorem v1c_unsupported : ["dom_short", "doy_short", "BB", "BBB", "BBBB", "BBBBB", "BBBBBB", "BBBBBBB", "pep440_tag"].all (fun n => (lookup n.toList v1c_partSpecs).isNone) = true := by decide +kernel

theorem v1c_no_spec {n : String}
    (h : n ∈ ["dom_short", "doy_short", "BB", "BBB", "BBBB", "BBBBB", "BBBBBB", "BBBBBBB", "pep440_tag"])
    (hs : (lookup n.toList v1c_partSpecs).isSome = true) : False := by
  have hn := List.all_eq_true.mp v1c_unsupported n h
  rw [Option.isNone_iff_eq_none] at hn
  rw [hn] at hs
  cases hs

theorem v1c_tag_spec : (lookup "tag".toList v1c_partSpecs).isSome = true := by
  rw [v1c_spec_at 22 rfl]
  rfl

/-! ## The composition

  From the per-part lemma `v1c_part_head` (every supported part consumes exactly its rendered text) to
  `v1_compose_head` / `v1_compose_match`: the compiled tree consumes exactly the rendered record. -/

/-! ### per-part lemmas -/

/-- the first rendered character of a part: a lower-case letter for `{tag}`, a digit otherwise -/
def V1FirstOk (n t : Str) : Prop :=
  ∀ c, t.head? = some c → (if v1c_isTag n = true then isLower c else isDigit c) = true

/-- what the composition needs from one part: it renders to a non-empty text that the part's regex
    consumes exactly, as the FIRST success, before every admissible continuation
    (`nd = true`: the continuation must not start with a digit) -/
def V1Head (n : Str) (txt : Option Str) (nd : Bool) (rx : Re) : Prop :=
  ∃ t, txt = some t ∧ t ≠ [] ∧ V1FirstOk n t ∧
    ∀ k, (nd = true → NoDigitAhead k) → HeadConsumes rx t k

theorem v1c_firstOk_digits (n t : Str) (htag : v1c_isTag n = false) (hd : allDigits t = true) :
    V1FirstOk n t := by
  intro c hc
  rw [htag]
  cases t with
  | nil => cases hc
  | cons x xs =>
    simp only [List.head?_cons, Option.some.injEq] at hc
    subst hc
    rw [allDigits_cons] at hd
    simpa using hd.1

/-- `\d{min,}` on a digit run of at least `min` digits before a non-digit continuation -/
theorem v1c_hc_dRun (min : Nat) (ds k : Str) (hmin : min ≤ ds.length) (hd : allDigits ds = true)
    (hk : NoDigitAhead k) : HeadConsumes (.rep dCls min none) ds k := by
  intro st hst
  obtain ⟨st', tl, hm, hr, hc⟩ := mRep_digits_head k hk ds hd st.rest.length min st
    (by rw [hst]; simp) hmin hst
  refine ⟨st', ?_, hr, hc⟩
  simp only [Re.m, dCls_m_eq]
  rw [hm]; rfl

/-- `\d{n}` on exactly `n` digits, WHATEVER follows -/
theorem v1c_hc_dExact (ds k : Str) (hd : allDigits ds = true) :
    HeadConsumes (.rep dCls ds.length (some ds.length)) ds k := by
  intro st hst
  obtain ⟨st', tl, hm, hr, hc⟩ := mRep_digits_exact k ds hd st.rest.length st
    (by rw [hst]; simp) hst
  refine ⟨st', ?_, hr, hc⟩
  simp only [Re.m, dCls_m_eq]
  rw [hm]; rfl

/-- `[1-9]\d*` -/
theorem v1c_hc_posInt (c : Char) (ds k : Str) (hc : isDigit c = true) (h0 : c ≠ '0')
    (hd : allDigits ds = true) (hk : NoDigitAhead k) :
    HeadConsumes (.seq posDigitCls (.rep dCls 0 none)) (c :: ds) k := by
  intro st hst
  have hm : (Re.seq posDigitCls (.rep dCls 0 none)).m = (Re.seq posDigitCls (.rep digitCls 0 none)).m := by
    funext st
    simp only [Re.m, dCls_m_eq]
  rw [hm]
  exact hc_posInt c ds k hc h0 hd hk st hst

/-- enough for the regex `r` to consume exactly `t` before what may follow it: `r` is `\d{n}` and `t` is `n`
    digits; or `r` consumes `t` when alone and is of fixed width (`fw`, then anything may follow) or reads digits
    only (then a non-digit must follow) -/
def v1ConsumesCheck (r : Re) (t : Str) (fw : Bool) : Bool :=
  (decide (r = .rep dCls t.length (some t.length)) && allDigits t) ||
  (headRestNil r t && (if fw then fixedWidth r == some t.length else r.digitOnly))

theorem v1ConsumesCheck_headConsumes (r : Re) (t : Str) (fw : Bool) (h : v1ConsumesCheck r t fw = true) (k : Str)
    (hk : fw = true ∨ NoDigitAhead k) : HeadConsumes r t k := by
  simp only [v1ConsumesCheck, Bool.or_eq_true, Bool.and_eq_true, decide_eq_true_eq] at h
  rcases h with ⟨rfl, hd⟩ | ⟨hh, hw⟩
  · exact v1c_hc_dExact t k hd
  · cases fw with
    | true => exact headConsumes_of_fixed r t (by simpa using hw) hh k
    | false =>
      rcases hk with hk | hk
      · cases hk
      · exact headConsumes_of_digitOnly r (by simpa using hw) t hh k hk

/-- kernel check of one finite calendar part over its whole domain `lo..hi`: every rendered value is a non-empty
    digit string that the part's regex consumes in full as its FIRST success, in a way that extends to what follows
    (`v1ConsumesCheck`; `fw = false`: for the variable-width `{month_short}`, before a non-digit) -/
def v1c_finCheck (n : Str) (fmt : Nat → Str) (lo hi : Nat) (fw : Bool) : Bool :=
  match v1c_partRe n with
  | some rx =>
    (List.range (hi + 1)).all (fun x =>
      decide (x < lo) || (v1ConsumesCheck rx (fmt x) fw && !(fmt x).isEmpty && allDigits (fmt x)))
  | none => false

theorem v1c_fin_part (n : Str) (fmt : Nat → Str) (lo hi : Nat) (fw : Bool) (hchk : v1c_finCheck n fmt lo hi fw = true)
    (o : Option Nat) (hok : optIn o lo hi = true) (rx : Re) (hrx : v1c_partRe n = some rx)
    (htag : v1c_isTag n = false) : V1Head n (o.map fmt) (!fw) rx := by
  unfold v1c_finCheck at hchk
  rw [hrx] at hchk
  simp only [List.all_eq_true, List.mem_range, Bool.or_eq_true, Bool.and_eq_true,
    decide_eq_true_eq, Bool.not_eq_true', List.isEmpty_eq_false_iff] at hchk
  cases o with
  | none => cases hok
  | some x =>
    simp only [optIn, Bool.and_eq_true, decide_eq_true_eq] at hok
    rcases hchk x (by omega) with hlt | ⟨⟨hf, hne⟩, hd⟩
    · omega
    · refine ⟨fmt x, rfl, hne, v1c_firstOk_digits n _ htag hd, fun k hk => ?_⟩
      refine v1ConsumesCheck_headConsumes rx _ fw hf k ?_
      cases fw with
      | true => exact .inl rfl
      | false => exact .inr (hk rfl)

theorem v1c_exact_part (n : Str) (w : Nat) (hre : v1c_partRe n = some (.rep dCls w (some w))) (t : Str)
    (hd : allDigits t = true) (hlen : t.length = w) (hw : 0 < w) (rx : Re) (hrx : v1c_partRe n = some rx) (nd : Bool)
    (htag : v1c_isTag n = false) : V1Head n (some t) nd rx := by
  rw [hre] at hrx
  cases Option.some.inj hrx
  subst hlen
  refine ⟨t, rfl, fun e => ?_, v1c_firstOk_digits n _ htag hd, fun k _ => v1c_hc_dExact t k hd⟩
  rw [e] at hw
  cases hw

/-- `{year}` / `{yyyy}`: `\d{4}` / `str(y)`, 1000..9999 -/
theorem v1c_year_part (n : Str) (hre : v1c_partRe n = some (.rep dCls 4 (some 4))) (o : Option Nat)
    (hok : optIn o 1000 9999 = true) (rx : Re) (hrx : v1c_partRe n = some rx) (nd : Bool)
    (htag : v1c_isTag n = false) : V1Head n (o.map natToStr) nd rx := by
  obtain ⟨y, rfl, h1, h2⟩ := optIn_some o _ _ hok
  exact v1c_exact_part n 4 hre _ (allDigits_natToStr y) (natToStr_length_eq 3 y (by omega) (by omega)) (by omega)
    rx hrx nd htag

/-- two-digit years: the last two characters of `str(y)` for 2000..2099 are two digits that read
    back (with the `+ 2000` rule) as `y` -/
theorem v1c_yy_table : (List.range 100).all (fun i =>
    (last2 (natToStr (2000 + i))).length == 2 && allDigits (last2 (natToStr (2000 + i))) &&
    (strToNat (last2 (natToStr (2000 + i))) == i)) = true := by
  decide +kernel

theorem v1c_yy_facts (y : Nat) (h1 : 2000 ≤ y) (h2 : y ≤ 2099) :
    (last2 (natToStr y)).length = 2 ∧ allDigits (last2 (natToStr y)) = true ∧
    strToNat (last2 (natToStr y)) + 2000 = y := by
  have h := v1c_yy_table
  simp only [List.all_eq_true, List.mem_range, Bool.and_eq_true, beq_iff_eq] at h
  have := h (y - 2000) (by omega)
  have e : 2000 + (y - 2000) = y := by omega
  rw [e] at this
  exact ⟨this.1.1, this.1.2, by omega⟩

/-- `{yy}`: `\d{2}` / `str(y)[-2:]`, 2000..2099 -/
theorem v1c_yy_part (n : Str) (hre : v1c_partRe n = some (.rep dCls 2 (some 2))) (o : Option Nat)
    (hok : optIn o 2000 2099 = true) (rx : Re) (hrx : v1c_partRe n = some rx) (nd : Bool)
    (htag : v1c_isTag n = false) : V1Head n (o.map (fun y => last2 (natToStr y))) nd rx := by
  obtain ⟨y, rfl, h1, h2⟩ := optIn_some o _ _ hok
  obtain ⟨hlen, hd, _⟩ := v1c_yy_facts y h1 h2
  exact v1c_exact_part n 2 hre _ hd hlen (by omega) rx hrx nd htag

/-- `\d{min,}` families (`\d+` for MAJOR/MINOR/PATCH, `\d{w,}` for the zero-padded MM…/PP…,
    `\d{4,}` for the ids): a digit string of at least `min` digits before a non-digit -/
theorem v1c_run_part (n : Str) (min : Nat) (hre : v1c_partRe n = some (.rep dCls min none)) (t : Str)
    (hne : t ≠ []) (hd : allDigits t = true) (hmin : min ≤ t.length) (rx : Re)
    (hrx : v1c_partRe n = some rx) (htag : v1c_isTag n = false) : V1Head n (some t) true rx := by
  rw [hre] at hrx
  have hrx := (Option.some.inj hrx).symm
  subst hrx
  exact ⟨t, rfl, hne, v1c_firstOk_digits n _ htag hd, fun k hk => v1c_hc_dRun min t k hmin hd (hk rfl)⟩

theorem v1c_hc_posNat (x : Nat) (hpos : 1 ≤ x) (k : Str) (hk : NoDigitAhead k) :
    HeadConsumes (.seq posDigitCls (.rep dCls 0 none)) (natToStr x) k := by
  have hd := allDigits_natToStr x
  have hh := natToStr_head_ne_zero x (by omega)
  have hne := natToStr_ne_nil x
  generalize natToStr x = s at hd hh hne
  cases s with
  | nil => exact absurd rfl hne
  | cons c t =>
    rw [allDigits_cons] at hd
    exact v1c_hc_posInt c t k hd.1 (hh c t rfl) hd.2 hk

/-- `{BID}`: `[1-9]\d*` / `str(int(bid))`, only for a non-zero id -/
theorem v1c_BID_part (x : Nat) (hpos : 1 ≤ x)
    (hre : v1c_partRe "BID".toList = some (.seq posDigitCls (.rep dCls 0 none))) (rx : Re)
    (hrx : v1c_partRe "BID".toList = some rx) : V1Head "BID".toList (some (natToStr x)) true rx := by
  rw [hre] at hrx
  cases Option.some.inj hrx
  exact ⟨natToStr x, rfl, natToStr_ne_nil _, v1c_firstOk_digits _ _ (by decide) (allDigits_natToStr _),
    fun k hk => v1c_hc_posNat x hpos k (hk rfl)⟩

/-! ### the shapes of the regenerated table -/

theorem v1c_re_year :
    v1c_partRe "year".toList = some (.rep dCls 4 (some 4)) ∧
    v1c_partRe "yyyy".toList = some (.rep dCls 4 (some 4)) ∧
    v1c_partRe "yy".toList = some (.rep dCls 2 (some 2)) := by
  decide +kernel

theorem v1c_re_nat :
    v1c_partRe "MAJOR".toList = some (.rep dCls 1 none) ∧
    v1c_partRe "MINOR".toList = some (.rep dCls 1 none) ∧
    v1c_partRe "PATCH".toList = some (.rep dCls 1 none) := by
  decide +kernel

theorem v1c_re_pad :
    v1c_partRe "MM".toList = some (.rep dCls 2 none) ∧ v1c_partRe "MMM".toList = some (.rep dCls 3 none) ∧
    v1c_partRe "MMMM".toList = some (.rep dCls 4 none) ∧ v1c_partRe "MMMMM".toList = some (.rep dCls 5 none) ∧
    v1c_partRe "PP".toList = some (.rep dCls 2 none) ∧ v1c_partRe "PPP".toList = some (.rep dCls 3 none) ∧
    v1c_partRe "PPPP".toList = some (.rep dCls 4 none) ∧ v1c_partRe "PPPPP".toList = some (.rep dCls 5 none) := by
  decide +kernel

theorem v1c_re_ids :
    v1c_partRe "build_no".toList = some (.rep dCls 4 none) ∧
    v1c_partRe "bid".toList = some (.rep dCls 4 none) ∧
    v1c_partRe "BID".toList = some (.seq posDigitCls (.rep dCls 0 none)) := by
  decide +kernel

theorem v1c_re_tag : v1c_partRe "tag".toList = some (altLits v1c_tags) := by decide +kernel

theorem v1c_tags_ok : v1c_tags.all (fun t => wordsOk v1c_tags t) = true := by decide +kernel

theorem v1c_fc_quarter : v1c_finCheck "quarter".toList natToStr 1 4 true = true := by decide +kernel
theorem v1c_fc_month : v1c_finCheck "month".toList (fun m => zfill 2 (natToStr m)) 1 12 true = true := by
  decide +kernel
theorem v1c_fc_dom : v1c_finCheck "dom".toList (fun m => zfill 2 (natToStr m)) 1 31 true = true := by
  decide +kernel
theorem v1c_fc_doy : v1c_finCheck "doy".toList (fun m => zfill 3 (natToStr m)) 1 366 true = true := by
  decide +kernel
theorem v1c_fc_month_short : v1c_finCheck "month_short".toList natToStr 1 12 false = true := by
  decide +kernel

theorem v1c_pad_part (n : Str) (w : Nat) (x : Nat) (hre : v1c_partRe n = some (.rep dCls w none)) (rx : Re)
    (hrx : v1c_partRe n = some rx) (htag : v1c_isTag n = false) :
    V1Head n (some (zfill w (natToStr x))) true rx :=
  v1c_run_part n w hre _ (zfill_ne_nil w _ (natToStr_ne_nil x))
    (allDigits_zfill w _ (allDigits_natToStr x)) (le_zfill_length w _) rx hrx htag

theorem v1c_nat_part (n : Str) (x : Nat) (hre : v1c_partRe n = some (.rep dCls 1 none)) (rx : Re)
    (hrx : v1c_partRe n = some rx) (htag : v1c_isTag n = false) :
    V1Head n (some (natToStr x)) true rx :=
  v1c_run_part n 1 hre _ (natToStr_ne_nil x) (allDigits_natToStr x) (natToStr_length_pos x) rx hrx htag

theorem v1c_id_part (n : Str) (v : V1Info) (hok : v1c_bidOk v = true)
    (hre : v1c_partRe n = some (.rep dCls 4 none)) (rx : Re)
    (hrx : v1c_partRe n = some rx) (htag : v1c_isTag n = false) : V1Head n (some v.bid) true rx := by
  simp only [v1c_bidOk, Bool.and_eq_true, decide_eq_true_eq] at hok
  refine v1c_run_part n 4 hre _ ?_ hok.1 hok.2 rx hrx htag
  intro e; rw [e] at hok; simp at hok

theorem v1c_tag_part (v : V1Info) (hok : v1c_tags.contains v.tag = true) (rx : Re)
    (hrx : v1c_partRe "tag".toList = some rx) (nd : Bool) : V1Head "tag".toList (some v.tag) nd rx := by
  rw [v1c_re_tag] at hrx
  have hrx := (Option.some.inj hrx).symm
  subst hrx
  have h := v1c_tags_ok
  simp only [List.all_eq_true] at h
  have hw := h v.tag (by simpa using hok)
  refine ⟨v.tag, rfl, (altLits_head' v1c_tags v.tag [] hw).2.1, ?_, fun k _ => (altLits_head' v1c_tags v.tag k hw).1⟩
  intro c hc
  have hl := (altLits_head' v1c_tags v.tag [] hw).2.2
  cases ht : v.tag with
  | nil => rw [ht] at hc; cases hc
  | cons x xs =>
    rw [ht] at hc hl
    simp only [List.head?_cons, Option.some.injEq] at hc
    subst hc
    exact hl

/-! ### the dispatcher over the table of supported parts -/

/-- THE PER-PART LEMMA: every supported legacy part, on every value of its domain -/
theorem v1c_part_head (v : V1Info) (n : Str) (hok : v1c_partOk v n = true) (rx : Re)
    (hrx : v1c_partRe n = some rx) : V1Head n (v1c_partText v n) (v1c_needND n) rx := by
  unfold v1c_partOk at hok
  unfold v1c_partText v1c_needND
  cases hl : lookup n v1c_partSpecs with
  | none => rw [hl] at hok; cases hok
  | some s =>
    rw [hl] at hok
    have hmem := lookup_mem hl
    simp only [v1c_partSpecs, List.mem_cons, Prod.mk.injEq, List.not_mem_nil, or_false] at hmem
    rcases hmem with ⟨rfl, rfl⟩ | ⟨rfl, rfl⟩ | ⟨rfl, rfl⟩ | ⟨rfl, rfl⟩ | ⟨rfl, rfl⟩ | ⟨rfl, rfl⟩ |
      ⟨rfl, rfl⟩ | ⟨rfl, rfl⟩ | ⟨rfl, rfl⟩ | ⟨rfl, rfl⟩ | ⟨rfl, rfl⟩ | ⟨rfl, rfl⟩ | ⟨rfl, rfl⟩ |
      ⟨rfl, rfl⟩ | ⟨rfl, rfl⟩ | ⟨rfl, rfl⟩ | ⟨rfl, rfl⟩ | ⟨rfl, rfl⟩ | ⟨rfl, rfl⟩ | ⟨rfl, rfl⟩ |
      ⟨rfl, rfl⟩ | ⟨rfl, rfl⟩ | ⟨rfl, rfl⟩
    -- every entry is needed, so the table is unfolded once; the cases come in the order of `v1c_partSpecs`:
    -- year, yyyy, yy, quarter, month, month_short, dom, doy, MAJOR, MINOR, PATCH, MM…MMMMM, PP…PPPPP,
    -- build_no, bid, BID, tag
    · exact v1c_year_part _ v1c_re_year.1 v.year hok rx hrx _ (by decide)
    · exact v1c_year_part _ v1c_re_year.2.1 v.year hok rx hrx _ (by decide)
    · exact v1c_yy_part _ v1c_re_year.2.2 v.year hok rx hrx _ (by decide)
    · exact v1c_fin_part _ _ 1 4 true v1c_fc_quarter v.quarter hok rx hrx (by decide)
    · exact v1c_fin_part _ _ 1 12 true v1c_fc_month v.month hok rx hrx (by decide)
    · exact v1c_fin_part _ _ 1 12 false v1c_fc_month_short v.month hok rx hrx (by decide)
    · exact v1c_fin_part _ _ 1 31 true v1c_fc_dom v.dom hok rx hrx (by decide)
    · exact v1c_fin_part _ _ 1 366 true v1c_fc_doy v.doy hok rx hrx (by decide)
    · exact v1c_nat_part _ v.major v1c_re_nat.1 rx hrx (by decide)
    · exact v1c_nat_part _ v.minor v1c_re_nat.2.1 rx hrx (by decide)
    · exact v1c_nat_part _ v.patch v1c_re_nat.2.2 rx hrx (by decide)
    · exact v1c_pad_part _ 2 v.minor v1c_re_pad.1 rx hrx (by decide)
    · exact v1c_pad_part _ 3 v.minor v1c_re_pad.2.1 rx hrx (by decide)
    · exact v1c_pad_part _ 4 v.minor v1c_re_pad.2.2.1 rx hrx (by decide)
    · exact v1c_pad_part _ 5 v.minor v1c_re_pad.2.2.2.1 rx hrx (by decide)
    · exact v1c_pad_part _ 2 v.patch v1c_re_pad.2.2.2.2.1 rx hrx (by decide)
    · exact v1c_pad_part _ 3 v.patch v1c_re_pad.2.2.2.2.2.1 rx hrx (by decide)
    · exact v1c_pad_part _ 4 v.patch v1c_re_pad.2.2.2.2.2.2.1 rx hrx (by decide)
    · exact v1c_pad_part _ 5 v.patch v1c_re_pad.2.2.2.2.2.2.2 rx hrx (by decide)
    · exact v1c_id_part _ v hok v1c_re_ids.1 rx hrx (by decide)
    · exact v1c_id_part _ v hok v1c_re_ids.2.1 rx hrx (by decide)
    · exact v1c_BID_part _ (by simp only [Bool.and_eq_true, decide_eq_true_eq] at hok; exact hok.2)
        v1c_re_ids.2.2 rx hrx
    · exact v1c_tag_part v hok rx hrx _

/-! ### inversion of `V1Pat.compile` -/

theorem v1c_compile_lit_inv (c : Char) (rest : V1Pat) (r : Re) (h : V1Pat.compile (.lit c rest) = some r) :
    ∃ r', V1Pat.compile rest = some r' ∧ r = seqR (.chr c) r' := by
  simp only [V1Pat.compile] at h
  cases hr : V1Pat.compile rest with
  | none => rw [hr] at h; cases h
  | some r' =>
    rw [hr] at h
    simp only [Option.map_some, Option.some.injEq] at h
    exact ⟨r', rfl, h.symm⟩

theorem v1c_compile_part_inv (n : Str) (rest : V1Pat) (r : Re) (h : V1Pat.compile (.part n rest) = some r) :
    ∃ rx r', v1c_partRe n = some rx ∧ V1Pat.compile rest = some r' ∧ r = seqR (.grp n rx) r' := by
  simp only [V1Pat.compile] at h
  split at h
  · next rx r' h1 h2 =>
    simp only [Option.some.injEq] at h
    exact ⟨rx, r', h1, h2, h.symm⟩
  · cases h

theorem v1c_compile_comp_inv (n : Str) (body rest : V1Pat) (r : Re)
    (h : V1Pat.compile (.comp n body rest) = some r) :
    ∃ b r', V1Pat.compile body = some b ∧ V1Pat.compile rest = some r' ∧ r = seqR (.grp n b) r' := by
  simp only [V1Pat.compile] at h
  split at h
  · next b r' h1 h2 =>
    simp only [Option.some.injEq] at h
    exact ⟨b, r', h1, h2, h.symm⟩
  · cases h

theorem v1c_compile_rel_inv (rest : V1Pat) (r : Re) (h : V1Pat.compile (.rel rest) = some r) :
    ∃ r', V1Pat.compile rest = some r' ∧
      r = seqR (.rep (.seq (.chr '-') (.grp "tag".toList (altLits v1c_tags))) 0 (some 1)) r' := by
  simp only [V1Pat.compile] at h
  split at h
  · next rx r' h1 h2 =>
    simp only [Option.some.injEq] at h
    rw [v1c_re_tag] at h1
    have h1 := (Option.some.inj h1).symm
    subst h1
    exact ⟨r', h2, h.symm⟩
  · cases h

theorem v1c_render_part (v : V1Info) (n : Str) (rest : V1Pat) (t : Str) (ht : v1c_partText v n = some t) :
    V1Pat.render v (.part n rest) = t ++ V1Pat.render v rest := by
  simp only [V1Pat.render, ht, Option.getD_some]

theorem v1c_caps_part (v : V1Info) (n : Str) (rest : V1Pat) (t : Str) (ht : v1c_partText v n = some t) :
    V1Pat.caps v (.part n rest) = (n, t) :: V1Pat.caps v rest := by
  simp only [V1Pat.caps, ht]

/-! ### the rendered text followed by `k` starts inside `V1Pat.first` -/

theorem v1c_first_has (v : V1Info) : ∀ (p : V1Pat) (F : FSet) (k : Str), V1Pat.vok v p = true →
    (V1Pat.compile p).isSome = true → F.has k = true →
    (V1Pat.first p F).has (V1Pat.render v p ++ k) = true := by
  intro p
  induction p with
  | done => intro F k _ _ hk; simpa only [V1Pat.first, V1Pat.render, List.nil_append] using hk
  | lit c rest _ =>
    intro F k _ _ _
    simp [V1Pat.first, V1Pat.render, FSet.has, FSet.hasChar]
  | part n rest _ =>
    intro F k hv hc _
    cases hcc : V1Pat.compile (.part n rest) with
    | none => rw [hcc] at hc; cases hc
    | some r =>
      obtain ⟨rx, r', hrx, _, _⟩ := v1c_compile_part_inv n rest r hcc
      simp only [V1Pat.vok, Bool.and_eq_true] at hv
      obtain ⟨t, ht, hne, hfo, _⟩ := v1c_part_head v n hv.1 rx hrx
      rw [v1c_render_part v n rest t ht]
      cases t with
      | nil => exact absurd rfl hne
      | cons c t' =>
        have hc1 := hfo c rfl
        simp only [V1Pat.first, List.cons_append, FSet.has]
        cases htag : v1c_isTag n with
        | true =>
          rw [htag] at hc1
          simp only [↓reduceIte] at hc1
          simp [FSet.hasChar, hc1]
        | false =>
          rw [htag] at hc1
          simp only [Bool.false_eq_true, ↓reduceIte] at hc1
          simp [FSet.hasChar, hc1]
  | comp n body rest ihb ihr =>
    intro F k hv hc hk
    cases hcc : V1Pat.compile (.comp n body rest) with
    | none => rw [hcc] at hc; cases hc
    | some r =>
      obtain ⟨b, r', hb, hr', _⟩ := v1c_compile_comp_inv n body rest r hcc
      simp only [V1Pat.vok, Bool.and_eq_true] at hv
      have h1 := ihr F k hv.2 (by rw [hr']; rfl) hk
      simp only [V1Pat.first, V1Pat.render, List.append_assoc]
      exact ihb _ _ hv.1 (by rw [hb]; rfl) h1
  | rel rest ihr =>
    intro F k hv hc hk
    cases hcc : V1Pat.compile (.rel rest) with
    | none => rw [hcc] at hc; cases hc
    | some r =>
      obtain ⟨r', hr', _⟩ := v1c_compile_rel_inv rest r hcc
      simp only [V1Pat.vok, Bool.and_eq_true] at hv
      have h1 := ihr F k hv.2 (by rw [hr']; rfl) hk
      simp only [V1Pat.first, V1Pat.render, v1c_relText]
      split
      · simp only [List.nil_append]
        exact FSet.has_union_right _ _ _ h1
      · apply FSet.has_union_left
        simp [FSet.has, FSet.hasChar]

/-! ### THE COMPOSITION LEMMA -/

theorem v1_compose_head (v : V1Info) : ∀ (p : V1Pat) (F : FSet) (r : Re) (k : Str) (st : MSt),
    V1Pat.wf p F = true → V1Pat.vok v p = true → V1Pat.compile p = some r → F.has k = true →
    st.rest = V1Pat.render v p ++ k →
    ∃ st', (r.m st).head? = some st' ∧ st'.rest = k ∧ st'.caps = (V1Pat.caps v p).reverse ++ st.caps := by
  intro p
  induction p with
  | done =>
    intro F r k st _ _ hr _ hst
    simp only [V1Pat.compile, Option.some.injEq] at hr
    subst hr
    refine ⟨st, rfl, ?_, ?_⟩
    · simpa only [V1Pat.render, List.nil_append] using hst
    · simp only [V1Pat.caps, List.reverse_nil, List.nil_append]
  | lit c rest ih =>
    intro F r k st hwf hv hr hk hst
    obtain ⟨r', hr', rfl⟩ := v1c_compile_lit_inv c rest r hr
    simp only [V1Pat.wf] at hwf
    simp only [V1Pat.vok] at hv
    have hst' : st.rest = c :: (V1Pat.render v rest ++ k) := by
      simpa only [V1Pat.render, List.cons_append] using hst
    obtain ⟨st2, h2, hr2, hc2⟩ :=
      ih F r' k (st.step (V1Pat.render v rest ++ k)) hwf hv hr' hk rfl
    refine ⟨st2, head_seqR _ _ st _ st2 (head_chr c st _ hst') h2, hr2, ?_⟩
    rw [hc2]
    simp only [V1Pat.caps]
    rfl
  | part n rest ih =>
    intro F r k st hwf hv hr hk hst
    obtain ⟨rx, r', hrx, hr', rfl⟩ := v1c_compile_part_inv n rest r hr
    simp only [V1Pat.wf, Bool.and_eq_true] at hwf
    simp only [V1Pat.vok, Bool.and_eq_true] at hv
    obtain ⟨t, ht, hne, hfo, hcons⟩ := v1c_part_head v n hv.1 rx hrx
    have hk' : (V1Pat.first rest F).has (V1Pat.render v rest ++ k) = true :=
      v1c_first_has v rest F k hv.2 (by rw [hr']; rfl) hk
    have hnd : v1c_needND n = true → NoDigitAhead (V1Pat.render v rest ++ k) := by
      intro hn
      have h2 := hwf.2
      rw [hn] at h2
      simp only [Bool.not_true, Bool.false_or] at h2
      exact FSet.noDigit_ahead _ _ h2 hk'
    have hst' : st.rest = t ++ (V1Pat.render v rest ++ k) := by
      rw [hst, v1c_render_part v n rest t ht, List.append_assoc]
    obtain ⟨st0, h0, hr0, hc0⟩ := hcons _ hnd st hst'
    obtain ⟨st1, h1, hr1, hc1⟩ := head_grp n rx st st0 t _ hst' h0 hr0
    obtain ⟨st2, h2, hr2, hc2⟩ := ih F r' k st1 hwf.1.2 hv.2 hr' hk hr1
    refine ⟨st2, head_seqR _ _ st st1 st2 h1 h2, hr2, ?_⟩
    rw [hc2, hc1, hc0, v1c_caps_part v n rest t ht]
    simp only [List.reverse_cons, List.append_assoc, List.cons_append, List.nil_append]
  | comp n body rest ihb ihr =>
    intro F r k st hwf hv hr hk hst
    obtain ⟨b, r', hb, hr', rfl⟩ := v1c_compile_comp_inv n body rest r hr
    simp only [V1Pat.wf, Bool.and_eq_true] at hwf
    simp only [V1Pat.vok, Bool.and_eq_true] at hv
    have hk' : (V1Pat.first rest F).has (V1Pat.render v rest ++ k) = true :=
      v1c_first_has v rest F k hv.2 (by rw [hr']; rfl) hk
    have hst' : st.rest = V1Pat.render v body ++ (V1Pat.render v rest ++ k) := by
      rw [hst]; simp only [V1Pat.render, List.append_assoc]
    obtain ⟨st0, h0, hr0, hc0⟩ := ihb (V1Pat.first rest F) b _ st hwf.1.2 hv.1 hb hk' hst'
    obtain ⟨st1, h1, hr1, hc1⟩ := head_grp n b st st0 (V1Pat.render v body) _ hst' h0 hr0
    obtain ⟨st2, h2, hr2, hc2⟩ := ihr F r' k st1 hwf.2 hv.2 hr' hk hr1
    refine ⟨st2, head_seqR _ _ st st1 st2 h1 h2, hr2, ?_⟩
    rw [hc2, hc1, hc0]
    simp only [V1Pat.caps, List.reverse_append, List.reverse_cons, List.append_assoc,
      List.cons_append, List.nil_append]
  | rel rest ihr =>
    intro F r k st hwf hv hr hk hst
    obtain ⟨r', hr', rfl⟩ := v1c_compile_rel_inv rest r hr
    simp only [V1Pat.wf, Bool.and_eq_true, Bool.not_eq_true'] at hwf
    simp only [V1Pat.vok, Bool.and_eq_true] at hv
    have hk' : (V1Pat.first rest F).has (V1Pat.render v rest ++ k) = true :=
      v1c_first_has v rest F k hv.2 (by rw [hr']; rfl) hk
    cases hz : v1c_isFinal v with
    | true =>
      -- the group is omitted: what follows does not start with `-`, so its body has no success
      have hst' : st.rest = V1Pat.render v rest ++ k := by
        rw [hst]; simp only [V1Pat.render, v1c_relText, hz, ↓reduceIte, List.nil_append]
      have hbn : (Re.seq (.chr '-') (.grp "tag".toList (altLits v1c_tags))).m st = [] := by
        have hc : (Re.chr '-').m st = [] := by
          apply chr_nil
          intro x hx e
          subst e
          cases hr0 : st.rest with
          | nil => rw [hr0] at hx; cases hx
          | cons y ys =>
            rw [hr0] at hx
            simp only [List.head?_cons, Option.some.injEq] at hx
            subst hx
            rw [hst'] at hr0
            rw [hr0] at hk'
            simp only [FSet.has] at hk'
            rw [hwf.2] at hk'; cases hk'
        simp only [Re.m] at hc ⊢
        rw [hc]; rfl
      have h1 : ((Re.rep (.seq (.chr '-') (.grp "tag".toList (altLits v1c_tags))) 0 (some 1)).m st).head? = some st := by
        rw [opt_absent _ st hbn]; rfl
      obtain ⟨st2, h2, hr2, hc2⟩ := ihr F r' k st hwf.1 hv.2 hr' hk hst'
      refine ⟨st2, head_seqR _ _ st st st2 h1 h2, hr2, ?_⟩
      rw [hc2]
      simp only [V1Pat.caps, hz, ↓reduceIte, List.nil_append]
    | false =>
      have hst' : st.rest = '-' :: (v.tag ++ (V1Pat.render v rest ++ k)) := by
        rw [hst]
        simp only [V1Pat.render, v1c_relText, hz, Bool.false_eq_true, ↓reduceIte, List.cons_append,
          List.append_assoc]
      obtain ⟨t, ht, hne, _, hcons⟩ := v1c_tag_part v hv.1 (altLits v1c_tags) v1c_re_tag false
      have ht := (Option.some.inj ht).symm
      subst ht
      have hsa : (st.step (v.tag ++ (V1Pat.render v rest ++ k))).rest = v.tag ++ (V1Pat.render v rest ++ k) := rfl
      obtain ⟨st0, h0, hr0, hc0⟩ := hcons _ (fun h => by cases h) _ hsa
      obtain ⟨st1, h1, hr1, hc1⟩ := head_grp "tag".toList (altLits v1c_tags) _ st0 v.tag _ hsa h0 hr0
      have hb : ((Re.seq (.chr '-') (.grp "tag".toList (altLits v1c_tags))).m st).head? = some st1 :=
        head_seq _ _ st _ st1 (head_chr '-' st _ hst') h1
      have hlt : st1.rest.length < st.rest.length := by
        rw [hr1, hst']
        simp only [List.length_cons, List.length_append]
        omega
      have h1' := head_opt_present _ st st1 hb hlt
      obtain ⟨st2, h2, hr2, hc2⟩ := ihr F r' k st1 hwf.1 hv.2 hr' hk hr1
      refine ⟨st2, head_seqR _ _ st st1 st2 h1' h2, hr2, ?_⟩
      rw [hc2, hc1, hc0]
      simp only [V1Pat.caps, hz, Bool.false_eq_true, ↓reduceIte, List.reverse_cons,
        List.nil_append, List.append_assoc, List.cons_append, MSt.step]

/-- `re.match` on the rendered legacy version: consumed in full, captures = the rendered parts -/
theorem v1_compose_match (v : V1Info) (p : V1Pat) (r : Re) (hwf : V1Pat.wf p FSet.endOnly = true)
    (hv : V1Pat.vok v p = true) (hr : V1Pat.compile p = some r) :
    reMatch r (V1Pat.render v p) =
      some { start := 0, stop := (V1Pat.render v p).length, caps := (V1Pat.caps v p).reverse } := by
  obtain ⟨st', h, hr', hc⟩ := v1_compose_head v p FSet.endOnly r []
    { rest := V1Pat.render v p, start := true, caps := [] } hwf hv hr rfl (by simp)
  simp only [reMatch, h, hr', hc, List.length_nil, Nat.sub_zero, List.append_nil]

/-! ## Reading back

  From the captures of that match through `_parse_pattern_groups` and `_parse_field_values` (`v1c_readback`) to
  `v1_roundtrip`: the record read back agrees on every part of the pattern. -/

/-! ### group names of a compiled tree -/

/-- every supported part has a recogniser, and it contains no named group -/
theorem v1c_specs_re : (v1c_partSpecs.map (·.1)).all (fun n =>
    match v1c_partRe n with
    | some rx => (reGroupNames rx).isEmpty
    | none => false) = true := by
  decide +kernel

theorem v1c_partRe_of_spec (n : Str) (hs : (lookup n v1c_partSpecs).isSome = true) :
    ∃ rx, v1c_partRe n = some rx ∧ reGroupNames rx = [] := by
  have h := v1c_specs_re
  simp only [List.all_eq_true] at h
  have h := h n ((lookup_isSome_iff n v1c_partSpecs).1 hs)
  cases hrx : v1c_partRe n with
  | none => rw [hrx] at h; cases h
  | some rx =>
    rw [hrx] at h
    exact ⟨rx, rfl, by simpa using h⟩

theorem v1c_forall_parts (P : Str → Prop) (Q : V1Pat → Prop) (hlit : ∀ c r, Q (.lit c r) → Q r)
    (hpart : ∀ n r, Q (.part n r) → P n ∧ Q r) (hcomp : ∀ n b r, Q (.comp n b r) → Q b ∧ Q r)
    (hrel : ∀ r, Q (.rel r) → P "tag".toList ∧ Q r) : ∀ p, Q p → ∀ n ∈ p.parts, P n := by
  intro p
  induction p with
  | done => intro _ n hn; cases hn
  | lit c r ih => intro h n hn; exact ih (hlit c r h) n hn
  | part m r ih =>
    intro h n hn
    rcases List.mem_cons.mp hn with rfl | hn
    · exact (hpart _ r h).1
    · exact ih (hpart m r h).2 n hn
  | comp m b r ihb ihr =>
    intro h n hn
    rcases List.mem_append.mp hn with hn | hn
    · exact ihb (hcomp m b r h).1 n hn
    · exact ihr (hcomp m b r h).2 n hn
  | rel r ih =>
    intro h n hn
    rcases List.mem_cons.mp hn with rfl | hn
    · exact (hrel r h).1
    · exact ih (hrel r h).2 n hn

theorem v1c_wf_parts (p : V1Pat) (F : FSet) (hwf : V1Pat.wf p F = true) :
    ∀ n ∈ p.parts, (lookup n v1c_partSpecs).isSome = true := by
  refine v1c_forall_parts _ (fun p => ∃ F, V1Pat.wf p F = true) ?_ ?_ ?_ ?_ p ⟨F, hwf⟩
  · rintro c r ⟨F, h⟩
    exact ⟨F, h⟩
  · rintro n r ⟨F, h⟩
    simp only [V1Pat.wf, Bool.and_eq_true] at h
    exact ⟨h.1.1, F, h.1.2⟩
  · rintro n b r ⟨F, h⟩
    simp only [V1Pat.wf, Bool.and_eq_true] at h
    exact ⟨⟨_, h.1.2⟩, F, h.2⟩
  · rintro r ⟨F, h⟩
    simp only [V1Pat.wf, Bool.and_eq_true] at h
    exact ⟨v1c_tag_spec, F, h.1⟩

theorem v1c_groups_compile : ∀ (p : V1Pat) (F : FSet) (r : Re), V1Pat.wf p F = true →
    V1Pat.compile p = some r → reGroupNames r = p.groups := by
  intro p
  induction p with
  | done =>
    intro F r _ hr
    simp only [V1Pat.compile, Option.some.injEq] at hr
    subst hr; rfl
  | lit c rest ih =>
    intro F r hwf hr
    obtain ⟨r', hr', rfl⟩ := v1c_compile_lit_inv c rest r hr
    simp only [V1Pat.wf] at hwf
    rw [reGroupNames_seqR, ih F r' hwf hr']
    rfl
  | part n rest ih =>
    intro F r hwf hr
    obtain ⟨rx, r', hrx, hr', rfl⟩ := v1c_compile_part_inv n rest r hr
    simp only [V1Pat.wf, Bool.and_eq_true] at hwf
    obtain ⟨rx', hrx', hng⟩ := v1c_partRe_of_spec n hwf.1.1
    rw [hrx] at hrx'
    have e := Option.some.inj hrx'
    subst e
    rw [reGroupNames_seqR, ih F r' hwf.1.2 hr']
    simp only [reGroupNames, hng, V1Pat.groups, List.cons_append, List.nil_append]
  | comp n body rest ihb ihr =>
    intro F r hwf hr
    obtain ⟨b, r', hb, hr', rfl⟩ := v1c_compile_comp_inv n body rest r hr
    simp only [V1Pat.wf, Bool.and_eq_true] at hwf
    rw [reGroupNames_seqR, ihr F r' hwf.2 hr']
    simp only [reGroupNames, ihb _ b hwf.1.2 hb, V1Pat.groups, List.cons_append]
  | rel rest ih =>
    intro F r hwf hr
    obtain ⟨r', hr', rfl⟩ := v1c_compile_rel_inv rest r hr
    simp only [V1Pat.wf, Bool.and_eq_true] at hwf
    rw [reGroupNames_seqR, ih F r' hwf.1 hr']
    have e : reGroupNames (altLits v1c_tags) = [] := by decide
    simp only [reGroupNames, e, V1Pat.groups, List.nil_append, List.cons_append]

/-! ### the captures of the match: keys, and the text found under a part name -/

theorem v1c_parts_sub_groups : ∀ (p : V1Pat), ∀ n ∈ p.parts, n ∈ p.groups := by
  intro p
  induction p with
  | done => intro n hn; simp [V1Pat.parts] at hn
  | lit c rest ih => intro n hn; exact ih n (by simpa [V1Pat.parts] using hn)
  | part m rest ih =>
    intro n hn
    simp only [V1Pat.parts, List.mem_cons] at hn
    simp only [V1Pat.groups, List.mem_cons]
    rcases hn with rfl | hn
    · exact .inl rfl
    · exact .inr (ih n hn)
  | comp m body rest ihb ihr =>
    intro n hn
    simp only [V1Pat.parts, List.mem_append] at hn
    simp only [V1Pat.groups, List.mem_cons, List.mem_append]
    rcases hn with hn | hn
    · exact .inr (.inl (ihb n hn))
    · exact .inr (.inr (ihr n hn))
  | rel rest ih =>
    intro n hn
    simp only [V1Pat.parts, List.mem_cons] at hn
    simp only [V1Pat.groups, List.mem_cons]
    rcases hn with rfl | hn
    · exact .inl rfl
    · exact .inr (ih n hn)

theorem v1c_caps_keys_sub (v : V1Info) : ∀ (p : V1Pat), ∀ x ∈ (V1Pat.caps v p).map (·.1), x ∈ p.groups := by
  intro p
  induction p with
  | done => intro x hx; simp [V1Pat.caps] at hx
  | lit c rest ih => intro x hx; exact ih x (by simpa [V1Pat.caps] using hx)
  | part m rest ih =>
    intro x hx
    simp only [V1Pat.groups, List.mem_cons]
    simp only [V1Pat.caps] at hx
    split at hx
    · simp only [List.map_cons, List.mem_cons] at hx
      rcases hx with rfl | hx
      · exact .inl rfl
      · exact .inr (ih x hx)
    · exact .inr (ih x hx)
  | comp m body rest ihb ihr =>
    intro x hx
    simp only [V1Pat.groups, List.mem_cons, List.mem_append]
    simp only [V1Pat.caps, List.map_append, List.map_cons, List.mem_append, List.mem_cons] at hx
    rcases hx with hx | rfl | hx
    · exact .inr (.inl (ihb x hx))
    · exact .inl rfl
    · exact .inr (.inr (ihr x hx))
  | rel rest ih =>
    intro x hx
    simp only [V1Pat.groups, List.mem_cons]
    simp only [V1Pat.caps, List.map_append, List.mem_append] at hx
    rcases hx with hx | hx
    · split at hx
      · simp at hx
      · simp only [List.map_cons, List.map_nil, List.mem_singleton] at hx
        exact .inl hx
    · exact .inr (ih x hx)

theorem v1c_caps_keys_nodup (v : V1Info) : ∀ (p : V1Pat), p.groups.Nodup →
    ((V1Pat.caps v p).map (·.1)).Nodup := by
  intro p
  induction p with
  | done => intro _; simp [V1Pat.caps]
  | lit c rest ih => intro h; exact ih (by simpa [V1Pat.groups] using h)
  | part m rest ih =>
    intro h
    simp only [V1Pat.groups, List.nodup_cons] at h
    simp only [V1Pat.caps]
    split
    · simp only [List.map_cons, List.nodup_cons]
      exact ⟨fun hm => h.1 (v1c_caps_keys_sub v rest m hm), ih h.2⟩
    · exact ih h.2
  | comp m body rest ihb ihr =>
    intro h
    simp only [V1Pat.groups, List.nodup_cons, List.mem_append, not_or] at h
    obtain ⟨⟨hmb, hmr⟩, hbr⟩ := h
    have hbr' := List.nodup_append.mp hbr
    simp only [V1Pat.caps, List.map_append, List.map_cons]
    apply List.nodup_append.mpr
    refine ⟨ihb hbr'.1, ?_, ?_⟩
    · simp only [List.nodup_cons]
      exact ⟨fun hm => hmr (v1c_caps_keys_sub v rest m hm), ihr hbr'.2.1⟩
    · intro a ha b hb
      simp only [List.mem_cons] at hb
      have ha' := v1c_caps_keys_sub v body a ha
      rcases hb with rfl | hb
      · intro e; subst e; exact hmb ha'
      · exact hbr'.2.2 a ha' b (v1c_caps_keys_sub v rest b hb)
  | rel rest ih =>
    intro h
    simp only [V1Pat.groups, List.nodup_cons] at h
    simp only [V1Pat.caps]
    split
    · simpa using ih h.2
    · simp only [List.cons_append, List.nil_append, List.map_cons, List.nodup_cons]
      exact ⟨fun hm => h.1 (v1c_caps_keys_sub v rest _ hm), ih h.2⟩

theorem v1c_lookup_caps_none (v : V1Info) (p : V1Pat) (n : Str) (h : n ∉ p.groups) :
    lookup n (V1Pat.caps v p) = none :=
  (lookup_none_iff n _).2 (fun hm => h (v1c_caps_keys_sub v p n hm))

theorem v1c_partText_some (v : V1Info) (n : Str) (hs : (lookup n v1c_partSpecs).isSome = true)
    (hok : v1c_partOk v n = true) : ∃ t, v1c_partText v n = some t := by
  obtain ⟨rx, hrx, _⟩ := v1c_partRe_of_spec n hs
  obtain ⟨t, ht, _⟩ := v1c_part_head v n hok rx hrx
  exact ⟨t, ht⟩

/-- what the match reports under the name of a part of the pattern: its rendered text — or nothing,
    for the `tag` of an omitted `-tag` group (and then the tag is `final`) -/
theorem v1c_caps_lookup (v : V1Info) : ∀ (p : V1Pat) (F : FSet), V1Pat.wf p F = true →
    V1Pat.vok v p = true → p.groups.Nodup → ∀ n ∈ p.parts,
    (∃ t, v1c_partText v n = some t ∧ lookup n (V1Pat.caps v p) = some t) ∨
    (n = "tag".toList ∧ lookup n (V1Pat.caps v p) = none ∧ v1c_isFinal v = true) := by
  intro p
  induction p with
  | done => intro F _ _ _ n hn; simp [V1Pat.parts] at hn
  | lit c rest ih =>
    intro F hwf hv hnd n hn
    simp only [V1Pat.wf] at hwf
    simp only [V1Pat.vok] at hv
    exact ih F hwf hv (by simpa [V1Pat.groups] using hnd) n (by simpa [V1Pat.parts] using hn)
  | part m rest ih =>
    intro F hwf hv hnd n hn
    simp only [V1Pat.wf, Bool.and_eq_true] at hwf
    simp only [V1Pat.vok, Bool.and_eq_true] at hv
    simp only [V1Pat.groups, List.nodup_cons] at hnd
    simp only [V1Pat.parts, List.mem_cons] at hn
    obtain ⟨t, ht⟩ := v1c_partText_some v m hwf.1.1 hv.1
    rw [v1c_caps_part v m rest t ht]
    rcases hn with rfl | hn
    · exact .inl ⟨t, ht, by simp [lookup]⟩
    · have hne : n ≠ m := fun e => hnd.1 (e ▸ v1c_parts_sub_groups rest n hn)
      rw [lookup_cons, if_neg hne]
      exact ih F hwf.1.2 hv.2 hnd.2 n hn
  | comp m body rest ihb ihr =>
    intro F hwf hv hnd n hn
    simp only [V1Pat.wf, Bool.and_eq_true] at hwf
    simp only [V1Pat.vok, Bool.and_eq_true] at hv
    simp only [V1Pat.groups, List.nodup_cons, List.mem_append, not_or] at hnd
    obtain ⟨⟨hmb, hmr⟩, hbr⟩ := hnd
    have hbr' := List.nodup_append.mp hbr
    simp only [V1Pat.parts, List.mem_append] at hn
    simp only [V1Pat.caps]
    rw [lookup_append]
    rcases hn with hn | hn
    · have hng := v1c_parts_sub_groups body n hn
      rcases ihb _ hwf.1.2 hv.1 hbr'.1 n hn with ⟨t, ht, hl⟩ | ⟨hnt, hl, hf⟩
      · rw [hl]; exact .inl ⟨t, ht, rfl⟩
      · rw [hl]
        have hne : n ≠ m := fun e => hmb (e ▸ hng)
        simp only [Option.orElse_none]
        rw [lookup_cons, if_neg hne,
          v1c_lookup_caps_none v rest n (fun hr => hbr'.2.2 n hng n hr rfl)]
        exact .inr ⟨hnt, rfl, hf⟩
    · have hng := v1c_parts_sub_groups rest n hn
      have hnb : n ∉ body.groups := fun hb => hbr'.2.2 n hb n hng rfl
      have hne : n ≠ m := fun e => hmr (e ▸ hng)
      rw [v1c_lookup_caps_none v body n hnb]
      simp only [Option.orElse_none]
      rw [lookup_cons, if_neg hne]
      exact ihr F hwf.2 hv.2 hbr'.2.1 n hn
  | rel rest ih =>
    intro F hwf hv hnd n hn
    simp only [V1Pat.wf, Bool.and_eq_true] at hwf
    simp only [V1Pat.vok, Bool.and_eq_true] at hv
    simp only [V1Pat.groups, List.nodup_cons] at hnd
    simp only [V1Pat.parts, List.mem_cons] at hn
    simp only [V1Pat.caps]
    rcases hn with rfl | hn
    · cases hz : v1c_isFinal v with
      | true =>
        refine .inr ⟨rfl, ?_, rfl⟩
        simp only [↓reduceIte, List.nil_append]
        exact v1c_lookup_caps_none v rest _ hnd.1
      | false =>
        simp only [Bool.false_eq_true, ↓reduceIte, List.cons_append, List.nil_append]
        exact .inl ⟨v.tag, rfl, by simp [lookup]⟩
    · have hne : n ≠ "tag".toList := fun e => hnd.1 (e ▸ v1c_parts_sub_groups rest n hn)
      have e : lookup n ((if v1c_isFinal v = true then [] else [("tag".toList, v.tag)]) ++ V1Pat.caps v rest)
          = lookup n (V1Pat.caps v rest) := by
        split
        · rfl
        · rw [List.cons_append, List.nil_append, lookup_cons, if_neg hne]
      rw [e]
      exact ih F hwf.1 hv.2 hnd.2 n hn

/-! ### `_parse_pattern_groups` on the group dictionary of the match -/

theorem v1c_ppg (G : List Str) (g : Str → Option Str) (hok : v1c_groupsOk G = true) :
    v1ParsePatternGroups (G.map (fun n => (n, g n))) =
      .ok (Gen.v1PatternPartFields.filterMap
        (fun pf => if G.contains pf.1 = true then some (pf.2, g pf.1) else none)) := by
  simp only [v1c_groupsOk, Bool.and_eq_true, Bool.not_eq_true'] at hok
  unfold v1ParsePatternGroups
  rw [filterMap_congr_fun Gen.v1PatternPartFields _
    (fun pf => if G.contains pf.1 = true then some (pf.2, g pf.1) else none) ?_]
  · simp only [List.any_map, Function.comp_def, hok.1, Bool.false_eq_true, ↓reduceIte, filterMap_ite_keys, hok.2]
  · intro pf
    rw [lookup_map_self]
    by_cases hm : pf.1 ∈ G
    · simp [hm]
    · simp [hm]

/-- the group dictionary of the match of `v1_compose_match` -/
theorem v1c_groupdict (v : V1Info) (p : V1Pat) (r : Re) (F : FSet) (hwf : V1Pat.wf p F = true)
    (hnd : p.groups.Nodup) (hr : V1Pat.compile p = some r) (a b : Nat) :
    groupdict r { start := a, stop := b, caps := (V1Pat.caps v p).reverse } =
      p.groups.map (fun n => (n, lookup n (V1Pat.caps v p))) := by
  simp only [groupdict, v1c_groups_compile p F r hwf hr, eraseDups_of_nodup _ hnd, Match.group]
  apply List.map_congr_left
  intro n _
  rw [lookup_reverse n _ (v1c_caps_keys_nodup v p hnd)]

/-- the field values `_parse_pattern_groups` hands to `_parse_field_values` -/
def v1c_fv (v : V1Info) (p : V1Pat) : FVals :=
  Gen.v1PatternPartFields.filterMap
    (fun pf => if p.groups.contains pf.1 = true then some (pf.2, lookup pf.1 (V1Pat.caps v p)) else none)

theorem v1c_parseGroups_eq (v : V1Info) (p : V1Pat) (hok : v1c_groupsOk p.groups = true) :
    v1ParseGroups (p.groups.map (fun n => (n, lookup n (V1Pat.caps v p)))) =
      v1ParseFieldValues (v1c_fv v p) := by
  unfold v1ParseGroups
  rw [v1c_ppg p.groups (fun n => lookup n (V1Pat.caps v p)) hok]
  rfl

theorem v1c_fv_lookup (v : V1Info) (p : V1Pat) (f : Str) :
    lookup f (v1c_fv v p) = (p.fieldPart f).map (fun n => lookup n (V1Pat.caps v p)) := by
  unfold v1c_fv V1Pat.fieldPart
  rw [lookup_filterMap_ite (fun pf => p.groups.contains pf.1) (fun pf => lookup pf.1 (V1Pat.caps v p)) f,
    Option.map_map]
  rfl

theorem v1c_fieldPart_inv (p : V1Pat) (f n : Str) (h : p.fieldPart f = some n) :
    n ∈ p.groups ∧ (n, f) ∈ Gen.v1PatternPartFields := by
  unfold V1Pat.fieldPart at h
  cases hf : (Gen.v1PatternPartFields.filter (fun pf => p.groups.contains pf.1)).find? (fun pf => pf.2 == f) with
  | none => rw [hf] at h; cases h
  | some pf =>
    rw [hf] at h
    simp only [Option.map_some, Option.some.injEq] at h
    have h1 := List.find?_some hf
    have h2 := List.mem_filter.mp (List.mem_of_find?_eq_some hf)
    simp only [beq_iff_eq] at h1
    obtain ⟨a, b⟩ := pf
    simp only at h h1 h2
    subst h h1
    exact ⟨by simpa using h2.2, h2.1⟩

theorem v1c_fieldPart_of (p : V1Pat) (hok : v1c_groupsOk p.groups = true) (n f : Str) (hn : n ∈ p.groups)
    (hT : (n, f) ∈ Gen.v1PatternPartFields) : p.fieldPart f = some n := by
  simp only [v1c_groupsOk, Bool.and_eq_true, Bool.not_eq_true'] at hok
  unfold V1Pat.fieldPart
  rw [find?_filter_unique (fun pf => p.groups.contains pf.1) n f _ (nodup_of_count_le_one _ hok.2) hT
    (by simpa using hn)]
  rfl

/-! ### composites are not parts with a field -/

theorem v1c_comp_not_field : Gen.v1CompositePartPatterns.all (fun c =>
    !(v1HasKey c.1 Gen.v1PatternPartFields)) = true := by decide +kernel

theorem v1c_groups_cases : ∀ (p : V1Pat) (F : FSet), V1Pat.wf p F = true → ∀ n ∈ p.groups,
    n ∈ p.parts ∨ v1HasKey n Gen.v1CompositePartPatterns = true := by
  intro p
  induction p with
  | done => intro F _ n hn; simp [V1Pat.groups] at hn
  | lit c rest ih =>
    intro F hwf n hn
    simp only [V1Pat.wf] at hwf
    exact ih F hwf n (by simpa [V1Pat.groups] using hn)
  | part m rest ih =>
    intro F hwf n hn
    simp only [V1Pat.wf, Bool.and_eq_true] at hwf
    simp only [V1Pat.groups, List.mem_cons] at hn
    simp only [V1Pat.parts, List.mem_cons]
    rcases hn with rfl | hn
    · exact .inl (.inl rfl)
    · rcases ih F hwf.1.2 n hn with h | h
      · exact .inl (.inr h)
      · exact .inr h
  | comp m body rest ihb ihr =>
    intro F hwf n hn
    simp only [V1Pat.wf, Bool.and_eq_true] at hwf
    simp only [V1Pat.groups, List.mem_cons, List.mem_append] at hn
    simp only [V1Pat.parts, List.mem_append]
    rcases hn with rfl | hn | hn
    · exact .inr hwf.1.1
    · rcases ihb _ hwf.1.2 n hn with h | h
      · exact .inl (.inl h)
      · exact .inr h
    · rcases ihr F hwf.2 n hn with h | h
      · exact .inl (.inr h)
      · exact .inr h
  | rel rest ih =>
    intro F hwf n hn
    simp only [V1Pat.wf, Bool.and_eq_true] at hwf
    simp only [V1Pat.groups, List.mem_cons] at hn
    simp only [V1Pat.parts, List.mem_cons]
    rcases hn with rfl | hn
    · exact .inl (.inl rfl)
    · rcases ih F hwf.1 n hn with h | h
      · exact .inl (.inr h)
      · exact .inr h

/-- the part a field is read from is a PART of the tree (not a composite) -/
theorem v1c_fieldPart_part (p : V1Pat) (F : FSet) (hwf : V1Pat.wf p F = true) (f n : Str)
    (h : p.fieldPart f = some n) : n ∈ p.parts ∧ (n, f) ∈ Gen.v1PatternPartFields := by
  obtain ⟨hg, hT⟩ := v1c_fieldPart_inv p f n h
  refine ⟨?_, hT⟩
  rcases v1c_groups_cases p F hwf n hg with h1 | h1
  · exact h1
  · exfalso
    have ht := v1c_comp_not_field
    simp only [List.all_eq_true, Bool.not_eq_true'] at ht
    have hm := (lookup_isSome_iff n Gen.v1CompositePartPatterns).1 h1
    obtain ⟨c, hc, rfl⟩ := List.mem_map.mp hm
    have := ht c hc
    rw [v1HasKey_of_mem _ _ _ hT] at this
    cases this

theorem v1c_vok_parts (v : V1Info) (p : V1Pat) (hv : V1Pat.vok v p = true) :
    ∀ n ∈ p.parts, v1c_partOk v n = true := by
  refine v1c_forall_parts _ (fun p => V1Pat.vok v p = true) (fun _ _ h => h) ?_ ?_ ?_ p hv
  · intro n r h
    simpa only [V1Pat.vok, Bool.and_eq_true] using h
  · intro n b r h
    simpa only [V1Pat.vok, Bool.and_eq_true] using h
  · intro r h
    rw [v1c_po_tag]
    simpa only [V1Pat.vok, Bool.and_eq_true] using h

/-! ### which parts name a field -/

def v1c_cands (f : String) : List (Str × Str) := Gen.v1PatternPartFields.filter (fun pf => pf.2 == f.toList)

theorem v1c_cands_year : v1c_cands "year" = [("year".toList, "year".toList), ("yy".toList, "year".toList), ("yyyy".toList, "year".toList)] := by decide +kernel
theorem v1c_cands_month : v1c_cands "month" = [("month".toList, "month".toList), ("month_short".toList, "month".toList)] := by decide +kernel
theorem v1c_cands_dom : v1c_cands "dom" = [("dom".toList, "dom".toList), ("dom_short".toList, "dom".toList)] := by decide +kernel
theorem v1c_cands_doy : v1c_cands "doy" = [("doy".toList, "doy".toList), ("doy_short".toList, "doy".toList)] := by decide +kernel
theorem v1c_cands_quarter : v1c_cands "quarter" = [("quarter".toList, "quarter".toList)] := by decide +kernel
theorem v1c_cands_major : v1c_cands "major" = [("MAJOR".toList, "major".toList)] := by decide +kernel
theorem v1c_cands_minor : v1c_cands "minor" = [("MINOR".toList, "minor".toList), ("MM".toList, "minor".toList),
    ("MMM".toList, "minor".toList), ("MMMM".toList, "minor".toList), ("MMMMM".toList, "minor".toList)] := by decide +kernel
theorem v1c_cands_patch : v1c_cands "patch" = [("PP".toList, "patch".toList), ("PPP".toList, "patch".toList),
    ("PPPP".toList, "patch".toList), ("PPPPP".toList, "patch".toList), ("PATCH".toList, "patch".toList)] := by decide +kernel
theorem v1c_cands_bid : v1c_cands "bid" = [("build_no".toList, "bid".toList), ("bid".toList, "bid".toList),
    ("BID".toList, "bid".toList), ("BB".toList, "bid".toList), ("BBB".toList, "bid".toList), ("BBBB".toList, "bid".toList),
    ("BBBBB".toList, "bid".toList), ("BBBBBB".toList, "bid".toList), ("BBBBBBB".toList, "bid".toList)] := by decide +kernel
theorem v1c_cands_tag : v1c_cands "tag" = [("pep440_tag".toList, "tag".toList), ("tag".toList, "tag".toList)] := by decide +kernel

theorem v1c_mem_cands (n : Str) (f : String) (h : (n, f.toList) ∈ Gen.v1PatternPartFields) :
    (n, f.toList) ∈ v1c_cands f := by
  unfold v1c_cands
  exact List.mem_filter.mpr ⟨h, by simp⟩

/-- the only entry of `PATTERN_PART_FIELDS` for the part `tag` -/
theorem v1c_tag_field (f : Str) (h : ("tag".toList, f) ∈ Gen.v1PatternPartFields) : f = "tag".toList := by
  have e : Gen.v1PatternPartFields.filter (fun pf => pf.1 == "tag".toList) = [("tag".toList, "tag".toList)] := by
    decide +kernel
  have hm : ("tag".toList, f) ∈ Gen.v1PatternPartFields.filter (fun pf => pf.1 == "tag".toList) :=
    List.mem_filter.mpr ⟨h, by simp⟩
  rw [e] at hm
  simp only [List.mem_singleton, Prod.mk.injEq] at hm
  exact hm.2

/-! ### reading one field -/

/-- the hypotheses of the round trip, bundled -/
structure V1Ctx (v : V1Info) (p : V1Pat) : Prop where
  wf : V1Pat.wf p FSet.endOnly = true
  nd : p.groups.Nodup
  gok : v1c_groupsOk p.groups = true
  vok : V1Pat.vok v p = true

theorem v1c_ctx_of (v : V1Info) (p : V1Pat) (hwf : V1Pat.wfTop p = true) (hv : V1Pat.vok v p = true) :
    V1Ctx v p := by
  simp only [V1Pat.wfTop, Bool.and_eq_true] at hwf
  exact ⟨hwf.1.1, (nodupStr_iff _).mp hwf.1.2, hwf.2, hv⟩

theorem V1Ctx.field {v : V1Info} {p : V1Pat} (c : V1Ctx v p) (f n : Str) (h : p.fieldPart f = some n) :
    n ∈ p.parts ∧ (n, f) ∈ Gen.v1PatternPartFields ∧ v1c_partOk v n = true ∧
    (lookup n v1c_partSpecs).isSome = true := by
  obtain ⟨h1, h2⟩ := v1c_fieldPart_part p _ c.wf f n h
  exact ⟨h1, h2, v1c_vok_parts v p c.vok n h1, v1c_wf_parts p _ c.wf n h1⟩

/-- what `int(fvals[f])` sees -/
def v1c_rd (v : V1Info) (p : V1Pat) (f : String) : Option Nat :=
  (p.fieldPart f.toList).bind (fun n => (v1c_partText v n).map strToNat)

theorem v1c_intField {v : V1Info} {p : V1Pat} (c : V1Ctx v p) (f : String) (hf : f.toList ≠ "tag".toList) :
    v1IntField (v1c_fv v p) f = .ok (v1c_rd v p f) := by
  unfold v1IntField v1c_rd
  rw [v1c_fv_lookup]
  cases h : p.fieldPart f.toList with
  | none => rfl
  | some n =>
    obtain ⟨hp, hT, _, _⟩ := c.field _ n h
    rcases v1c_caps_lookup v p _ c.wf c.vok c.nd n hp with ⟨t, ht, hl⟩ | ⟨hn, _, _⟩
    · simp only [Option.map_some, hl, Option.bind_some, ht]
    · subst hn
      exact absurd (v1c_tag_field _ hT) hf

/-- reading field `f`: whichever candidate part of `PATTERN_PART_FIELDS` the pattern shows, a supported
    one reads back `val` after the adjustment `g` (`id`, or the two-digit rule of the year) and has `D`, the
    domain of the field, among its side conditions -/
theorem v1c_rd_generic {v : V1Info} {p : V1Pat} (c : V1Ctx v p) (f : String) (g : Option Nat → Option Nat)
    (hg : g none = none) (val : Option Nat) (D : Prop)
    (hc : ∀ n, (n, f.toList) ∈ v1c_cands f → (lookup n v1c_partSpecs).isSome = true →
      v1c_partOk v n = true → g ((v1c_partText v n).map strToNat) = val ∧ D) :
    g (v1c_rd v p f) = (if p.hasField f = true then val else none) ∧ (p.hasField f = true → D) := by
  unfold v1c_rd V1Pat.hasField
  cases h : p.fieldPart f.toList with
  | none => exact ⟨hg, fun h => by cases h⟩
  | some n =>
    obtain ⟨_, hT, hok, hs⟩ := c.field _ n h
    simp only [Option.bind_some, Option.isSome_some, ↓reduceIte, forall_const]
    exact hc n (v1c_mem_cands n f hT) hs hok

theorem v1c_rd_month {v : V1Info} {p : V1Pat} (c : V1Ctx v p) :
    v1c_rd v p "month" = (if p.hasField "month" = true then v.month else none) ∧
    (p.hasField "month" = true → optIn v.month 1 12 = true) := by
  apply v1c_rd_generic c _ id rfl
  intro n hn hs hok
  rw [v1c_cands_month] at hn
  simp only [List.mem_cons, Prod.mk.injEq, List.not_mem_nil, or_false] at hn
  rcases hn with ⟨rfl, _⟩ | ⟨rfl, _⟩
  · rw [v1c_pt_month]; exact ⟨map_strToNat_map _ _ (strToNat_zfill_natToStr 2), v1c_po_month v ▸ hok⟩
  · rw [v1c_pt_month_short]; exact ⟨map_strToNat_map _ _ strToNat_natToStr, v1c_po_month_short v ▸ hok⟩

theorem v1c_rd_dom {v : V1Info} {p : V1Pat} (c : V1Ctx v p) :
    v1c_rd v p "dom" = (if p.hasField "dom" = true then v.dom else none) ∧
    (p.hasField "dom" = true → optIn v.dom 1 31 = true) := by
  apply v1c_rd_generic c _ id rfl
  intro n hn hs hok
  rw [v1c_cands_dom] at hn
  simp only [List.mem_cons, Prod.mk.injEq, List.not_mem_nil, or_false] at hn
  rcases hn with ⟨rfl, _⟩ | ⟨rfl, _⟩
  · rw [v1c_pt_dom]; exact ⟨map_strToNat_map _ _ (strToNat_zfill_natToStr 2), v1c_po_dom v ▸ hok⟩
  · exact (v1c_no_spec (n := "dom_short") (by decide) hs).elim

theorem v1c_rd_doy {v : V1Info} {p : V1Pat} (c : V1Ctx v p) :
    v1c_rd v p "doy" = (if p.hasField "doy" = true then v.doy else none) ∧
    (p.hasField "doy" = true → optIn v.doy 1 366 = true) := by
  apply v1c_rd_generic c _ id rfl
  intro n hn hs hok
  rw [v1c_cands_doy] at hn
  simp only [List.mem_cons, Prod.mk.injEq, List.not_mem_nil, or_false] at hn
  rcases hn with ⟨rfl, _⟩ | ⟨rfl, _⟩
  · rw [v1c_pt_doy]; exact ⟨map_strToNat_map _ _ (strToNat_zfill_natToStr 3), v1c_po_doy v ▸ hok⟩
  · exact (v1c_no_spec (n := "doy_short") (by decide) hs).elim

theorem v1c_rd_quarter {v : V1Info} {p : V1Pat} (c : V1Ctx v p) :
    v1c_rd v p "quarter" = (if p.hasField "quarter" = true then v.quarter else none) ∧
    (p.hasField "quarter" = true → optIn v.quarter 1 4 = true) := by
  apply v1c_rd_generic c _ id rfl
  intro n hn hs hok
  rw [v1c_cands_quarter] at hn
  simp only [List.mem_cons, Prod.mk.injEq, List.not_mem_nil, or_false] at hn
  rcases hn with ⟨rfl, _⟩
  rw [v1c_pt_quarter]; exact ⟨map_strToNat_map _ _ strToNat_natToStr, v1c_po_quarter v ▸ hok⟩

theorem v1c_rd_major {v : V1Info} {p : V1Pat} (c : V1Ctx v p) :
    v1c_rd v p "major" = if p.hasField "major" = true then some v.major else none := by
  refine (v1c_rd_generic c "major" id rfl _ True ?_).1
  intro n hn hs _
  rw [v1c_cands_major] at hn
  simp only [List.mem_cons, Prod.mk.injEq, List.not_mem_nil, or_false] at hn
  rcases hn with ⟨rfl, _⟩
  rw [v1c_pt_MAJOR]; simp only [Option.map_some, strToNat_natToStr, id_eq, and_self]

theorem v1c_rd_minor {v : V1Info} {p : V1Pat} (c : V1Ctx v p) :
    v1c_rd v p "minor" = if p.hasField "minor" = true then some v.minor else none := by
  refine (v1c_rd_generic c "minor" id rfl _ True ?_).1
  intro n hn hs _
  rw [v1c_cands_minor] at hn
  simp only [List.mem_cons, Prod.mk.injEq, List.not_mem_nil, or_false] at hn
  rcases hn with ⟨rfl, _⟩ | ⟨rfl, _⟩ | ⟨rfl, _⟩ | ⟨rfl, _⟩ | ⟨rfl, _⟩
  · rw [v1c_pt_MINOR]; simp only [Option.map_some, strToNat_natToStr, id_eq, and_self]
  · rw [v1c_pt_MM]; simp only [Option.map_some, strToNat_zfill_natToStr, id_eq, and_self]
  · rw [v1c_pt_MMM]; simp only [Option.map_some, strToNat_zfill_natToStr, id_eq, and_self]
  · rw [v1c_pt_MMMM]; simp only [Option.map_some, strToNat_zfill_natToStr, id_eq, and_self]
  · rw [v1c_pt_MMMMM]; simp only [Option.map_some, strToNat_zfill_natToStr, id_eq, and_self]

theorem v1c_rd_patch {v : V1Info} {p : V1Pat} (c : V1Ctx v p) :
    v1c_rd v p "patch" = if p.hasField "patch" = true then some v.patch else none := by
  refine (v1c_rd_generic c "patch" id rfl _ True ?_).1
  intro n hn hs _
  rw [v1c_cands_patch] at hn
  simp only [List.mem_cons, Prod.mk.injEq, List.not_mem_nil, or_false] at hn
  rcases hn with ⟨rfl, _⟩ | ⟨rfl, _⟩ | ⟨rfl, _⟩ | ⟨rfl, _⟩ | ⟨rfl, _⟩
  · rw [v1c_pt_PP]; simp only [Option.map_some, strToNat_zfill_natToStr, id_eq, and_self]
  · rw [v1c_pt_PPP]; simp only [Option.map_some, strToNat_zfill_natToStr, id_eq, and_self]
  · rw [v1c_pt_PPPP]; simp only [Option.map_some, strToNat_zfill_natToStr, id_eq, and_self]
  · rw [v1c_pt_PPPPP]; simp only [Option.map_some, strToNat_zfill_natToStr, id_eq, and_self]
  · rw [v1c_pt_PATCH]; simp only [Option.map_some, strToNat_natToStr, id_eq, and_self]

/-- `int(year)`, `+ 2000` below 100 -/
def v1c_yadj (y : Nat) : Nat := if y < 100 then y + 2000 else y

/-- the year read back (with the two-digit rule) is the year of the record; it is at least 1000 -/
theorem v1c_rd_year {v : V1Info} {p : V1Pat} (c : V1Ctx v p) :
    (v1c_rd v p "year").map v1c_yadj = (if p.hasField "year" = true then v.year else none) ∧
    (p.hasField "year" = true → optIn v.year 1000 9999 = true) := by
  apply v1c_rd_generic c "year" (Option.map v1c_yadj) rfl
  intro n hn hs hok
  rw [v1c_cands_year] at hn
  simp only [List.mem_cons, Prod.mk.injEq, List.not_mem_nil, or_false] at hn
  have full : ∀ o : Option Nat, optIn o 1000 9999 = true →
      ((o.map natToStr).map strToNat).map v1c_yadj = o := by
    intro o ho
    obtain ⟨y, rfl, hy1, _⟩ := optIn_some o _ _ ho
    simp only [Option.map_some, strToNat_natToStr, v1c_yadj, Option.some.injEq]
    split <;> omega
  rcases hn with ⟨rfl, _⟩ | ⟨rfl, _⟩ | ⟨rfl, _⟩
  · rw [v1c_po_year] at hok
    rw [v1c_pt_year]
    exact ⟨full _ hok, hok⟩
  · rw [v1c_po_yy] at hok
    rw [v1c_pt_yy]
    obtain ⟨y, hy, h1, h2⟩ := optIn_some _ _ _ hok
    obtain ⟨_, _, hr⟩ := v1c_yy_facts y h1 h2
    rw [hy]
    refine ⟨?_, by simp only [optIn, Bool.and_eq_true, decide_eq_true_eq]; omega⟩
    simp only [Option.map_some, Option.some.injEq, v1c_yadj]
    split <;> omega
  · rw [v1c_po_yyyy] at hok
    rw [v1c_pt_yyyy]
    exact ⟨full _ hok, hok⟩

/-! ### `_parse_field_values` after its reads -/

/-- the tag `_parse_field_values` makes of the `tag` entry -/
def v1c_tagOf (tagF : Option (Option Str)) : Str :=
  let tag0 : Str := match tagF with
    | some (some t) => t
    | _ => "final".toList
  (lookup tag0 Gen.tagByPep440Tag).getD tag0

def v1c_qOf (q0 month : Option Nat) : Option Nat :=
  match q0 with
  | some q => some q
  | none => if truthy month then some (quarterFromMonth (month.getD 0)) else none

def v1c_core (tagF bidF : Option (Option Str)) (year0 doy0 m0 d0 quarter0 : Option Nat) (major minor patch : Nat) :
    Except V1Err V1Info := do
  let bid ← match bidF with
    | none => pure "0001".toList
    | some (some s) => pure s
    | some none => throw .unsupported
  let year := year0.map v1c_yadj
  let (month, dom) ←
    if truthy year && truthy doy0 then
      match dateFromDoy (year.getD 0) (doy0.getD 0) with
      | some d => pure (some d.2.1, some d.2.2)
      | none => throw .overflow
    else (pure (m0, d0) : Except V1Err _)
  let (doy, isoWeek, usWeek) ←
    if truthy year && truthy month && truthy dom then
      let y := year.getD 0
      let m := month.getD 0
      let d := dom.getD 0
      if validDate y m d then pure (some (dayOfYear y m d), some (weekW y m d), some (weekU y m d))
      else throw .valueError
    else (pure (doy0, none, none) : Except V1Err _)
  pure { year := year, quarter := v1c_qOf quarter0 month, month := month, dom := dom, doy := doy, isoWeek := isoWeek,
         usWeek := usWeek, major := major, minor := minor, patch := patch, bid := bid, tag := v1c_tagOf tagF }

theorem v1c_pfv_eq (fv : FVals) (y0 j0 m0 d0 q0 a b c : Option Nat)
    (h1 : v1IntField fv "year" = .ok y0) (h2 : v1IntField fv "doy" = .ok j0)
    (h3 : v1IntField fv "month" = .ok m0) (h4 : v1IntField fv "dom" = .ok d0)
    (h5 : v1IntField fv "quarter" = .ok q0) (h6 : v1IntField fv "major" = .ok a)
    (h7 : v1IntField fv "minor" = .ok b) (h8 : v1IntField fv "patch" = .ok c) :
    v1ParseFieldValues fv =
      v1c_core (lookup "tag".toList fv) (lookup "bid".toList fv) y0 j0 m0 d0 q0 (a.getD 0) (b.getD 0) (c.getD 0) := by
  unfold v1ParseFieldValues v1IntFieldOr0
  rw [h1, h2, h3, h4, h5, h6, h7, h8]
  rfl

theorem v1c_truthy_none : truthy none = false := rfl

theorem v1c_validDate_pos (y m d : Nat) (h : validDate y m d = true) : y ≠ 0 ∧ m ≠ 0 ∧ d ≠ 0 := by
  simp only [validDate, Bool.and_eq_true, decide_eq_true_eq] at h
  omega

/-- year and day of year shown: month and day come from `date_from_doy` -/
theorem v1c_core_doy (tagF : Option (Option Str)) (ob : Option Str) (y0 : Option Nat) (y j : Nat)
    (hY : y0.map v1c_yadj = some y) (hj : j ≠ 0) (d : Nat × Nat × Nat) (hd : dateFromDoy y j = some d)
    (hv : validDate y d.2.1 d.2.2 = true) (m0 d0 q0 : Option Nat) (a b c : Nat) :
    v1c_core tagF (ob.map some) y0 (some j) m0 d0 q0 a b c =
      .ok { year := some y, quarter := v1c_qOf q0 (some d.2.1), month := some d.2.1, dom := some d.2.2,
            doy := some (dayOfYear y d.2.1 d.2.2), isoWeek := some (weekW y d.2.1 d.2.2),
            usWeek := some (weekU y d.2.1 d.2.2), major := a, minor := b, patch := c,
            bid := ob.getD "0001".toList, tag := v1c_tagOf tagF } := by
  obtain ⟨hy, hm, hdd⟩ := v1c_validDate_pos _ _ _ hv
  have t1 := truthy_some y hy
  have t2 := truthy_some j hj
  have t3 := truthy_some _ hm
  have t4 := truthy_some _ hdd
  unfold v1c_core
  rw [hY]
  cases ob <;> simp only [Option.map_none, Option.map_some, t1, t2, Bool.and_self, ↓reduceIte, Option.getD_some,
      hd, bind, Except.bind, pure, Except.pure, t3, t4, hv, Option.getD_none]

/-- year, month and day shown (no day of year): the date is checked, the day of year computed -/
theorem v1c_core_ymd (tagF : Option (Option Str)) (ob : Option Str) (y0 : Option Nat) (y m d : Nat)
    (hY : y0.map v1c_yadj = some y) (hv : validDate y m d = true) (q0 : Option Nat) (a b c : Nat) :
    v1c_core tagF (ob.map some) y0 none (some m) (some d) q0 a b c =
      .ok { year := some y, quarter := v1c_qOf q0 (some m), month := some m, dom := some d,
            doy := some (dayOfYear y m d), isoWeek := some (weekW y m d),
            usWeek := some (weekU y m d), major := a, minor := b, patch := c,
            bid := ob.getD "0001".toList, tag := v1c_tagOf tagF } := by
  obtain ⟨hy, hm, hdd⟩ := v1c_validDate_pos _ _ _ hv
  have t1 := truthy_some y hy
  have t3 := truthy_some _ hm
  have t4 := truthy_some _ hdd
  unfold v1c_core
  rw [hY]
  cases ob <;> simp only [Option.map_none, Option.map_some, t1, v1c_truthy_none, Bool.and_false, Bool.false_eq_true,
      Bool.and_self, ↓reduceIte, Option.getD_some, bind, Except.bind, pure, Except.pure, t3, t4, hv, Option.getD_none]

/-- otherwise every calendar field is passed through -/
theorem v1c_core_pass (tagF : Option (Option Str)) (ob : Option Str) (y0 Y j0 m0 d0 q0 : Option Nat)
    (hY : y0.map v1c_yadj = Y) (h1 : (truthy Y && truthy j0) = false)
    (h2 : (truthy Y && truthy m0 && truthy d0) = false) (a b c : Nat) :
    v1c_core tagF (ob.map some) y0 j0 m0 d0 q0 a b c =
      .ok { year := Y, quarter := v1c_qOf q0 m0, month := m0, dom := d0,
            doy := j0, isoWeek := none, usWeek := none, major := a, minor := b, patch := c,
            bid := ob.getD "0001".toList, tag := v1c_tagOf tagF } := by
  unfold v1c_core
  rw [hY]
  cases ob <;> simp only [Option.map_none, Option.map_some, h1, h2, Bool.false_eq_true, ↓reduceIte, bind,
      Except.bind, pure, Except.pure, Option.getD_none, Option.getD_some]


/-! ### the id and the tag -/

theorem v1c_bid_read {v : V1Info} {p : V1Pat} (c : V1Ctx v p) :
    ∃ ob : Option Str, lookup "bid".toList (v1c_fv v p) = ob.map some ∧
      ∀ n, p.fieldPart "bid".toList = some n → ∃ t, ob = some t ∧ v1c_partText v n = some t ∧
        (n = "build_no".toList ∨ n = "bid".toList ∨ n = "BID".toList) := by
  rw [v1c_fv_lookup]
  cases h : p.fieldPart "bid".toList with
  | none => exact ⟨none, rfl, fun n hn => by cases hn⟩
  | some n =>
    obtain ⟨hp, hT, hok, hs⟩ := c.field _ n h
    rcases v1c_caps_lookup v p _ c.wf c.vok c.nd n hp with ⟨t, ht, hl⟩ | ⟨hn, _, _⟩
    · refine ⟨some t, by simp only [Option.map_some, hl], ?_⟩
      intro n' hn'
      have e := (Option.some.inj hn').symm
      subst e
      refine ⟨t, rfl, ht, ?_⟩
      have hn := v1c_mem_cands n' "bid" hT
      rw [v1c_cands_bid] at hn
      simp only [List.mem_cons, Prod.mk.injEq, List.not_mem_nil, or_false] at hn
      rcases hn with ⟨rfl, _⟩ | ⟨rfl, _⟩ | ⟨rfl, _⟩ | ⟨rfl, _⟩ | ⟨rfl, _⟩ | ⟨rfl, _⟩ | ⟨rfl, _⟩ | ⟨rfl, _⟩ | ⟨rfl, _⟩
      · exact .inl rfl
      · exact .inr (.inl rfl)
      · exact .inr (.inr rfl)
      all_goals exact (v1c_no_spec (by decide) hs).elim
    · subst hn
      have := v1c_tag_field _ hT
      exact absurd this (by decide)

theorem v1c_tags_fixed : v1c_tags.all (fun t => (lookup t Gen.tagByPep440Tag).getD t == t) = true := by
  decide +kernel

theorem v1c_tag_read {v : V1Info} {p : V1Pat} (c : V1Ctx v p) (h : p.hasField "tag" = true) :
    v1c_tagOf (lookup "tag".toList (v1c_fv v p)) = v.tag := by
  rw [v1c_fv_lookup]
  unfold V1Pat.hasField at h
  cases hf : p.fieldPart "tag".toList with
  | none => rw [hf] at h; cases h
  | some n =>
    obtain ⟨hp, hT, hok, hs⟩ := c.field _ n hf
    have hn := v1c_mem_cands n "tag" hT
    rw [v1c_cands_tag] at hn
    simp only [List.mem_cons, Prod.mk.injEq, List.not_mem_nil, or_false] at hn
    rcases hn with ⟨rfl, _⟩ | ⟨rfl, _⟩
    · exact (v1c_no_spec (by decide) hs).elim
    · rw [v1c_po_tag] at hok
      rcases v1c_caps_lookup v p _ c.wf c.vok c.nd _ hp with ⟨t, ht, hl⟩ | ⟨_, hl, hfin⟩
      · rw [v1c_pt_tag] at ht
        have e := (Option.some.inj ht).symm
        subst e
        simp only [Option.map_some, hl, v1c_tagOf]
        have ht := v1c_tags_fixed
        simp only [List.all_eq_true, beq_iff_eq] at ht
        exact ht v.tag (by simpa using hok)
      · simp only [Option.map_some, hl, v1c_tagOf]
        simp only [v1c_isFinal, beq_iff_eq] at hfin
        rw [hfin]
        decide

/-! ### the record read back agrees field by field -/

/-- "every field the pattern shows is read back" -/
structure V1FA (v v' : V1Info) (p : V1Pat) : Prop where
  year : p.hasField "year" = true → v'.year = v.year
  month : p.hasField "month" = true → v'.month = v.month
  dom : p.hasField "dom" = true → v'.dom = v.dom
  doy : p.hasField "doy" = true → v'.doy = v.doy
  quarter : p.hasField "quarter" = true → v'.quarter = v.quarter
  major : p.hasField "major" = true → v'.major = v.major
  minor : p.hasField "minor" = true → v'.minor = v.minor
  patch : p.hasField "patch" = true → v'.patch = v.patch
  bid : ∀ n, p.fieldPart "bid".toList = some n → v1c_partText v' n = v1c_partText v n
  tag : p.hasField "tag" = true → v'.tag = v.tag

theorem v1c_fa_of {v : V1Info} {p : V1Pat} (c : V1Ctx v p) (v' : V1Info) (M : Option Nat) (ob : Option Str)
    (hob : ∀ n, p.fieldPart "bid".toList = some n → ∃ t, ob = some t ∧ v1c_partText v n = some t ∧
        (n = "build_no".toList ∨ n = "bid".toList ∨ n = "BID".toList))
    (hq : v'.quarter = v1c_qOf (v1c_rd v p "quarter") M)
    (hmaj : v'.major = (v1c_rd v p "major").getD 0) (hmin : v'.minor = (v1c_rd v p "minor").getD 0)
    (hpat : v'.patch = (v1c_rd v p "patch").getD 0) (hbid : v'.bid = ob.getD "0001".toList)
    (htag : v'.tag = v1c_tagOf (lookup "tag".toList (v1c_fv v p)))
    (hy : p.hasField "year" = true → v'.year = v.year) (hm : p.hasField "month" = true → v'.month = v.month)
    (hd : p.hasField "dom" = true → v'.dom = v.dom) (hj : p.hasField "doy" = true → v'.doy = v.doy) :
    V1FA v v' p := by
  refine ⟨hy, hm, hd, hj, ?_, ?_, ?_, ?_, ?_, ?_⟩
  · intro h
    obtain ⟨q, hq', _, _⟩ := optIn_some _ _ _ ((v1c_rd_quarter c).2 h)
    rw [hq, (v1c_rd_quarter c).1, h, hq']
    rfl
  · intro h
    rw [hmaj, v1c_rd_major c, h]; rfl
  · intro h
    rw [hmin, v1c_rd_minor c, h]; rfl
  · intro h
    rw [hpat, v1c_rd_patch c, h]; rfl
  · intro n hn
    obtain ⟨t, hobt, ht, hcases⟩ := hob n hn
    rw [hobt] at hbid
    simp only [Option.getD_some] at hbid
    rcases hcases with rfl | rfl | rfl
    · rw [v1c_pt_build_no, hbid, ht]
    · rw [v1c_pt_bid, hbid, ht]
    · rw [v1c_pt_BID] at ht
      have e := (Option.some.inj ht).symm
      rw [v1c_pt_BID, v1c_pt_BID, hbid, e, strToNat_natToStr]
  · intro h
    rw [htag, v1c_tag_read c h]

/-- `_parse_field_values` on the field values of the match: a record that agrees on every field shown -/
theorem v1c_readback {v : V1Info} {p : V1Pat} (c : V1Ctx v p) (hcal : V1Pat.calOk v p = true) :
    ∃ v', v1ParseFieldValues (v1c_fv v p) = .ok v' ∧ V1FA v v' p := by
  rw [v1c_pfv_eq (v1c_fv v p) _ _ _ _ _ _ _ _ (v1c_intField c "year" (by decide))
    (v1c_intField c "doy" (by decide)) (v1c_intField c "month" (by decide))
    (v1c_intField c "dom" (by decide)) (v1c_intField c "quarter" (by decide))
    (v1c_intField c "major" (by decide)) (v1c_intField c "minor" (by decide))
    (v1c_intField c "patch" (by decide))]
  obtain ⟨ob, hob, hobn⟩ := v1c_bid_read c
  rw [hob]
  obtain ⟨hyr, hydom⟩ := v1c_rd_year c
  obtain ⟨hmr, hmdom⟩ := v1c_rd_month c
  obtain ⟨hdr, hddom⟩ := v1c_rd_dom c
  obtain ⟨hjr, hjdom⟩ := v1c_rd_doy c
  cases hY : p.hasField "year" with
  | false =>
    -- no year: nothing is derived
    rw [hY] at hyr
    simp only [Bool.false_eq_true, ↓reduceIte] at hyr
    refine ⟨_, v1c_core_pass _ ob _ none _ _ _ _ hyr (by simp [v1c_truthy_none]) (by simp [v1c_truthy_none]) _ _ _,
      v1c_fa_of c _ _ ob hobn rfl rfl rfl rfl rfl rfl (fun h => by rw [hY] at h; cases h) ?_ ?_ ?_⟩
    · intro h; show v1c_rd v p "month" = v.month; rw [hmr, h]; rfl
    · intro h; show v1c_rd v p "dom" = v.dom; rw [hdr, h]; rfl
    · intro h; show v1c_rd v p "doy" = v.doy; rw [hjr, h]; rfl
  | true =>
    rw [hY] at hyr
    simp only [↓reduceIte] at hyr
    obtain ⟨y, hvy, hy1, _⟩ := optIn_some _ _ _ (hydom hY)
    rw [hvy] at hyr
    cases hJ : p.hasField "doy" with
    | true =>
      -- year and day of year: `date_from_doy`
      obtain ⟨j, hvj, hj1, _⟩ := optIn_some _ _ _ (hjdom hJ)
      rw [hJ, hvj] at hjr
      simp only [↓reduceIte] at hjr
      simp only [V1Pat.calOk, hY, hJ, Bool.and_self, ↓reduceIte, hvy, hvj] at hcal
      cases hdd : dateFromDoy y j with
      | none => rw [hdd] at hcal; cases hcal
      | some d =>
        rw [hdd] at hcal
        simp only [Bool.and_eq_true, Bool.or_eq_true, Bool.not_eq_true', beq_iff_eq] at hcal
        obtain ⟨⟨⟨hcm, hcd⟩, hval⟩, hdoy⟩ := hcal
        rw [hjr]
        refine ⟨_, v1c_core_doy _ ob _ y j hyr (by omega) d hdd hval _ _ _ _ _ _,
          v1c_fa_of c _ _ ob hobn rfl rfl rfl rfl rfl rfl ?_ ?_ ?_ ?_⟩
        · intro _; exact hvy.symm
        · intro h
          rcases hcm with h' | h'
          · rw [h] at h'; cases h'
          · exact h'.symm
        · intro h
          rcases hcd with h' | h'
          · rw [h] at h'; cases h'
          · exact h'.symm
        · intro _
          show some (dayOfYear y d.2.1 d.2.2) = v.doy
          rw [hdoy, hvj]
    | false =>
      rw [hJ] at hjr
      simp only [Bool.false_eq_true, ↓reduceIte] at hjr
      rw [hjr]
      cases hM : p.hasField "month" with
      | false =>
        rw [hM] at hmr
        simp only [Bool.false_eq_true, ↓reduceIte] at hmr
        rw [hmr]
        refine ⟨_, v1c_core_pass _ ob _ _ none none _ _ hyr (by simp [v1c_truthy_none])
          (by simp [v1c_truthy_none]) _ _ _,
          v1c_fa_of c _ _ ob hobn rfl rfl rfl rfl rfl rfl ?_ (fun h => by rw [hM] at h; cases h) ?_
            (fun h => by rw [hJ] at h; cases h)⟩
        · intro _; exact hvy.symm
        · intro h; show v1c_rd v p "dom" = v.dom; rw [hdr, h]; rfl
      | true =>
        rw [hM] at hmr
        simp only [↓reduceIte] at hmr
        obtain ⟨m, hvm, hm1, _⟩ := optIn_some _ _ _ (hmdom hM)
        rw [hvm] at hmr
        rw [hmr]
        cases hD : p.hasField "dom" with
        | false =>
          rw [hD] at hdr
          simp only [Bool.false_eq_true, ↓reduceIte] at hdr
          rw [hdr]
          refine ⟨_, v1c_core_pass _ ob _ _ none _ none _ hyr (by simp [v1c_truthy_none])
            (by simp [v1c_truthy_none]) _ _ _,
            v1c_fa_of c _ _ ob hobn rfl rfl rfl rfl rfl rfl ?_ ?_ (fun h => by rw [hD] at h; cases h)
              (fun h => by rw [hJ] at h; cases h)⟩
          · intro _; exact hvy.symm
          · intro _; exact hvm.symm
        | true =>
          -- year, month and day: the date is checked
          rw [hD] at hdr
          simp only [↓reduceIte] at hdr
          obtain ⟨d, hvd, hd1, _⟩ := optIn_some _ _ _ (hddom hD)
          rw [hvd] at hdr
          rw [hdr]
          simp only [V1Pat.calOk, hY, hJ, hM, hD, Bool.and_false, Bool.false_eq_true, Bool.and_self,
            ↓reduceIte, hvy, hvm, hvd] at hcal
          refine ⟨_, v1c_core_ymd _ ob _ y m d hyr hcal _ _ _ _,
            v1c_fa_of c _ _ ob hobn rfl rfl rfl rfl rfl rfl ?_ ?_ ?_ (fun h => by rw [hJ] at h; cases h)⟩
          · intro _; exact hvy.symm
          · intro _; exact hvm.symm
          · intro _; exact hvd.symm

/-! ### from fields to parts, and rendering again -/

theorem v1c_has_of_part {v : V1Info} {p : V1Pat} (c : V1Ctx v p) (n : Str) (f : String) (hn : n ∈ p.parts)
    (hT : (n, f.toList) ∈ Gen.v1PatternPartFields) :
    p.hasField f = true ∧ p.fieldPart f.toList = some n := by
  have h := v1c_fieldPart_of p c.gok n f.toList (v1c_parts_sub_groups p n hn) hT
  exact ⟨by unfold V1Pat.hasField; rw [h]; rfl, h⟩

theorem v1c_agree_of_fa {v : V1Info} {p : V1Pat} (c : V1Ctx v p) (v' : V1Info) (fa : V1FA v v' p) :
    ∀ n ∈ p.parts, v1c_partText v' n = v1c_partText v n := by
  intro n hn
  have hs := v1c_wf_parts p _ c.wf n hn
  cases hl : lookup n v1c_partSpecs with
  | none => rw [hl] at hs; cases hs
  | some s =>
    have hmem := lookup_mem hl
    simp only [v1c_partSpecs, List.mem_cons, Prod.mk.injEq, List.not_mem_nil, or_false] at hmem
    rcases hmem with ⟨rfl, _⟩ | ⟨rfl, _⟩ | ⟨rfl, _⟩ | ⟨rfl, _⟩ | ⟨rfl, _⟩ | ⟨rfl, _⟩ |
      ⟨rfl, _⟩ | ⟨rfl, _⟩ | ⟨rfl, _⟩ | ⟨rfl, _⟩ | ⟨rfl, _⟩ | ⟨rfl, _⟩ | ⟨rfl, _⟩ |
      ⟨rfl, _⟩ | ⟨rfl, _⟩ | ⟨rfl, _⟩ | ⟨rfl, _⟩ | ⟨rfl, _⟩ | ⟨rfl, _⟩ | ⟨rfl, _⟩ |
      ⟨rfl, _⟩ | ⟨rfl, _⟩ | ⟨rfl, _⟩
    · rw [v1c_pt_year, v1c_pt_year, fa.year (v1c_has_of_part c _ "year" hn (by decide)).1]
    · rw [v1c_pt_yyyy, v1c_pt_yyyy, fa.year (v1c_has_of_part c _ "year" hn (by decide)).1]
    · rw [v1c_pt_yy, v1c_pt_yy, fa.year (v1c_has_of_part c _ "year" hn (by decide)).1]
    · rw [v1c_pt_quarter, v1c_pt_quarter, fa.quarter (v1c_has_of_part c _ "quarter" hn (by decide)).1]
    · rw [v1c_pt_month, v1c_pt_month, fa.month (v1c_has_of_part c _ "month" hn (by decide)).1]
    · rw [v1c_pt_month_short, v1c_pt_month_short, fa.month (v1c_has_of_part c _ "month" hn (by decide)).1]
    · rw [v1c_pt_dom, v1c_pt_dom, fa.dom (v1c_has_of_part c _ "dom" hn (by decide)).1]
    · rw [v1c_pt_doy, v1c_pt_doy, fa.doy (v1c_has_of_part c _ "doy" hn (by decide)).1]
    · rw [v1c_pt_MAJOR, v1c_pt_MAJOR, fa.major (v1c_has_of_part c _ "major" hn (by decide)).1]
    · rw [v1c_pt_MINOR, v1c_pt_MINOR, fa.minor (v1c_has_of_part c _ "minor" hn (by decide)).1]
    · rw [v1c_pt_PATCH, v1c_pt_PATCH, fa.patch (v1c_has_of_part c _ "patch" hn (by decide)).1]
    · rw [v1c_pt_MM, v1c_pt_MM, fa.minor (v1c_has_of_part c _ "minor" hn (by decide)).1]
    · rw [v1c_pt_MMM, v1c_pt_MMM, fa.minor (v1c_has_of_part c _ "minor" hn (by decide)).1]
    · rw [v1c_pt_MMMM, v1c_pt_MMMM, fa.minor (v1c_has_of_part c _ "minor" hn (by decide)).1]
    · rw [v1c_pt_MMMMM, v1c_pt_MMMMM, fa.minor (v1c_has_of_part c _ "minor" hn (by decide)).1]
    · rw [v1c_pt_PP, v1c_pt_PP, fa.patch (v1c_has_of_part c _ "patch" hn (by decide)).1]
    · rw [v1c_pt_PPP, v1c_pt_PPP, fa.patch (v1c_has_of_part c _ "patch" hn (by decide)).1]
    · rw [v1c_pt_PPPP, v1c_pt_PPPP, fa.patch (v1c_has_of_part c _ "patch" hn (by decide)).1]
    · rw [v1c_pt_PPPPP, v1c_pt_PPPPP, fa.patch (v1c_has_of_part c _ "patch" hn (by decide)).1]
    · exact fa.bid _ (v1c_has_of_part c _ "bid" hn (by decide)).2
    · exact fa.bid _ (v1c_has_of_part c _ "bid" hn (by decide)).2
    · exact fa.bid _ (v1c_has_of_part c _ "bid" hn (by decide)).2
    · rw [v1c_pt_tag, v1c_pt_tag, fa.tag (v1c_has_of_part c _ "tag" hn (by decide)).1]

theorem v1c_render_of_agree (v v' : V1Info) : ∀ p : V1Pat,
    (∀ n ∈ p.parts, v1c_partText v' n = v1c_partText v n) → V1Pat.render v' p = V1Pat.render v p := by
  intro p
  induction p with
  | done => intro _; rfl
  | lit c rest ih =>
    intro h
    simp only [V1Pat.render, ih (fun n hn => h n (by simpa [V1Pat.parts] using hn))]
  | part m rest ih =>
    intro h
    simp only [V1Pat.render, h m (by simp [V1Pat.parts]),
      ih (fun n hn => h n (by simp [V1Pat.parts, hn]))]
  | comp m body rest ihb ihr =>
    intro h
    simp only [V1Pat.render, ihb (fun n hn => h n (by simp [V1Pat.parts, hn])),
      ihr (fun n hn => h n (by simp [V1Pat.parts, hn]))]
  | rel rest ih =>
    intro h
    have ht := h "tag".toList (by simp [V1Pat.parts])
    rw [v1c_pt_tag, v1c_pt_tag] at ht
    have ht := Option.some.inj ht
    have hr : v1c_relText v' = v1c_relText v := by
      unfold v1c_relText v1c_isFinal
      rw [ht]
    simp only [V1Pat.render, hr, ih (fun n hn => h n (by simp [V1Pat.parts, hn]))]

/-! ### THE ROUND TRIP -/

/-- `parse_version_info` is `compile_pattern` followed by `v1c_parseWithRe` -/
theorem v1c_parseVersionInfo_of (s raw : Str) (r : Re) (h : v1CompilePattern raw raw = .ok r) :
    v1ParseVersionInfo s raw = v1c_parseWithRe r s := by
  unfold v1ParseVersionInfo
  rw [h]
  rfl

theorem v1c_parseVersionInfo_err (s raw : Str) (e : V1Err) (h : v1CompilePattern raw raw = .error e) :
    v1ParseVersionInfo s raw = .error e := by
  unfold v1ParseVersionInfo
  rw [h]

/-- for a supported legacy pattern tree and a record in its domain whose calendar fields are
    consistent (`calOk`): the rendered text is matched in full, read back as a record that agrees
    on every part of the pattern, and rendering that record reproduces the text -/
theorem v1_roundtrip (p : V1Pat) (v : V1Info) (r : Re) (hwf : V1Pat.wfTop p = true)
    (hv : V1Pat.vok v p = true) (hc : V1Pat.calOk v p = true) (hr : V1Pat.compile p = some r) :
    ∃ v', v1c_parseWithRe r (V1Pat.render v p) = .ok v' ∧ V1Pat.agree v v' p = true ∧
      V1Pat.render v' p = V1Pat.render v p := by
  have c := v1c_ctx_of v p hwf hv
  obtain ⟨v', hp, fa⟩ := v1c_readback c hc
  have hag := v1c_agree_of_fa c v' fa
  refine ⟨v', ?_, ?_, v1c_render_of_agree v v' p hag⟩
  · unfold v1c_parseWithRe
    rw [v1_compose_match v p r c.wf hv hr]
    simp only [Nat.lt_irrefl, ↓reduceIte]
    rw [v1c_groupdict v p r _ c.wf c.nd hr, v1c_parseGroups_eq v p c.gok, hp]
  · unfold V1Pat.agree
    rw [List.all_eq_true]
    intro n hn
    rw [beq_iff_eq]
    exact hag n hn

/-- the calendar hypothesis holds for every record whose calendar fields are those of a date -/
theorem v1c_calOk_of_date (p : V1Pat) (v : V1Info) (y m d : Nat) (hd : validDate y m d = true)
    (hy : v.year = some y) (hm : v.month = some m) (hdm : v.dom = some d)
    (hj : v.doy = some (dayOfYear y m d)) : V1Pat.calOk v p = true := by
  unfold V1Pat.calOk
  rw [hy, hm, hdm, hj]
  split
  · simp only [dateFromDoy_of_valid y m d hd, BEq.rfl, Bool.or_true, Bool.and_self, hd]
  · split
    · exact hd
    · rfl


end BV
