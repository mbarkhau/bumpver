/-
  Proofs/Tie_normalizePattern.lean — the definition GENERATED from the Python source of
  `v2patterns.normalize_pattern` (Gen/F_normalizePattern.lean; it calls the generated `_convert_to_pep440`)
  equals the hand model `BV.normalizePattern` on all inputs, over the generated tables.
-/
import BumpverVerif.Gen.F_normalizePattern
import BumpverVerif.Proofs.Tie_convertToPep440
namespace BV
open PyP

theorem tie_normalizePattern (version_pattern raw_pattern : Str) :
    GenF.normalizePattern Gen.partFields Gen.pep440PartSubstitutions version_pattern raw_pattern =
      some (normalizePattern version_pattern raw_pattern) := by
  simp only [GenF.normalizePattern, normalizePattern, tie_convertToPep440_gen_total]
  -- the two `in` tests, however the source nests or negates them: every leaf follows from the tests on its path
  repeat' split
  all_goals first | rfl | simp_all

end BV
