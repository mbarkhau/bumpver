/-
  Proofs/Tie_iterResetFieldItems.lean — the definition GENERATED from the Python source of
  `v2version._iter_reset_field_items` (a generator, translated as the list it yields) equals the hand
  model `BV.resetItemsGo … false`.

  The translator renders the loop as a `List.foldl` over `Except PErr (yielded × has_reset)` (the
  `getattr(old_vinfo, field)` with a run-time name can raise AttributeError).  The proof (1) shows that one
  generated loop step is `resetStep`, for EVERY state and field name, using `tie_getattrVInfo`;
  (2) evaluates a fold of `resetStep` over any list of KNOWN field names to the model's `resetItemsGo`;
  (3) shows that an unknown name makes the fold fail.

  Python and model differ on names that are not fields of V2VersionInfo: Python raises AttributeError
  (`_iter_reset_field_items(["nope"], v, v)`), the model's `VInfo.get` answers `.none` and goes on.  The
  callers pass the VALUES of `PATTERN_PART_FIELDS`, which are fields.  `tie_iterResetFieldItems_full`
  states both cases; `tie_iterResetFieldItems` is the case of known names.
-/
import BumpverVerif.Gen.F_iterResetFieldItems
import BumpverVerif.Proofs.Tie_VInfoDyn
import BumpverVerif.Proofs.Basics
namespace BV

namespace TieA

/-- `getattr(old, f) != getattr(cur, f)`, AttributeError for a name that is not a field -/
def resetGate (old cur : VInfo) (f : Str) (y : List (Str × Str)) (hr : Bool) :
    Except PErr (List (Str × Str) × Bool) :=
  if f ∈ GenF.fieldNamesVInfo then .ok (y, hr || old.get f != cur.get f) else .error .unsupported

/-- one iteration of the loop of `_iter_reset_field_items` on the state (yielded, has_reset) -/
def resetStep (old cur : VInfo) (st : Except PErr (List (Str × Str) × Bool)) (f : Str) :
    Except PErr (List (Str × Str) × Bool) :=
  match st with
  | .error e => .error e
  | .ok (y, hr) =>
    match lookup f Gen.fieldInitialValues with
    | some init => if hr then .ok (y ++ [(f, init)], hr) else resetGate old cur f y hr
    | none => resetGate old cur f y hr

theorem foldl_resetStep_error (old cur : VInfo) (e : PErr) (fs : List Str) :
    fs.foldl (resetStep old cur) (.error e) = .error e := by
  induction fs with
  | nil => rfl
  | cons f fs ih => simpa [resetStep] using ih

/-- over known field names the fold computes the model's `resetItemsGo` -/
theorem foldl_resetStep_known (old cur : VInfo) (fs : List Str)
    (hk : ∀ f ∈ fs, f ∈ GenF.fieldNamesVInfo) (y : List (Str × Str)) (hr : Bool) :
    ∃ hr', fs.foldl (resetStep old cur) (.ok (y, hr)) = .ok (y ++ resetItemsGo old cur hr fs, hr') := by
  induction fs generalizing y hr with
  | nil => exact ⟨hr, by simp [resetItemsGo]⟩
  | cons f fs ih =>
    have hf : f ∈ GenF.fieldNamesVInfo := hk f List.mem_cons_self
    have hk' : ∀ g ∈ fs, g ∈ GenF.fieldNamesVInfo := fun g hg => hk g (List.mem_cons_of_mem _ hg)
    simp only [List.foldl_cons]
    unfold resetItemsGo
    cases hl : lookup f Gen.fieldInitialValues with
    | none =>
      simp only [resetStep, hl, resetGate, if_pos hf]
      exact ih hk' _ _
    | some init =>
      cases hr with
      | true =>
        simp only [resetStep, hl, if_true]
        obtain ⟨hr', h⟩ := ih hk' (y ++ [(f, init)]) true
        exact ⟨hr', by rw [h]; simp⟩
      | false =>
        simp only [resetStep, hl, resetGate, if_pos hf, Bool.false_eq_true, if_false, Bool.false_or]
        exact ih hk' _ _

/-- an unknown name is always looked up with `getattr` (it has no initial value): AttributeError -/
theorem foldl_resetStep_unknown (old cur : VInfo) (fs : List Str)
    (hu : ∃ f ∈ fs, f ∉ GenF.fieldNamesVInfo) (y : List (Str × Str)) (hr : Bool) :
    fs.foldl (resetStep old cur) (.ok (y, hr)) = .error .unsupported := by
  induction fs generalizing y hr with
  | nil => obtain ⟨f, hf, _⟩ := hu; cases hf
  | cons f fs ih =>
    simp only [List.foldl_cons]
    by_cases hf : f ∈ GenF.fieldNamesVInfo
    · have hu' : ∃ g ∈ fs, g ∉ GenF.fieldNamesVInfo := by
        obtain ⟨g, hg, hgn⟩ := hu
        rcases List.mem_cons.mp hg with e | hg'
        · subst e; exact absurd hf hgn
        · exact ⟨g, hg', hgn⟩
      cases hl : lookup f Gen.fieldInitialValues with
      | none => simp only [resetStep, hl, resetGate, if_pos hf]; exact ih hu' _ _
      | some init =>
        cases hr with
        | true => simp only [resetStep, hl, if_true]; exact ih hu' _ _
        | false => simp only [resetStep, hl, resetGate, if_pos hf, Bool.false_eq_true, if_false]; exact ih hu' _ _
    · have hl : lookup f Gen.fieldInitialValues = none := by
        cases hl : lookup f Gen.fieldInitialValues with
        | none => rfl
        | some init => exact absurd (init_key_mem_fieldNames f init hl) hf
      simp only [resetStep, hl, resetGate, if_neg hf]
      exact foldl_resetStep_error old cur _ fs

end TieA
open TieA

theorem tie_iterResetFieldItems_full (fields : List Str) (old_vinfo cur_vinfo : VInfo) :
    GenF.iterResetFieldItems fields old_vinfo cur_vinfo =
      if fields.all (fun f => GenF.fieldNamesVInfo.elem f) then .ok (resetItemsGo old_vinfo cur_vinfo false fields)
      else .error .unsupported := by
  unfold GenF.iterResetFieldItems
  simp only
  rw [foldl_congr _ (resetStep old_vinfo cur_vinfo) (by
    intro st f
    rcases st with e | ⟨y, hr⟩
    · rfl
    · simp only [resetStep, resetGate, tie_getattrVInfo]
      cases lookup f Gen.fieldInitialValues <;> cases hr <;>
        by_cases hf : f ∈ GenF.fieldNamesVInfo <;>
        by_cases hab : old_vinfo.get f = cur_vinfo.get f <;> simp [hf, hab])]
  by_cases hall : fields.all (fun f => GenF.fieldNamesVInfo.elem f) = true
  · rw [if_pos hall]
    have hk : ∀ f ∈ fields, f ∈ GenF.fieldNamesVInfo := by
      intro f hf
      have := List.all_eq_true.mp hall f hf
      simpa using this
    obtain ⟨hr', h⟩ := foldl_resetStep_known old_vinfo cur_vinfo fields hk [] false
    rw [h]; simp
  · rw [if_neg hall]
    have hu : ∃ f ∈ fields, f ∉ GenF.fieldNamesVInfo := by
      obtain ⟨f, hf, hn⟩ := List.all_eq_false.mp (Bool.not_eq_true _ ▸ hall)
      exact ⟨f, hf, by simpa using hn⟩
    rw [foldl_resetStep_unknown old_vinfo cur_vinfo fields hu]

/-- `_iter_reset_field_items` = the model's `resetItemsGo`, for field lists of field names.
    HYPOTHESIS `hk` (every element of `fields` is one of the twenty field names of V2VersionInfo): on
    another name Python raises AttributeError, the model's `VInfo.get` answers `.none`; witness
    `_iter_reset_field_items(["nope"], v, v)`.  The callers pass values of `PATTERN_PART_FIELDS`. -/
theorem tie_iterResetFieldItems (fields : List Str) (old_vinfo cur_vinfo : VInfo)
    (hk : ∀ f ∈ fields, f ∈ GenF.fieldNamesVInfo) :
    GenF.iterResetFieldItems fields old_vinfo cur_vinfo = .ok (resetItemsGo old_vinfo cur_vinfo false fields) := by
  rw [tie_iterResetFieldItems_full, if_pos]
  exact List.all_eq_true.mpr fun f hf => by simpa using hk f hf

end BV
