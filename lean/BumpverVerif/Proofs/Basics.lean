/-
  Proofs/Basics.lean — general facts that several parts of the development use: association lists
  (`lookup`, Model/Basic.lean), `if`, `Except`.  Nothing here mentions bumpver.
-/
import BumpverVerif.Model.Basic
namespace BV

/-- one decision of an `if` chain (`split` is exponential in the depth of such a chain) -/
theorem of_ite_eq {α : Sort _} {p : Prop} [Decidable p] {a b r : α} (h : (if p then a else b) = r) :
    (p ∧ a = r) ∨ (¬p ∧ b = r) := by
  by_cases hp : p
  · exact .inl ⟨hp, by rwa [if_pos hp] at h⟩
  · exact .inr ⟨hp, by rwa [if_neg hp] at h⟩

theorem ok_of_ite_error {ε α} {p : Prop} [Decidable p] {e : ε} {x : Except ε α} {c : α}
    (h : (if p then .error e else x) = .ok c) : x = .ok c := by
  rcases of_ite_eq h with ⟨-, h⟩ | ⟨-, h⟩
  · cases h
  · exact h

theorem ok_bind {ε α β} (a : α) (f : α → Except ε β) : (Except.ok a >>= f) = f a := rfl

theorem bind_ok {ε α β} (x : Except ε α) (f : α → Except ε β) (b : β) (h : (x >>= f) = .ok b) :
    ∃ a, x = .ok a ∧ f a = .ok b := by
  cases x with
  | error e => cases h
  | ok a => exact ⟨a, rfl, h⟩

theorem foldl_congr_mem {α β : Type} (f g : β → α → β) (xs : List α)
    (h : ∀ x ∈ xs, ∀ a, f a x = g a x) (a : β) : xs.foldl f a = xs.foldl g a := by
  induction xs generalizing a with
  | nil => rfl
  | cons x xs ih =>
    simp only [List.foldl_cons, h x List.mem_cons_self a]
    exact ih (fun y hy => h y (List.mem_cons_of_mem _ hy)) _

theorem foldl_congr {α β : Type} (f g : β → α → β) (h : ∀ a x, f a x = g a x) (a : β) (xs : List α) :
    xs.foldl f a = xs.foldl g a :=
  foldl_congr_mem f g xs (fun x _ a => h a x) a

theorem findIdx_singleton (c : Char) (s : Str) : (findIdx [c] s).isSome = s.contains c := by
  induction s with
  | nil => simp [findIdx]
  | cons d t ih =>
    rw [findIdx]
    by_cases h : c = d
    · subst h; simp
    · have ih' : (findIdx [c] t).isSome = decide (c ∈ t) := by rw [ih]; simp
      simp [h, ih']

theorem isInfix_singleton (c : Char) (s : Str) : isInfix [c] s = s.contains c := findIdx_singleton c s

theorem findIdx_none_all {t s : Str} (h : findIdx t s = none) : ∀ j, t.isPrefixOf (s.drop j) = false := by
  induction s with
  | nil =>
    simp only [findIdx] at h
    split at h
    · cases h
    · rename_i he
      intro j
      cases t with
      | nil => simp at he
      | cons c r => simp
  | cons x xs ih =>
    simp only [findIdx] at h
    split at h
    · cases h
    · rename_i hp
      cases hf : findIdx t xs with
      | some k => simp [hf] at h
      | none =>
        intro j
        cases j with
        | zero => simpa using (Bool.not_eq_true _).mp hp
        | succ j' => simpa using ih hf j'

theorem isInfix_of_prefix_drop {m n : Str} {d : Nat} (h : m.isPrefixOf (n.drop d) = true) : isInfix m n = true := by
  unfold isInfix
  cases hf : findIdx m n with
  | some _ => rfl
  | none => rw [findIdx_none_all hf d] at h; cases h

theorem isInfix_append_mid (a pat c : Str) : isInfix pat (a ++ (pat ++ c)) = true := by
  apply isInfix_of_prefix_drop (d := a.length)
  simp

theorem lookup_nil {α} (k : Str) : lookup k ([] : List (Str × α)) = none := rfl

theorem lookup_cons {α} (k k' : Str) (v : α) (l : List (Str × α)) :
    lookup k ((k', v) :: l) = if k = k' then some v else lookup k l := by
  rw [lookup]

theorem lookup_append {α} (k : Str) (l1 l2 : List (Str × α)) :
    lookup k (l1 ++ l2) = (lookup k l1).orElse (fun _ => lookup k l2) := by
  induction l1 with
  | nil => rfl
  | cons h t ih =>
    obtain ⟨k', v⟩ := h
    rw [List.cons_append, lookup_cons, lookup_cons, ih]
    split <;> rfl

theorem lookup_mem {α} {k : Str} {v : α} {l : List (Str × α)} (h : lookup k l = some v) : (k, v) ∈ l := by
  induction l with
  | nil => cases h
  | cons hd t ih =>
    obtain ⟨k', v'⟩ := hd
    rw [lookup_cons] at h
    rcases of_ite_eq h with ⟨hk, h⟩ | ⟨-, h⟩
    · cases h
      exact hk ▸ List.mem_cons_self
    · exact List.mem_cons_of_mem _ (ih h)

theorem lookup_none_iff {α} (k : Str) (l : List (Str × α)) : lookup k l = none ↔ k ∉ l.map Prod.fst := by
  induction l with
  | nil => simp [lookup_nil]
  | cons hd t ih =>
    obtain ⟨k', v⟩ := hd
    by_cases h : k = k'
    · subst h; simp [lookup_cons]
    · simp [lookup_cons, h, ih]

theorem lookup_isSome_iff {α} (k : Str) (l : List (Str × α)) :
    (lookup k l).isSome = true ↔ k ∈ l.map Prod.fst := by
  constructor
  · intro h
    refine Decidable.byContradiction fun hn => ?_
    rw [(lookup_none_iff k l).2 hn] at h
    cases h
  · intro h
    cases hl : lookup k l with
    | none => exact absurd h ((lookup_none_iff k l).1 hl)
    | some v => rfl

theorem lookup_of_mem_nodup {α} {k : Str} {x : α} {l : List (Str × α)} (hn : (l.map Prod.fst).Nodup)
    (h : (k, x) ∈ l) : lookup k l = some x := by
  induction l with
  | nil => cases h
  | cons p l ih =>
    obtain ⟨k', y⟩ := p
    rw [List.map_cons, List.nodup_cons] at hn
    rw [lookup_cons]
    rcases List.mem_cons.mp h with e | h'
    · cases e
      rw [if_pos rfl]
    · have : k ≠ k' := fun e => hn.1 (e ▸ List.mem_map.2 ⟨(k, x), h', rfl⟩)
      rw [if_neg this]
      exact ih hn.2 h'

end BV
