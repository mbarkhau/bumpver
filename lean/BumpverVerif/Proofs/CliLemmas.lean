/-
  Proofs/CliLemmas.lean — helper lemmas about Model/Cli.lean: the order on version strings
  (`pepLe`/`pepLt`) from the laws of `cmpKey`; `parseVersionTags` as a filter; `latestOf` picks a maximum;
  how a start version comes about (`startVersion_ok`); inversion of an accepting `gate` and of the
  announcing `cliTest` / `cliUpdateVersion`.
-/
import BumpverVerif.Model.Cli
import BumpverVerif.Proofs.Pep440Lemmas
namespace BV

/- `whnf` must never run into the regex compiler or the increment pipeline (it does not
   terminate in reasonable time on open terms): everything below treats them as opaque. -/
attribute [local irreducible] isValid parseVersionInfo incr

/-! ### the order on version strings (`pepLe`/`pepLt`), from the laws of `cmpKey` -/

theorem pepLe_refl (a : Str) : pepLe a a = true := by
  simp [pepLe, verLe, lawful_cmpKey.refl]

theorem pepLe_trans {a b c : Str} (hab : pepLe a b = true) (hbc : pepLe b c = true) :
    pepLe a c = true := by
  simp only [pepLe, verLe, bne_iff_ne, ne_eq] at *
  exact lawful_cmpKey.le_trans _ _ _ hab hbc

theorem pepLe_total (a b : Str) : pepLe a b = true ∨ pepLe b a = true := by
  simp only [pepLe, verLe, bne_iff_ne, ne_eq]
  exact lawful_cmpKey.le_total _ _

theorem pepLt_iff (a b : Str) : pepLt a b = true ↔ (pepLe a b = true ∧ ¬ pepLe b a = true) := by
  simp only [pepLt, pepLe, verLt, verLe, bne_iff_ne, ne_eq, beq_iff_eq, Decidable.not_not]
  rw [lawful_cmpKey.swap (keyOf (parseVersion a)) (keyOf (parseVersion b))]
  cases cmpKey (keyOf (parseVersion a)) (keyOf (parseVersion b)) <;> simp [Ordering.swap]

theorem pepLt_of_not_le {a b : Str} (h : pepLe a b = false) : pepLt b a = true := by
  rw [pepLt_iff]
  rcases pepLe_total a b with h' | h'
  · rw [h] at h'; cases h'
  · exact ⟨h', by simp [h]⟩

theorem pepLe_false_of_lt {a b : Str} (h : pepLt a b = true) : pepLe b a = false := by
  have := ((pepLt_iff a b).1 h).2
  simpa using this

theorem pepLe_of_lt {a b : Str} (h : pepLt a b = true) : pepLe a b = true := ((pepLt_iff a b).1 h).1

theorem pepLt_irrefl (a : Str) : pepLt a a = false := by
  cases h : pepLt a a
  · rfl
  · have := pepLe_false_of_lt h
    rw [pepLe_refl] at this
    cases this

theorem pepLt_of_le_of_lt {a b c : Str} (hab : pepLe a b = true) (hbc : pepLt b c = true) :
    pepLt a c = true := by
  rw [pepLt_iff] at hbc ⊢
  refine ⟨pepLe_trans hab hbc.1, fun hca => hbc.2 (pepLe_trans hca hab)⟩

/-- when `pepLt a b` fails, `b ≤ a` -/
theorem pepLe_of_not_lt {a b : Str} (h : ¬ pepLt a b = true) : pepLe b a = true := by
  cases hle : pepLe b a
  · exact absurd (pepLt_of_not_le hle) h
  · rfl

/-! ### `parseVersionTags` -/

/- the equation lemmas of `parseVersionTags` cannot be generated (`whnf` runs into the regex
   compiler through `isValid`); these two are proved by `rfl` with `isValid` opaque -/
theorem parseVersionTags_nil (pat : Str) (today : Nat × Nat × Nat) :
    parseVersionTags pat today [] = .ok [] := rfl

theorem parseVersionTags_cons (pat : Str) (today : Nat × Nat × Nat) (t : Str) (ts : List Str) :
    parseVersionTags pat today (t :: ts) =
      match isValid t pat today with
      | .error e => .error e
      | .ok b =>
        match parseVersionTags pat today ts with
        | .error e => .error e
        | .ok rest => .ok (if b then t :: rest else rest) := rfl

theorem parseVersionTags_filter (pat : Str) (today : Nat × Nat × Nat) (tags vts : List Str)
    (h : parseVersionTags pat today tags = .ok vts) :
    vts = tags.filter (fun t => isValid t pat today == .ok true) := by
  induction tags generalizing vts with
  | nil =>
    rw [parseVersionTags_nil] at h
    injection h with h
    subst h
    rfl
  | cons t ts ih =>
    rw [parseVersionTags_cons] at h
    generalize hb : isValid t pat today = rb at h
    cases rb with
    | error e => cases h
    | ok b =>
      generalize hrest : parseVersionTags pat today ts = rr at h
      cases rr with
      | error e => cases h
      | ok rest =>
        simp only [Except.ok.injEq] at h
        subst h
        have := ih rest hrest
        cases b
        · simp [hb, ← this]
        · simp [hb, ← this]

theorem parseVersionTags_junk (pat : Str) (today : Nat × Nat × Nat) (l1 l2 : List Str) (j : Str)
    (hj : isValid j pat today = .ok false) :
    parseVersionTags pat today (l1 ++ j :: l2) = parseVersionTags pat today (l1 ++ l2) := by
  induction l1 with
  | nil =>
    rw [List.nil_append, List.nil_append, parseVersionTags_cons, hj]
    cases parseVersionTags pat today l2 <;> rfl
  | cons t ts ih =>
    rw [List.cons_append, List.cons_append, parseVersionTags_cons, parseVersionTags_cons, ih]

theorem parseVersionTags_ok (pat : Str) (today : Nat × Nat × Nat) (tags : List Str)
    (h : ∀ t ∈ tags, ∃ b, isValid t pat today = .ok b) :
    ∃ vts, parseVersionTags pat today tags = .ok vts := by
  induction tags with
  | nil => exact ⟨[], rfl⟩
  | cons t ts ih =>
    obtain ⟨b, hb⟩ := h t (by simp)
    obtain ⟨rest, hrest⟩ := ih (fun u hu => h u (by simp [hu]))
    exact ⟨if b then t :: rest else rest, by rw [parseVersionTags_cons, hb, hrest]⟩

/-! ### `latestOf` -/

theorem latestOf_none_iff (ts : List Str) : latestOf ts = none ↔ ts = [] := by
  cases ts with
  | nil => simp [latestOf]
  | cons t ts =>
    simp only [latestOf]
    constructor
    · intro h
      split at h
      · cases h
      · split at h <;> cases h
    · intro h; cases h

theorem latestOf_max (ts : List Str) (t : Str) (h : latestOf ts = some t) :
    t ∈ ts ∧ ∀ u ∈ ts, pepLe u t = true := by
  induction ts generalizing t with
  | nil => simp [latestOf] at h
  | cons x xs ih =>
    simp only [latestOf] at h
    split at h
    · rename_i hn
      injection h with h
      subst h
      have := (latestOf_none_iff xs).1 hn
      subst this
      simp [pepLe_refl]
    · rename_i u hu
      obtain ⟨hmem, hmax⟩ := ih u hu
      split at h
      · rename_i hlt
        injection h with h
        subst h
        refine ⟨by simp [hmem], fun w hw => ?_⟩
        rcases List.mem_cons.1 hw with rfl | hw
        · exact pepLe_of_lt hlt
        · exact hmax w hw
      · rename_i hlt
        injection h with h
        subst h
        refine ⟨by simp, fun w hw => ?_⟩
        rcases List.mem_cons.1 hw with rfl | hw
        · exact pepLe_refl _
        · exact pepLe_trans (hmax w hw) (pepLe_of_not_lt hlt)

/-! ### `startVersion` -/

theorem startVersion_of_tags {scope : TagScope} {pat cfgv : Str} {today : Nat × Nat × Nat}
    {tags vts : List Str} (hv : parseVersionTags pat today tags = .ok vts) :
    startVersion scope pat cfgv today tags =
      match latestOf vts with
      | none => .ok cfgv
      | some t =>
        match scope with
        | .default => if pepLe t cfgv then .ok cfgv else .ok t
        | _ => .ok t := by
  simp only [startVersion, latestVersionTag, hv]
  cases latestOf vts <;> rfl

theorem startVersion_ok {scope : TagScope} {pat cfgv : Str} {today : Nat × Nat × Nat}
    {tags vts : List Str} {s : Str} (hv : parseVersionTags pat today tags = .ok vts)
    (h : startVersion scope pat cfgv today tags = .ok s) :
    (∀ u ∈ vts, pepLe u s = true) ∧
      ((s = cfgv ∧ (vts = [] ∨ scope = .default)) ∨
       (s ∈ vts ∧ (scope = .default → pepLe s cfgv = false))) := by
  rw [startVersion_of_tags hv] at h
  cases hl : latestOf vts with
  | none =>
    rw [hl] at h
    cases h
    cases (latestOf_none_iff vts).1 hl
    exact ⟨fun _ hu => (nomatch hu), .inl ⟨rfl, .inl rfl⟩⟩
  | some t =>
    rw [hl] at h
    obtain ⟨hmem, hmax⟩ := latestOf_max vts t hl
    cases scope
    case default =>
      by_cases hle : pepLe t cfgv = true
      · cases (if_pos hle).symm.trans h
        exact ⟨fun u hu => pepLe_trans (hmax u hu) hle, .inl ⟨rfl, .inr rfl⟩⟩
      · cases (if_neg hle).symm.trans h
        exact ⟨hmax, .inr ⟨hmem, fun _ => by simpa using hle⟩⟩
    all_goals (cases h; exact ⟨hmax, .inr ⟨hmem, (nomatch ·)⟩⟩)

/-! ### the gate and the commands -/

theorem gate_accept {pat old new : Str} {unique : Bool} {tags : List Str} {today : Nat × Nat × Nat}
    (h : gate pat old new unique tags today = .ok .accept) :
    (∃ v, parseVersionInfo new pat today = .ok v) ∧ pepLe new old = false ∧
      (unique = true → ∃ vts, parseVersionTags pat today tags = .ok vts ∧ vts.contains new = false) := by
  unfold gate at h
  split at h
  · cases h
  · cases h
  · rename_i v hv
    refine ⟨⟨v, hv⟩, ?_⟩
    split at h
    · cases h
    · rename_i hle
      refine ⟨by simpa using hle, fun hu => ?_⟩
      rw [if_pos hu] at h
      generalize hr : parseVersionTags pat today tags = r at h
      cases r with
      | error e => cases h
      | ok vts =>
        refine ⟨vts, rfl, ?_⟩
        simp only at h
        split at h
        · cases h
        · rename_i hc
          simpa using hc

theorem cliTest_announce {old pat : Str} {fl : IncrFlags} {dg : Bool} {date today : Nat × Nat × Nat}
    {sv : Option Str} {new pep : Str} (h : cliTest old pat fl dg date today sv = .announce new pep) :
    gate pat old new false [] today = .ok .accept ∧ pep = verStr (parseVersion new) := by
  simp only [cliTest] at h
  split at h
  · cases h
  split at h
  · cases h
  split at h
  · cases h
  split at h
  · cases h
  · cases h
  · rename_i new' _
    split at h
    · cases h
    · rename_i hg
      injection h with h1 h2
      subst h1 h2
      exact ⟨hg, rfl⟩
    · cases h

theorem cliUpdateVersion_announce {scope : TagScope} {ign : Bool} {pat cfgv : Str} {fl : IncrFlags}
    {dg : Bool} {date today : Nat × Nat × Nat} {sv : Option Str} {scopeTags globalTags : List Str}
    {new pep start : Str}
    (h : cliUpdateVersion scope ign pat cfgv fl dg date today sv scopeTags globalTags =
      (.announce new pep, start)) :
    (if ign then Except.ok cfgv else startVersion scope pat cfgv today scopeTags) = .ok start ∧
    gate pat start new (scope == .branch || sv.isSome) globalTags today = .ok .accept := by
  simp only [cliUpdateVersion] at h
  split at h
  · cases h
  split at h
  · cases h
  split at h
  · cases h
  · rename_i old hold
    split at h
    · cases h
    · cases h
    · rename_i new' _
      split at h
      · cases h
      · rename_i hg
        simp only [Prod.mk.injEq, CliOutcome.announce.injEq] at h
        obtain ⟨⟨rfl, -⟩, rfl⟩ := h
        exact ⟨hold, hg⟩
      · simp only [Prod.mk.injEq] at h
        cases h.1

end BV
