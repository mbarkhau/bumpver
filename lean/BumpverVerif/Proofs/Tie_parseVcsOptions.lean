/-
  Proofs/Tie_parseVcsOptions.lean — the definition GENERATED from the Python source of
  `cli._parse_vcs_options` (over the GENERATED structure `GenF.Config`, generated from the class
  definition `config.Config`, and the generated enum `GenF.TagScope`) commutes with the hand model
  `BV.parseVcsOptions` through the explicit abstraction functions `absCfg` / `absCli`.  Both sides are
  brought into closed form (`GenF.parseVcsOptions_eq` by evaluation on every combination of flags, so that
  the shape of the generated text does not matter; `parseVcsOptions_eq`) and the closed forms are compared.

  Hypotheses (both are guaranteed by click before `_parse_vcs_options` runs):
  * `hts`  : `--tag-scope`, when given, is the value of a `TagScope` member (`click.Choice`);
             otherwise Python raises ValueError from `config.TagScope(tag_scope)` — the generated
             definition answers `none` there (see `parseVcsOptions_bad_scope`), the model has no such input.
  * `hpre`/`hpost` : a hook given on the command line is not the empty string (`click.Path(exists=True)`).
             WITHOUT it model and code differ: with a hook configured and `--pre-commit-hook ""`
             Python replaces the configured hook by "" (no hook runs), the model keeps
             `preHook := c.preHook || true` (see `parseVcsOptions_empty_hook_differs`).
-/
import BumpverVerif.Gen.F_parseVcsOptions
import BumpverVerif.Proofs.PlanLemmas
namespace BV

/-- what the plan model keeps of a `config.Config`: the three VCS switches, "is a hook configured"
    (truthiness of the hook string), "is the tag scope `branch`"; `tme` (is the rendered tag message
    empty) is not a function of the fields `_parse_vcs_options` touches and is carried along. -/
def absCfg {α : Type} (tme : Bool) (c : GenF.Config α) : PlanCfg :=
  { commit := c.commit, tag := c.tag, push := c.push,
    preHook := !c.pre_commit_hook.isEmpty, postHook := !c.post_commit_hook.isEmpty,
    scopeBranch := c.tag_scope == .BRANCH, tagMsgEmpty := tme }

/-- what the plan model keeps of the command line options handed to `_parse_vcs_options`; the other
    fields of `PlanCli` (`dry`, `fetch`, …) are taken from `o`. -/
def absCli (commit tag_commit push : Option Bool) (tag_scope pre post : Option Str) (o : PlanCli) : PlanCli :=
  { o with commit := commit, tagCommit := tag_commit, push := push,
           preHook := pre.isSome, postHook := post.isSome,
           scopeBranch := tag_scope.map (fun s => GenF.TagScope.ofValue s == some .BRANCH) }

theorem GenF.parseVcsOptions_eq {α : Type} (cfg : GenF.Config α) (commit tag_commit push : Option Bool)
    (tag_scope pre post : Option Str) :
    GenF.parseVcsOptions cfg commit tag_commit push tag_scope pre post =
      let merged (v : GenF.TagScope) : GenF.Config α :=
        { cfg with commit := commit.getD cfg.commit, tag := tag_commit.getD cfg.tag,
                   push := push.getD cfg.push, tag_scope := v,
                   pre_commit_hook := pre.getD cfg.pre_commit_hook,
                   post_commit_hook := post.getD cfg.post_commit_hook }
      if commit == some false && tag_commit == some true then none
      else if commit == some false && push == some true then none
      else if !commit.getD cfg.commit && tag_commit == some true then none
      else if !commit.getD cfg.commit && push == some true then none
      else match tag_scope with
        | none => some (merged cfg.tag_scope)
        | some s =>
          match GenF.TagScope.ofValue s with
          | none => none
          | some v => some (merged v) := by
  obtain ⟨_, _, _, _, _, _, _, _, cc, _, _, _, _⟩ := cfg
  -- the configured `commit` only matters when no `--commit`/`--no-commit` is given
  rcases commit with _ | b
  · cases cc <;> rcases tag_commit with _ | _ | _ <;> rcases push with _ | _ | _ <;>
      cases tag_scope <;> cases pre <;> cases post <;> rfl
  · cases b <;> rcases tag_commit with _ | _ | _ <;> rcases push with _ | _ | _ <;>
      cases tag_scope <;> cases pre <;> cases post <;> rfl

theorem map_ite_none {α β : Type} {p : Prop} [Decidable p] {f : α → β} {x : Option α} {y : Option β}
    (h : x.map f = y) : (if p then none else x).map f = if p then none else y := by
  split
  · rfl
  · exact h

/-- a hook given on the command line replaces the configured one and, not being empty, counts as a hook -/
theorem hook_merge {h : Option Str} (hne : h ≠ some []) (c : Str) :
    (!(h.getD c).isEmpty) = (!c.isEmpty || h.isSome) := by
  rcases h with _ | _ | _
  · exact (Bool.or_false _).symm
  · exact absurd rfl hne
  · exact (Bool.or_true _).symm

theorem tie_parseVcsOptions {α : Type} (tme : Bool) (o : PlanCli) (cfg : GenF.Config α)
    (commit tag_commit push : Option Bool) (tag_scope pre post : Option Str)
    (hts : ∀ s, tag_scope = some s → (GenF.TagScope.ofValue s).isSome = true)
    (hpre : pre ≠ some []) (hpost : post ≠ some []) :
    (GenF.parseVcsOptions cfg commit tag_commit push tag_scope pre post).map (absCfg tme)
      = parseVcsOptions (absCfg tme cfg) (absCli commit tag_commit push tag_scope pre post o) := by
  rw [GenF.parseVcsOptions_eq, parseVcsOptions_eq]
  refine map_ite_none (map_ite_none (map_ite_none (map_ite_none ?_)))
  have hp := hook_merge hpre cfg.pre_commit_hook
  have hq := hook_merge hpost cfg.post_commit_hook
  rcases tag_scope with _ | s
  · simp only [Option.map_some, absCfg, absCli, hp, hq, Option.map_none, Option.getD_none]
  · obtain ⟨v, hv⟩ := Option.isSome_iff_exists.1 (hts s rfl)
    simp only [hv, Option.map_some, absCfg, absCli, hp, hq, Option.getD_some]
    cases v <;> rfl

/-- a tag scope that is no member value: ValueError (`none`) unless an earlier check already failed
    — either way the result is `none`. -/
theorem parseVcsOptions_bad_scope {α : Type} (cfg : GenF.Config α)
    (commit tag_commit push : Option Bool) (s : Str) (pre post : Option Str)
    (hv : GenF.TagScope.ofValue s = none) :
    GenF.parseVcsOptions cfg commit tag_commit push (some s) pre post = none := by
  rw [GenF.parseVcsOptions_eq]
  simp only [hv, ite_self]

/-! non-vacuity: the hypotheses are satisfiable, with a result on both sides -/
def exampleCfg : GenF.Config Unit :=
  { current_version := "1.0.0".toList, version_pattern := "MAJOR.MINOR.PATCH".toList,
    pep440_version := "1.0.0".toList, commit_message := [], tag_message := [], tag_scope := .DEFAULT,
    pre_commit_hook := [], post_commit_hook := "post.sh".toList, commit := false, tag := false,
    push := false, is_new_pattern := true, file_patterns := () }

def exampleCli : PlanCli :=
  { commit := none, tagCommit := none, push := none, preHook := false, postHook := false,
    scopeBranch := none, dry := false, fetch := true, ignoreVcsTag := false, setVersion := false }

example :
    (GenF.parseVcsOptions exampleCfg (some true) (some true) none (some "branch".toList)
        (some "pre.sh".toList) none).map (absCfg false)
      = parseVcsOptions (absCfg false exampleCfg)
          (absCli (some true) (some true) none (some "branch".toList) (some "pre.sh".toList) none exampleCli) :=
  tie_parseVcsOptions false exampleCli exampleCfg (some true) (some true) none (some "branch".toList)
    (some "pre.sh".toList) none (by intro s h; cases h; decide) (by decide) (by decide)

example : ((GenF.parseVcsOptions exampleCfg (some true) (some true) none (some "branch".toList)
    (some "pre.sh".toList) none).map (fun c => (c.commit, c.tag, c.tag_scope, c.pre_commit_hook)))
    = some (true, true, .BRANCH, "pre.sh".toList) := by decide

/-- FINDING (unreachable through click): with an EMPTY hook path on the command line the hand model
    and the code differ — the code replaces the configured hook by "", the model keeps a hook. -/
theorem parseVcsOptions_empty_hook_differs :
    (GenF.parseVcsOptions exampleCfg none none none none none (some [])).map
        (fun c => (absCfg false c).postHook) = some false ∧
    (parseVcsOptions (absCfg false exampleCfg) (absCli none none none none none (some []) exampleCli)).map
        (fun c => c.postHook) = some true := by
  constructor <;> decide

end BV
