/-
  Proofs/PepTreeLemmas.lean — lemmas about the tree-level `_convert_to_pep440` (`Pat.toPep`,
  Model/PepTree.lean) for C15: the record stays inside the domain of the derived pattern
  (`vok_toPep_*`), and the parts of a derived pattern in normal form render as `str(n)` (`part_normal`,
  `caps_all_normal`, `caps_tags`, `caps_numbered`).
-/
import BumpverVerif.Model.PepTree
import BumpverVerif.Proofs.ReadBack
namespace BV

/-! ### the tag table -/

/-- in `PEP440_TAG_BY_TAG` exactly `final` has the empty short tag -/
theorem pepTag_empty_iff (t p : Str) (h : lookup t Gen.pep440TagByTag = some p) :
    p = [] ↔ t = "final".toList := by
  have htab : Gen.pep440TagByTag.all (fun tp => tp.2.isEmpty == (tp.1 == "final".toList)) = true := by decide +kernel
  have := List.all_eq_true.mp htab _ (lookup_mem h)
  rw [beq_iff_eq] at this
  rw [← List.isEmpty_iff, ← beq_iff_eq (a := t), this]

structure PepReady (v : VInfo) : Prop where
  img : lookup v.tag Gen.pep440TagByTag = some v.pytag
  tag : tagOk v = true
  bid : 1 ≤ strToNat v.bid
  num : v.tag = "final".toList → v.num = 0

theorem pepReady_iff (v : VInfo) : pepReady v = true ↔ PepReady v := by
  unfold pepReady
  simp only [Bool.and_eq_true, Bool.or_eq_true, beq_iff_eq, decide_eq_true_eq, bne_iff_ne, ne_eq]
  constructor
  · rintro ⟨⟨⟨h1, h2⟩, h3⟩, h4⟩
    exact ⟨h1, h2, h3, fun e => by rcases h4 with h | h; exact absurd e h; exact h⟩
  · rintro ⟨h1, h2, h3, h4⟩
    refine ⟨⟨⟨h1, h2⟩, h3⟩, ?_⟩
    by_cases e : v.tag = "final".toList
    · exact Or.inr (h4 e)
    · exact Or.inl e

theorem tagCoh_of_pepReady (v : VInfo) (h : pepReady v = true) : tagCoh v = true := by
  have hr := (pepReady_iff v).1 h
  unfold tagCoh
  by_cases e : v.pytag = []
  · have := (pepTag_empty_iff _ _ hr.img).1 e
    simp [this]
  · cases hp : v.pytag with
    | nil => exact absurd hp e
    | cons c t => simp

/-! ### zero values of the parts the conversion touches -/

theorem partIsZero_noZero (v : VInfo) (n : Str) (h : lookup n Gen.partZeroValues = none) :
    partIsZero v n = false := by
  unfold partIsZero isZeroVal
  rw [h]
  cases partText v n <;> rfl

theorem partIsZero_TAG (v : VInfo) : partIsZero v "TAG".toList = (v.tag == "final".toList) := by
  unfold partIsZero
  rw [partText_TAG]
  rfl

theorem partIsZero_PYTAG (v : VInfo) : partIsZero v "PYTAG".toList = (v.pytag == []) := by
  unfold partIsZero
  rw [partText_PYTAG]
  rfl

theorem natToStr_eq_zero_iff (n : Nat) : natToStr n = "0".toList ↔ n = 0 := by
  constructor
  · intro h
    have := strToNat_natToStr n
    rw [h] at this
    exact this.symm
  · rintro rfl; decide

theorem partIsZero_NUM (v : VInfo) : partIsZero v "NUM".toList = decide (v.num = 0) := by
  unfold partIsZero
  rw [partText_num]
  show (natToStr v.num == "0".toList) = decide (v.num = 0)
  by_cases h : v.num = 0
  · rw [h]; decide
  · have : natToStr v.num ≠ "0".toList := fun e => h ((natToStr_eq_zero_iff _).1 e)
    rw [decide_eq_false h]
    exact beq_eq_false_iff_ne.2 this

/-- a substitution keeps "is zero" -/
theorem partIsZero_subst (v : VInfo) (hr : PepReady v) (n s : Str)
    (hs : lookup n Gen.pep440PartSubstitutions = some s) : partIsZero v s = partIsZero v n := by
  have hmem := lookup_mem hs
  simp only [Gen.pep440PartSubstitutions, List.mem_cons, Prod.mk.injEq, List.not_mem_nil, or_false] at hmem
  rcases hmem with ⟨rfl, rfl⟩ | ⟨rfl, rfl⟩ | ⟨rfl, rfl⟩ | ⟨rfl, rfl⟩ | ⟨rfl, rfl⟩ | ⟨rfl, rfl⟩ | ⟨rfl, rfl⟩ | ⟨rfl, rfl⟩
  all_goals first
    | (rw [partIsZero_noZero v _ (by decide), partIsZero_noZero v _ (by decide)])
    | skip
  rw [partIsZero_TAG, partIsZero_PYTAG]
  have := pepTag_empty_iff _ _ hr.img
  by_cases e : v.pytag = []
  · rw [e, this.1 e]; decide
  · have e2 : ¬ v.tag = "final".toList := fun h => e (this.2 h)
    rw [beq_eq_false_iff_ne.2 e, beq_eq_false_iff_ne.2 e2]

/-- a numerical substitution keeps the domain; BUILD -> BLD needs a non-zero BUILD number -/
theorem partOk_subst_num (v : VInfo) (hb : 1 ≤ strToNat v.bid) (n s : Str)
    (hs : lookup n Gen.pep440PartSubstitutions = some s) (hn : n ≠ "TAG".toList)
    (hok : partOk v n = true) : partOk v s = true := by
  have hmem := lookup_mem hs
  simp only [Gen.pep440PartSubstitutions, List.mem_cons, Prod.mk.injEq, List.not_mem_nil, or_false] at hmem
  rcases hmem with ⟨rfl, rfl⟩ | ⟨rfl, rfl⟩ | ⟨rfl, rfl⟩ | ⟨rfl, rfl⟩ | ⟨rfl, rfl⟩ | ⟨rfl, rfl⟩ | ⟨rfl, rfl⟩ | ⟨rfl, rfl⟩
  -- a padded calendar part and its unpadded form have the same entry in `partDoms`.  Each side is unfolded to
  -- that entry on its own: asked whether `partOk v "0W"` is `partOk v "WW"`, Lean walks the two lookups in step.
  · have h : optIn v.cal.weekW 0 52 = true := hok
    exact h
  · have h : optIn v.cal.weekU 0 52 = true := hok
    exact h
  · have h : optIn v.cal.weekV 1 53 = true := hok
    exact h
  · have h : optIn v.cal.month 1 12 = true := hok
    exact h
  · have h : optIn v.cal.dom 1 31 = true := hok
    exact h
  · have h : optIn v.cal.doy 1 366 = true := hok
    exact h
  · rw [partOk_BUILD] at hok
    rw [partOk_BLD, hok, decide_eq_true hb]
    rfl
  · exact absurd rfl hn

/-- TAG -> PYTAG keeps the domain for every release that is not final -/
theorem partOk_subst_tag (v : VInfo) (hr : PepReady v) (hnf : v.tag ≠ "final".toList) :
    partOk v "PYTAG".toList = true := by
  rw [partOk_PYTAG]
  unfold pytagOk
  have hne : v.pytag ≠ [] := fun e => hnf ((pepTag_empty_iff _ _ hr.img).1 e)
  simp only [hr.tag, hr.img, beq_self_eq_true, Bool.true_and, Bool.not_eq_true', List.isEmpty_eq_false_iff]
  exact hne

theorem subst_tag_only (n s : Str) (hs : lookup n Gen.pep440PartSubstitutions = some s) :
    (s = "PYTAG".toList ↔ n = "TAG".toList) ∧ s ≠ "NUM".toList ∧ s ≠ "TAG".toList := by
  have hmem := lookup_mem hs
  simp only [Gen.pep440PartSubstitutions, List.mem_cons, Prod.mk.injEq, List.not_mem_nil, or_false] at hmem
  rcases hmem with ⟨rfl, rfl⟩ | ⟨rfl, rfl⟩ | ⟨rfl, rfl⟩ | ⟨rfl, rfl⟩ | ⟨rfl, rfl⟩ | ⟨rfl, rfl⟩ | ⟨rfl, rfl⟩ | ⟨rfl, rfl⟩ <;>
    decide

/-! ### steps 2 and 3 (`keepPepLits`, `mapParts`) in one induction -/

theorem allZero_pre (v : VInfo) (f : Str → Str) (hZ : ∀ n, partIsZero v (f n) = partIsZero v n) :
    ∀ q : Pat, Pat.allZero v (Pat.mapParts f (Pat.keepPepLits q)) = Pat.allZero v q := by
  intro q
  induction q with
  | done => rfl
  | lit c rest ih =>
    simp only [Pat.keepPepLits]
    split <;> simp only [Pat.mapParts, Pat.allZero, ih]
  | part n rest ih => simp only [Pat.keepPepLits, Pat.mapParts, Pat.allZero, hZ, ih]
  | opt body rest ihb ihr => simp only [Pat.keepPepLits, Pat.mapParts, Pat.allZero, ihb, ihr]

/-- every substitution keeps the domain: the record stays in the domain -/
theorem vok_pre_all (v : VInfo) (f : Str → Str) (hZ : ∀ n, partIsZero v (f n) = partIsZero v n)
    (hOk : ∀ n, partOk v n = true → partOk v (f n) = true) :
    ∀ q : Pat, Pat.vok v q = true → Pat.vok v (Pat.mapParts f (Pat.keepPepLits q)) = true := by
  intro q
  induction q with
  | done => intro _; rfl
  | lit c rest ih =>
    intro h
    simp only [Pat.keepPepLits]
    split
    · exact ih h
    · exact ih h
  | part n rest ih =>
    intro h
    simp only [Pat.keepPepLits, Pat.mapParts, Pat.vok, Bool.and_eq_true] at h ⊢
    exact ⟨hOk _ h.1, ih h.2⟩
  | opt body rest ihb ihr =>
    intro h
    simp only [Pat.keepPepLits, Pat.mapParts, Pat.vok, Bool.and_eq_true, Bool.or_eq_true,
      allZero_pre v f hZ] at h ⊢
    exact ⟨h.1.imp id ihb, ihr h.2⟩

theorem allZero_of_parts (v : VInfo) : ∀ q : Pat, (∀ n, n ∈ q.parts → partIsZero v n = true) →
    Pat.allZero v q = true := by
  intro q
  induction q with
  | done => intro _; rfl
  | lit c rest ih => intro h; exact ih h
  | part n rest ih =>
    intro h
    simp only [Pat.parts, List.mem_cons] at h
    simp only [Pat.allZero, Bool.and_eq_true]
    exact ⟨h n (Or.inl rfl), ih (fun m hm => h m (Or.inr hm))⟩
  | opt body rest ihb ihr =>
    intro h
    simp only [Pat.parts, List.mem_append] at h
    simp only [Pat.allZero, Bool.and_eq_true]
    exact ⟨ihb (fun m hm => h m (Or.inl hm)), ihr (fun m hm => h m (Or.inr hm))⟩

/-- the tag parts are all zero and every TAG sits in a tag/number group: such groups are omitted -/
theorem vok_pre_guarded (v : VInfo) (f : Str → Str) (hZ : ∀ n, partIsZero v (f n) = partIsZero v n)
    (hOk : ∀ n, n ≠ "TAG".toList → partOk v n = true → partOk v (f n) = true)
    (hT : ∀ n, isTailPart n = true → partIsZero v n = true) :
    ∀ q : Pat, Pat.tagGuarded q = true → Pat.vok v q = true →
      Pat.vok v (Pat.mapParts f (Pat.keepPepLits q)) = true := by
  intro q
  induction q with
  | done => intro _ _; rfl
  | lit c rest ih =>
    intro hg h
    simp only [Pat.keepPepLits]
    split
    · exact ih hg h
    · exact ih hg h
  | part n rest ih =>
    intro hg h
    simp only [Pat.tagGuarded, Bool.and_eq_true, bne_iff_ne, ne_eq] at hg
    simp only [Pat.keepPepLits, Pat.mapParts, Pat.vok, Bool.and_eq_true] at h ⊢
    exact ⟨hOk _ hg.1 h.1, ih hg.2 h.2⟩
  | opt body rest ihb ihr =>
    intro hg h
    simp only [Pat.tagGuarded, Bool.and_eq_true, Bool.or_eq_true, List.all_eq_true] at hg
    simp only [Pat.keepPepLits, Pat.mapParts, Pat.vok, Bool.and_eq_true, Bool.or_eq_true,
      allZero_pre v f hZ] at h ⊢
    refine ⟨?_, ihr hg.2 h.2⟩
    rcases hg.1 with hall | hgb
    · exact Or.inl (allZero_of_parts v body (fun n hn => hT n (hall n hn)))
    · exact h.1.imp id (ihb hgb)

/-! ### step 4 -/

theorem allZero_drop_pre (v : VInfo) (f : Str → Str) (hZ : ∀ n, partIsZero v (f n) = partIsZero v n) :
    ∀ q : Pat, Pat.allZero v q = true →
      Pat.allZero v (Pat.dropTagNum (Pat.mapParts f (Pat.keepPepLits q))) = true := by
  intro q
  induction q with
  | done => intro _; rfl
  | lit c rest ih =>
    intro h
    simp only [Pat.keepPepLits]
    split
    · exact ih h
    · exact ih h
  | part n rest ih =>
    intro h
    simp only [Pat.allZero, Bool.and_eq_true] at h
    simp only [Pat.keepPepLits, Pat.mapParts, Pat.dropTagNum]
    split
    · exact ih h.2
    · simp only [Pat.allZero, Bool.and_eq_true, hZ]
      exact ⟨h.1, ih h.2⟩
  | opt body rest ihb ihr =>
    intro h
    simp only [Pat.allZero, Bool.and_eq_true] at h
    simp only [Pat.keepPepLits, Pat.mapParts, Pat.dropTagNum, Pat.allZero, Bool.and_eq_true]
    exact ⟨ihb h.1, ihr h.2⟩

/-- with the PYTAG and NUM parts gone only the other substitutions must keep the domain -/
theorem vok_drop_pre (v : VInfo) (f : Str → Str) (hZ : ∀ n, partIsZero v (f n) = partIsZero v n)
    (hOk : ∀ n, f n ≠ "PYTAG".toList → f n ≠ "NUM".toList → partOk v n = true → partOk v (f n) = true) :
    ∀ q : Pat, Pat.vok v q = true →
      Pat.vok v (Pat.dropTagNum (Pat.mapParts f (Pat.keepPepLits q))) = true := by
  intro q
  induction q with
  | done => intro _; rfl
  | lit c rest ih =>
    intro h
    simp only [Pat.keepPepLits]
    split
    · exact ih h
    · exact ih h
  | part n rest ih =>
    intro h
    simp only [Pat.vok, Bool.and_eq_true] at h
    simp only [Pat.keepPepLits, Pat.mapParts, Pat.dropTagNum]
    split
    · exact ih h.2
    · next hne =>
      simp only [Bool.or_eq_true, beq_iff_eq, not_or] at hne
      simp only [Pat.vok, Bool.and_eq_true]
      exact ⟨hOk n hne.1 hne.2 h.1, ih h.2⟩
  | opt body rest ihb ihr =>
    intro h
    simp only [Pat.vok, Bool.and_eq_true, Bool.or_eq_true] at h
    simp only [Pat.keepPepLits, Pat.mapParts, Pat.dropTagNum, Pat.vok, Bool.and_eq_true, Bool.or_eq_true]
    exact ⟨h.1.elim (fun hz => Or.inl (allZero_drop_pre v f hZ body hz)) (fun hv => Or.inr (ihb hv)), ihr h.2⟩

theorem allZero_dropEmptyOpt (v : VInfo) : ∀ q : Pat, Pat.allZero v (Pat.dropEmptyOpt q) = Pat.allZero v q := by
  intro q
  fun_induction Pat.dropEmptyOpt q with
  | case1 => rfl
  | case2 c rest ih => simp only [Pat.allZero, ih]
  | case3 n rest ih => simp only [Pat.allZero, ih]
  | case4 rest ih => simp only [Pat.allZero, ih, Bool.true_and]
  | case5 body rest _ ihb ihr => simp only [Pat.allZero, ihb, ihr]

theorem vok_dropEmptyOpt (v : VInfo) : ∀ q : Pat, Pat.vok v q = true → Pat.vok v (Pat.dropEmptyOpt q) = true := by
  intro q
  fun_induction Pat.dropEmptyOpt q with
  | case1 => intro _; rfl
  | case2 c rest ih => intro h; exact ih h
  | case3 n rest ih =>
    intro h
    simp only [Pat.vok, Bool.and_eq_true] at h ⊢
    exact ⟨h.1, ih h.2⟩
  | case4 rest ih =>
    intro h
    simp only [Pat.vok, Bool.and_eq_true] at h
    exact ih h.2
  | case5 body rest _ ihb ihr =>
    intro h
    simp only [Pat.vok, Bool.and_eq_true, Bool.or_eq_true, allZero_dropEmptyOpt] at h ⊢
    exact ⟨h.1.imp id ihb, ihr h.2⟩

theorem vok_append (v : VInfo) (b : Pat) : ∀ a : Pat, Pat.vok v (Pat.append a b) = (Pat.vok v a && Pat.vok v b) := by
  intro a
  induction a with
  | done => simp only [Pat.append, Pat.vok, Bool.true_and]
  | lit c rest ih => simp only [Pat.append, Pat.vok, ih]
  | part n rest ih => simp only [Pat.append, Pat.vok, ih, Bool.and_assoc]
  | opt body rest _ ihr => simp only [Pat.append, Pat.vok, ihr, Bool.and_assoc]

theorem partOk_NUM (v : VInfo) : partOk v "NUM".toList = true := rfl

/-- the appended `[PYTAGNUM]`: omitted for a final release, in the domain of PYTAG otherwise -/
theorem vok_pepTail (v : VInfo) (hr : PepReady v) : Pat.vok v pepTail = true := by
  simp only [pepTail, Pat.vok, Pat.allZero, Bool.and_true, Bool.or_eq_true, Bool.and_eq_true]
  by_cases e : v.tag = "final".toList
  · left
    rw [partIsZero_PYTAG, partIsZero_NUM, (pepTag_empty_iff _ _ hr.img).2 e, hr.num e]
    exact ⟨rfl, rfl⟩
  · right
    exact ⟨partOk_subst_tag v hr e, partOk_NUM v⟩

/-! ### the conversion as a whole -/

theorem pepSubstName_cases (q : Pat) (n : Str) :
    pepSubstName q n = n ∨ lookup n Gen.pep440PartSubstitutions = some (pepSubstName q n) := by
  unfold pepSubstName
  cases hs : lookup n Gen.pep440PartSubstitutions with
  | none => exact Or.inl rfl
  | some sub =>
    simp only
    repeat' split
    all_goals first
      | exact Or.inl rfl
      | exact Or.inr rfl

theorem pepSubstName_zero (v : VInfo) (hr : PepReady v) (q : Pat) (n : Str) :
    partIsZero v (pepSubstName q n) = partIsZero v n := by
  rcases pepSubstName_cases q n with h | h
  · rw [h]
  · exact partIsZero_subst v hr n _ h

theorem toPepPre_eq (p : Pat) :
    p.toPepPre = Pat.mapParts (pepSubstName p.dropV.keepPepLits) (Pat.keepPepLits p.dropV) := rfl

theorem dropV_cases (p : Pat) : p.dropV = p ∨ p = .lit 'v' p.dropV := by
  cases p with
  | lit c rest =>
    simp only [Pat.dropV]
    split
    · next h => rw [show c = 'v' by simpa using h]; exact Or.inr rfl
    · exact Or.inl rfl
  | _ => exact Or.inl rfl

theorem vok_dropV (v : VInfo) (p : Pat) (h : Pat.vok v p = true) : Pat.vok v p.dropV = true := by
  rcases dropV_cases p with e | e
  · rw [e]; exact h
  · rw [e] at h; exact h

theorem tagGuarded_dropV (p : Pat) (h : Pat.tagGuarded p = true) : Pat.tagGuarded p.dropV = true := by
  rcases dropV_cases p with e | e
  · rw [e]; exact h
  · rw [e] at h; exact h

/-- the RELOCATION branch (no `PYTAGNUM` after the substitutions): nothing about the tag parts of the
    original pattern is needed, they are removed -/
theorem vok_toPep_relocated (p : Pat) (v : VInfo) (hv : Pat.vok v p = true) (hr : PepReady v)
    (hn : p.toPepPre.hasPytagNum = false) : Pat.vok v p.toPep = true := by
  unfold Pat.toPep Pat.relocateTail
  rw [hn]
  simp only [Bool.false_eq_true, if_false, vok_append, Bool.and_eq_true]
  refine ⟨vok_dropEmptyOpt v _ ?_, vok_pepTail v hr⟩
  rw [toPepPre_eq]
  apply vok_drop_pre v _ (pepSubstName_zero v hr _) _ _ (vok_dropV v p hv)
  intro n h1 _ hok
  rcases pepSubstName_cases p.dropV.keepPepLits n with h | h
  · rw [h]; exact hok
  · have hne : n ≠ "TAG".toList := fun e => h1 ((subst_tag_only n _ h).1.2 e)
    exact partOk_subst_num v hr.bid n _ h hne hok

/-- a release that is not final: every substitution keeps the domain -/
theorem vok_toPep_nonfinal (p : Pat) (v : VInfo) (hv : Pat.vok v p = true) (hr : PepReady v)
    (hnf : v.tag ≠ "final".toList) : Pat.vok v p.toPep = true := by
  cases hn : p.toPepPre.hasPytagNum with
  | false => exact vok_toPep_relocated p v hv hr hn
  | true =>
    unfold Pat.toPep Pat.relocateTail
    rw [hn]
    simp only [if_true]
    rw [toPepPre_eq]
    apply vok_pre_all v _ (pepSubstName_zero v hr _) _ _ (vok_dropV v p hv)
    intro n hok
    rcases pepSubstName_cases p.dropV.keepPepLits n with h | h
    · rw [h]; exact hok
    · by_cases e : n = "TAG".toList
      · rw [(subst_tag_only n _ h).1.2 e]
        exact partOk_subst_tag v hr hnf
      · exact partOk_subst_num v hr.bid n _ h e hok

/-- every TAG of the pattern sits in a tag/number group (`Pat.tagGuarded`): all releases -/
theorem vok_toPep_guarded (p : Pat) (v : VInfo) (hv : Pat.vok v p = true) (hr : PepReady v)
    (hg : Pat.tagGuarded p = true) : Pat.vok v p.toPep = true := by
  by_cases hf : v.tag = "final".toList
  · cases hn : p.toPepPre.hasPytagNum with
    | false => exact vok_toPep_relocated p v hv hr hn
    | true =>
      unfold Pat.toPep Pat.relocateTail
      rw [hn]
      simp only [if_true]
      rw [toPepPre_eq]
      apply vok_pre_guarded v _ (pepSubstName_zero v hr _) _ _ _ (tagGuarded_dropV p hg) (vok_dropV v p hv)
      · intro n hne hok
        rcases pepSubstName_cases p.dropV.keepPepLits n with h | h
        · rw [h]; exact hok
        · exact partOk_subst_num v hr.bid n _ h hne hok
      · intro n hn
        simp only [isTailPart, Bool.or_eq_true, beq_iff_eq] at hn
        rcases hn with (rfl | rfl) | rfl
        · rw [partIsZero_TAG, hf]; rfl
        · rw [partIsZero_PYTAG, (pepTag_empty_iff _ _ hr.img).2 hf]; rfl
        · rw [partIsZero_NUM, hr.num hf]; rfl
  · exact vok_toPep_nonfinal p v hv hr hf

/-! ### the normal form: unpadded parts render as `str(n)` -/

/-- what a rendered part (field, text) of a derived pattern in normal form looks like: the short tag, or
    `str(n)` for the number `n` of its field (BLD: the number the BUILD string denotes) -/
def PepPartNormal (v : VInfo) (ft : Str × Str) : Prop :=
  (ft.1 = "pytag".toList ∧ ft.2 ∈ pepShortTags) ∨
  (∃ n, ft.2 = natToStr n ∧ (v.get ft.1 = .nat n ∨ (ft.1 = "bid".toList ∧ n = strToNat v.bid)))

theorem pytagOk_short (v : VInfo) (h : pytagOk v = true) : v.pytag ∈ pepShortTags := by
  have htab : Gen.validReleaseTagValues.all (fun t =>
      (lookup t Gen.pep440TagByTag).all (fun p => p.isEmpty || pepShortTags.contains p)) = true := by decide +kernel
  unfold pytagOk tagOk at h
  simp only [Bool.and_eq_true, beq_iff_eq, Bool.not_eq_true', List.contains_iff_mem] at h
  obtain ⟨⟨hm, hl⟩, hne⟩ := h
  have := List.all_eq_true.mp htab _ hm
  rw [hl] at this
  simpa [hne] using this

theorem partOk_cases (v : VInfo) (n : Str) (hok : partOk v n = true) :
    (∃ f kd x, lookup n Gen.partFields = some f ∧ lookup n Gen.partFormats = some kd ∧ v.get f = .nat x) ∨
    (n = "BUILD".toList ∧ isDigitStr v.bid = true) ∨ n = "BLD".toList ∨
    n = "TAG".toList ∨ (n = "PYTAG".toList ∧ pytagOk v = true) := by
  cases hl : lookup n partDoms with
  | none => simp only [partOk, hl] at hok; cases hok
  | some d =>
    have hd : d v = true := by rw [← partOk_eq hl]; exact hok
    cases partCase n d hl with
    | cal row =>
      obtain ⟨x, hx, _⟩ := row.value v hok
      exact Or.inl ⟨_, _, x, row.field, row.fmt, by rw [row.get_eq, hx]; rfl⟩
    | major => exact Or.inl ⟨"major".toList, .str, v.major, by decide, by decide, get_major v⟩
    | minor => exact Or.inl ⟨"minor".toList, .str, v.minor, by decide, by decide, get_minor v⟩
    | patch => exact Or.inl ⟨"patch".toList, .str, v.patch, by decide, by decide, get_patch v⟩
    | num => exact Or.inl ⟨"num".toList, .str, v.num, by decide, by decide, get_num v⟩
    | inc0 => exact Or.inl ⟨"inc0".toList, .str, v.inc0, by decide, by decide, get_inc0 v⟩
    | inc1 => exact Or.inl ⟨"inc1".toList, .str, v.inc1, by decide, by decide, get_inc1 v⟩
    | build => exact Or.inr (Or.inl ⟨rfl, hd⟩)
    | bld => exact Or.inr (Or.inr (Or.inl rfl))
    | tag => exact Or.inr (Or.inr (Or.inr (Or.inl rfl)))
    | pytag => exact Or.inr (Or.inr (Or.inr (Or.inr ⟨rfl, hd⟩)))

/-- THE PER-PART LEMMA of the normal form -/
theorem part_normal (v : VInfo) (n f t : Str) (hN : pepNormalPart n = true) (hok : partOk v n = true)
    (hf : lookup n Gen.partFields = some f) (ht : partText v n = some t) : PepPartNormal v (f, t) := by
  rcases partOk_cases v n hok with ⟨f', kd, x, hf', hk, hg⟩ | ⟨rfl, _⟩ | rfl | rfl | ⟨rfl, hpy⟩
  · rw [hf'] at hf
    cases hf
    simp only [partText, hf', hk, hg, Option.some.injEq] at ht
    simp only [pepNormalPart, hk, Bool.and_eq_true] at hN
    refine Or.inr ⟨x, ?_, Or.inl hg⟩
    cases kd with
    | str => exact ht.symm
    | int => rw [← ht]; simp only [fmtValue, strToNat_natToStr]
    | _ => exact absurd hN.2 (by simp)
  · exact absurd hN (by decide)
  · rw [partText_BLD] at ht
    have hf' : lookup "BLD".toList Gen.partFields = some "bid".toList := by decide
    rw [hf'] at hf
    cases hf; cases ht
    exact Or.inr ⟨_, rfl, Or.inr ⟨rfl, rfl⟩⟩
  · exact absurd hN (by decide)
  · rw [partText_PYTAG] at ht
    have hf' : lookup "PYTAG".toList Gen.partFields = some "pytag".toList := by decide
    rw [hf'] at hf
    cases hf; cases ht
    exact Or.inl ⟨rfl, pytagOk_short v hpy⟩

/-! ### the normal form on trees -/

theorem vok_opt (v : VInfo) (body rest : Pat) (h : Pat.vok v (.opt body rest) = true) :
    (Pat.allZero v body = true ∨ (Pat.allZero v body = false ∧ Pat.vok v body = true)) ∧ Pat.vok v rest = true := by
  simp only [Pat.vok, Bool.and_eq_true, Bool.or_eq_true] at h
  refine ⟨?_, h.2⟩
  cases hz : Pat.allZero v body with
  | true => exact Or.inl rfl
  | false => exact Or.inr ⟨rfl, h.1.resolve_left (by rw [hz]; exact Bool.false_ne_true)⟩

theorem caps_forall (v : VInfo) (P : Str × Str → Prop) : ∀ q : Pat, Pat.vok v q = true →
    (∀ n ∈ q.parts, ∀ f t, partOk v n = true → lookup n Gen.partFields = some f → partText v n = some t →
      P (f, t)) →
    ∀ ft, ft ∈ Pat.caps v q → P ft := by
  intro q
  induction q with
  | done => intro _ _ ft h; cases h
  | lit c rest ih => intro hv hP; exact ih hv hP
  | part n rest ih =>
    intro hv hP ft hm
    simp only [Pat.vok, Bool.and_eq_true] at hv
    have ih' := ih hv.2 (fun m hm => hP m (List.mem_cons_of_mem _ hm)) ft
    cases hf : lookup n Gen.partFields with
    | none => simp only [Pat.caps, hf] at hm; exact ih' hm
    | some f =>
      cases ht : partText v n with
      | none => simp only [Pat.caps, hf, ht] at hm; exact ih' hm
      | some t =>
        simp only [Pat.caps, hf, ht, List.mem_cons] at hm
        rcases hm with rfl | hm
        · exact hP n List.mem_cons_self f t hv.1 hf ht
        · exact ih' hm
  | opt body rest ihb ihr =>
    intro hv hP ft hm
    obtain ⟨hb, hvr⟩ := vok_opt v body rest hv
    simp only [Pat.parts, List.mem_append] at hP
    simp only [Pat.caps, List.mem_append] at hm
    rcases hm with hm | hm
    · rcases hb with hz | ⟨hz, hvb⟩
      · simp only [hz, if_true] at hm; cases hm
      · simp only [hz, Bool.false_eq_true, if_false] at hm
        exact ihb hvb (fun n hn => hP n (Or.inl hn)) ft hm
    · exact ihr hvr (fun n hn => hP n (Or.inr hn)) ft hm

theorem caps_all_normal (v : VInfo) (q : Pat) (hN : q.parts.all pepNormalPart = true) (hv : Pat.vok v q = true) :
    ∀ ft, ft ∈ Pat.caps v q → PepPartNormal v ft :=
  caps_forall v _ q hv (fun n hn f t hok hf ht => part_normal v n f t (List.all_eq_true.mp hN n hn) hok hf ht)

theorem caps_head_after (v : VInfo) : ∀ q : Pat,
    Pat.caps v q = Pat.caps v q.headComp ++ Pat.caps v q.afterHead := by
  intro q
  induction q with
  | done => rfl
  | lit c rest ih =>
    simp only [Pat.headComp, Pat.afterHead]
    split
    · rfl
    · simp only [Pat.caps]; exact ih
  | part n rest ih =>
    simp only [Pat.headComp, Pat.afterHead, Pat.caps]
    rw [ih]
    cases lookup n Gen.partFields with
    | none => rfl
    | some f =>
      cases partText v n with
      | none => rfl
      | some t => rfl
  | opt body rest _ _ => rfl

theorem render_head_after (v : VInfo) : ∀ q : Pat,
    Pat.render v q = Pat.render v q.headComp ++ Pat.render v q.afterHead := by
  intro q
  induction q with
  | done => rfl
  | lit c rest ih =>
    simp only [Pat.headComp, Pat.afterHead]
    split
    · rfl
    · simp only [Pat.render, List.cons_append]; rw [← ih]
  | part n rest ih =>
    simp only [Pat.headComp, Pat.afterHead, Pat.render, List.append_assoc]
    rw [← ih]
  | opt body rest _ _ => rfl

theorem afterHead_of_tail (P : Pat → Prop) (hl : ∀ c r, P (.lit c r) → P r) (hp : ∀ n r, P (.part n r) → P r) :
    ∀ q : Pat, P q → P q.afterHead := by
  intro q
  induction q with
  | done => exact id
  | lit c rest ih =>
    intro h
    simp only [Pat.afterHead]
    split
    · exact h
    · exact ih (hl c rest h)
  | part n rest ih => exact fun h => ih (hp n rest h)
  | opt body rest _ _ => exact id

theorem vok_afterHead (v : VInfo) (q : Pat) (h : Pat.vok v q = true) : Pat.vok v q.afterHead = true :=
  afterHead_of_tail (Pat.vok v · = true) (fun _ _ h => h)
    (fun n r h => by simp only [Pat.vok, Bool.and_eq_true] at h; exact h.2) q h

/-- no `.` literal and no optional group -/
def Pat.flatNoDot : Pat → Bool
  | .done => true
  | .lit c rest => c != '.' && Pat.flatNoDot rest
  | .part _ rest => Pat.flatNoDot rest
  | .opt _ _ => false

/-- the first component has no `.` literal and no optional group -/
theorem headComp_flatNoDot : ∀ q : Pat, Pat.flatNoDot q.headComp = true := by
  intro q
  induction q with
  | done => rfl
  | lit c rest ih =>
    simp only [Pat.headComp]
    split
    · rfl
    · next h =>
      simp only [Pat.flatNoDot, Bool.and_eq_true, bne_iff_ne, ne_eq, ih, and_true]
      simpa using h
  | part n rest ih => exact ih
  | opt body rest _ _ => rfl

theorem field_tag (n f : Str) (hf : lookup n Gen.partFields = some f) :
    (f = "tag".toList → n = "TAG".toList) ∧ (f = "pytag".toList → n = "PYTAG".toList) := by
  have htab : Gen.partFields.all (fun nf => (nf.2 != "tag".toList || nf.1 == "TAG".toList) &&
      (nf.2 != "pytag".toList || nf.1 == "PYTAG".toList)) = true := by decide +kernel
  have := List.all_eq_true.mp htab _ (lookup_mem hf)
  simp only [Bool.and_eq_true, Bool.or_eq_true, bne_iff_ne, ne_eq, beq_iff_eq] at this
  exact ⟨fun e => this.1.resolve_left (fun h => h e), fun e => this.2.resolve_left (fun h => h e)⟩

/-- no long tag anywhere; every rendered tag is a short one -/
theorem caps_tags (v : VInfo) (q : Pat) (hN : q.parts.all (fun n => n != "TAG".toList) = true)
    (hv : Pat.vok v q = true) :
    ∀ ft, ft ∈ Pat.caps v q → ft.1 ≠ "tag".toList ∧ (ft.1 = "pytag".toList → ft.2 ∈ pepShortTags) := by
  refine caps_forall v _ q hv (fun n hn f t hok hf ht => ⟨fun e => ?_, fun e => ?_⟩)
  · have := List.all_eq_true.mp hN n hn
    simp only [bne_iff_ne, ne_eq] at this
    exact this ((field_tag n f hf).1 e)
  · have hn' := (field_tag n f hf).2 e
    subst hn'
    rw [partText_PYTAG] at ht
    cases ht
    exact pytagOk_short v hok

/-- `str(n)` is "0" or starts with a non-zero digit -/
theorem natToStr_no_leading_zero (n : Nat) :
    natToStr n = "0".toList ∨ ∀ c t, natToStr n = c :: t → c ≠ '0' := by
  by_cases h : n = 0
  · left; rw [h]; decide
  · right
    intro c t e
    exact natToStr_head_ne_zero n (by omega) c t e

/-! ### "followed by its number" -/

/-- every `pytag` entry of a capture list is directly followed by the `num` entry -/
def CapsNumbered (v : VInfo) : List (Str × Str) → Prop
  | [] => True
  | ft :: rest => (ft.1 = "pytag".toList → ∃ tl, rest = ("num".toList, natToStr v.num) :: tl) ∧ CapsNumbered v rest

theorem capsNumbered_append (v : VInfo) (b : List (Str × Str)) (hb : CapsNumbered v b) :
    ∀ a, CapsNumbered v a → CapsNumbered v (a ++ b) := by
  intro a
  induction a with
  | nil => intro _; exact hb
  | cons ft rest ih =>
    intro h
    refine ⟨fun e => ?_, ih h.2⟩
    obtain ⟨tl, htl⟩ := h.1 e
    exact ⟨tl ++ b, by rw [htl]; rfl⟩

theorem caps_numbered (v : VInfo) : ∀ q : Pat, Pat.pytagNumbered q = true → CapsNumbered v (Pat.caps v q) := by
  intro q
  induction q with
  | done => intro _; trivial
  | lit c rest ih => intro h; exact ih h
  | part n rest ih =>
    intro h
    simp only [Pat.pytagNumbered, Bool.and_eq_true, Bool.or_eq_true, bne_iff_ne, ne_eq] at h
    cases hf : lookup n Gen.partFields with
    | none => simp only [Pat.caps, hf]; exact ih h.2
    | some f =>
      cases ht : partText v n with
      | none => simp only [Pat.caps, hf, ht]; exact ih h.2
      | some t =>
        simp only [Pat.caps, hf, ht]
        refine ⟨fun e => ?_, ih h.2⟩
        have hn := (field_tag n f hf).2 e
        rcases h.1 with h1 | h1
        · exact absurd hn h1
        · cases rest with
          | part m rest' =>
            simp only [beq_iff_eq] at h1
            subst h1
            have hf' : lookup "NUM".toList Gen.partFields = some "num".toList := by decide
            exact ⟨Pat.caps v rest', by simp only [Pat.caps, hf', partText_num]⟩
          | done => cases h1
          | lit _ _ => cases h1
          | opt _ _ => cases h1
  | opt body rest ihb ihr =>
    intro h
    simp only [Pat.pytagNumbered, Bool.and_eq_true] at h
    simp only [Pat.caps]
    apply capsNumbered_append v _ (ihr h.2)
    split
    · trivial
    · exact ihb h.1

theorem capsNumbered_split (v : VInfo) : ∀ (l l1 : List (Str × Str)) (t : Str) (l2 : List (Str × Str)),
    CapsNumbered v l → l = l1 ++ ("pytag".toList, t) :: l2 →
    ∃ l3, l2 = ("num".toList, natToStr v.num) :: l3 := by
  intro l l1
  induction l1 generalizing l with
  | nil =>
    intro t l2 h e
    subst e
    exact h.1 rfl
  | cons x l1 ih =>
    intro t l2 h e
    subst e
    exact ih _ t l2 h.2 rfl

/-! ### the derived pattern always carries `PYTAGNUM` -/

theorem hasPytagNum_append (b : Pat) (hb : b.hasPytagNum = true) : ∀ a : Pat, (Pat.append a b).hasPytagNum = true := by
  intro a
  induction a with
  | done => exact hb
  | lit c rest ih => exact ih
  | part n rest ih => simp only [Pat.append, Pat.hasPytagNum, ih, Bool.or_true]
  | opt body rest _ ihr => simp only [Pat.append, Pat.hasPytagNum, ihr, Bool.or_true]

theorem hasPytagNum_toPep (p : Pat) : p.toPep.hasPytagNum = true := by
  unfold Pat.toPep Pat.relocateTail
  split
  · next h => exact h
  · exact hasPytagNum_append pepTail (by decide) _
