/-
  Proofs/TokTie_Parse.lean — the structural regex source of a pattern tree parses to the structural
  compilation of the tree:

      parse_regexText : p.shapeOk = true → parseRe (Pat.regexText p) = Pat.compile p

  That every table regex parses is obtained by evaluation over the whole of `Gen.partPatterns` (`partPatterns_parse`)
  and lifted to entries (`rx_parses`): a table edit that breaks it breaks the build at that `decide`.  The other table
  facts come from Proofs/TokTie_Text.lean.
-/
import BumpverVerif.Proofs.TokTie_ParseGen
import BumpverVerif.Proofs.TokTie_Text
namespace BV

/-! ### table facts (by evaluation over the generated tables) -/

/-- every part regex is inside the parsed fragment -/
theorem partPatterns_parse : Gen.partPatterns.all (fun e => (parseRe e.2).isSome) = true := by
  -- the kernel decodes a string literal slowly (the regexes are long): spell the literals out as character lists first
  unfold Gen.partPatterns
  repeat rw [String.toList_ofList]
  decide +kernel

theorem rx_parses {n rx : Str} (h : lookup n Gen.partPatterns = some rx) : ∃ a, parseRe rx = some a := by
  exact Option.isSome_iff_exists.mp (List.all_eq_true.mp partPatterns_parse _ (lookup_some_mem h))

theorem field_noGt {n fld : Str} (h : lookup n Gen.partFields = some fld) : '>' ∉ fld := by
  have := List.all_eq_true.mp tbl_names.2.2.2.2 _ (lookup_some_mem h)
  simp only [Bool.and_eq_true, Bool.not_eq_true', List.contains_eq_mem, decide_eq_false_iff_not] at this
  exact this.2

/-! ### small facts -/

theorem seqR_eq_seqc (a b : Re) : seqR a b = seqc a b := by
  cases b <;> rfl

theorem repeatable_seqc (a b : Re) (ha : repeatable a = true) : repeatable (seqc a b) = true := by
  cases b <;> first | exact ha | rfl

/-- one step of `parseSeq` with an explicit quantifier result -/
theorem parseSeq_stepQ (f : Nat) (c : Char) (s' r r' : Str) (a q : Re) (h1 : c ≠ '|') (h2 : c ≠ ')')
    (ha : parseAtom f (c :: s') = some (a, r)) (hq : parseQuant a r = some (q, r')) :
    parseSeq (f + 1) (c :: s') = (parseSeq f r').map (fun br => (seqc q br.1, br.2)) := by
  rw [parseSeq_cons _ _ _ h1 h2, seqBody_eq, ha]
  simp only [Option.bind_some, hq]

theorem qFinish_quantFree (q : Re) (r : Str) (h : quantFree r = true) : qFinish q r = some (q, r) := by
  cases r with
  | nil => rfl
  | cons c r =>
    simp only [quantFree, Bool.and_eq_true, bne_iff_ne, ne_eq] at h
    unfold qFinish
    split <;> simp_all

theorem parseQuant_opt (a : Re) (r : Str) (ha : repeatable a = true) (h : quantFree r = true) :
    parseQuant a ('?' :: r) = some (.rep a 0 (some 1), r) := by
  rw [parseQuant_eq]
  simp only [quantBody, ha, if_true]
  exact qFinish_quantFree _ _ h

/-! ### text shapes -/

theorem groupText_append (n Y : Str) :
    groupText n ++ Y = '(' :: '?' :: 'P' :: '<' :: (fieldOf n ++ '>' :: (rxOf n ++ ')' :: Y)) := by
  have e1 : "(?P<".toList = ['(', '?', 'P', '<'] := rfl
  have e2 : ">".toList = ['>'] := rfl
  have e3 : ")".toList = [')'] := rfl
  unfold groupText
  rw [e1, e2, e3]
  simp only [List.append_assoc, List.cons_append, List.nil_append]

theorem optText_append (b r Y : Str) :
    "(?:".toList ++ (b ++ (")?".toList ++ r)) ++ Y = '(' :: '?' :: ':' :: (b ++ ')' :: '?' :: (r ++ Y)) := by
  have e1 : "(?:".toList = ['(', '?', ':'] := rfl
  have e2 : ")?".toList = [')', '?'] := rfl
  simp only [e1, e2, List.append_assoc, List.cons_append, List.nil_append]

/-- the text of a tree followed by an admissible tail never starts with a quantifier character -/
theorem quantFree_regexText (p : Pat) (tail : Str) (h : p.shapeOk = true) (ht : okTail tail) :
    quantFree (Pat.regexText p ++ tail) = true := by
  cases p with
  | done =>
    rcases ht with rfl | ⟨t', rfl⟩ <;> rfl
  | lit c rest =>
    simp only [Pat.shapeOk, Bool.and_eq_true] at h
    simp only [Pat.regexText, regexLit_eq, List.append_assoc]
    obtain ⟨x, r', e, hx⟩ := encChar_head c (Pat.regexText rest ++ tail) (by rw [← litOk_eq]; exact h.1)
    rw [e]
    simp [quantFree, hx]
  | part n rest =>
    simp only [Pat.regexText, groupText_append]
    rfl
  | opt b rest =>
    simp only [Pat.regexText, optText_append]
    rfl

/-! ### fuel -/

/-- fuel that suffices for `parseSeq` on the text of a tree -/
def seqNeed : Pat → Nat
  | .done => 1
  | .lit _ r => seqNeed r + 1
  | .part n r => max (seqNeed r) (3 * (rxOf n).length + 4) + 1
  | .opt b r => max (seqNeed r) (seqNeed b + 2) + 1

theorem encChar_length_pos (c : Char) : 1 ≤ (encChar c).length := by
  rcases encChar_cases c with ⟨e, -⟩ | ⟨e, -⟩ <;> rw [e] <;> simp

theorem seqNeed_le (p : Pat) : seqNeed p ≤ 3 * (Pat.regexText p).length + 1 := by
  induction p with
  | done => simp [seqNeed]
  | lit c rest ih =>
    have := encChar_length_pos c
    simp only [seqNeed, Pat.regexText, regexLit_eq, List.length_append]
    omega
  | part n rest ih =>
    have h := congrArg List.length (groupText_append n (Pat.regexText rest))
    simp only [List.length_append, List.length_cons] at h
    simp only [seqNeed, Pat.regexText, List.length_append]
    omega
  | opt b rest ihb ihr =>
    have h : ("(?:".toList ++ (Pat.regexText b ++ (")?".toList ++ Pat.regexText rest))).length =
        (Pat.regexText b).length + (Pat.regexText rest).length + 5 := by
      have e1 : "(?:".toList.length = 3 := rfl
      have e2 : ")?".toList.length = 2 := rfl
      simp only [List.length_append, e1, e2]
      omega
    simp only [seqNeed, Pat.regexText, h]
    omega

/-! ### composition -/

/-- what `parseSeq` does on the text of a tree in front of an admissible tail -/
def SeqOk (p : Pat) (c : Re) : Prop :=
  ∀ tail, okTail tail → ∀ f, seqNeed p ≤ f → parseSeq f (Pat.regexText p ++ tail) = some (c, tail)

theorem seqOk_done : SeqOk .done .eps := by
  intro tail ht f hf
  obtain ⟨g, rfl⟩ : ∃ g, f = g + 1 := ⟨f - 1, by simp only [seqNeed] at hf; omega⟩
  rcases ht with rfl | ⟨t', rfl⟩ <;> rfl

theorem seqOk_lit (c : Char) (rest : Pat) (cr : Re) (hc : litOk c = true) (hr : rest.shapeOk = true)
    (ih : SeqOk rest cr) : SeqOk (.lit c rest) (seqc (.chr c) cr) := by
  intro tail ht f hf
  have hn : 1 ≤ seqNeed rest := by cases rest <;> simp [seqNeed]
  simp only [seqNeed] at hf
  obtain ⟨g, rfl⟩ : ∃ g, f = g + 1 + 1 := ⟨f - 2, by omega⟩
  have hc' : litChar c = true := by rw [← litOk_eq]; exact hc
  simp only [Pat.regexText, regexLit_eq, List.append_assoc]
  have hs : match encChar c ++ (Pat.regexText rest ++ tail) with
      | [] => False | x :: _ => x ≠ '|' ∧ x ≠ ')' := by
    obtain ⟨x, r', e, h⟩ := encChar_head c (Pat.regexText rest ++ tail) hc'
    rw [e]; exact ⟨h.1, h.2.1⟩
  rw [parseSeq_step _ _ _ _ hs (parseAtom_encChar _ c _ hc') (quantFree_regexText rest tail hr ht),
    ih tail ht (g + 1) (by omega)]
  rfl

theorem seqOk_part (n : Str) (rest : Pat) (a cr : Re) (rx fld : Str)
    (h1 : lookup n Gen.partPatterns = some rx) (h2 : lookup n Gen.partFields = some fld)
    (ha : parseRe rx = some a) (hr : rest.shapeOk = true)
    (ih : SeqOk rest cr) : SeqOk (.part n rest) (seqc (.grp fld a) cr) := by
  intro tail ht f hf
  have erx : rxOf n = rx := by simp [rxOf, h1]
  have efl : fieldOf n = fld := by simp [fieldOf, h2]
  simp only [seqNeed, erx] at hf
  obtain ⟨g, rfl⟩ : ∃ g, f = g + 1 + 1 + 1 := ⟨f - 3, by omega⟩
  have etxt : Pat.regexText (.part n rest) ++ tail = groupText n ++ (Pat.regexText rest ++ tail) := by
    simp only [Pat.regexText, List.append_assoc]
  rw [etxt, groupText_append, erx, efl]
  have hat : parseAtom (g + 1 + 1)
      ('(' :: '?' :: 'P' :: '<' :: (fld ++ '>' :: (rx ++ ')' :: (Pat.regexText rest ++ tail)))) =
      some (.grp fld a, Pat.regexText rest ++ tail) := by
    have hN := takeName_spec [] fld (rx ++ ')' :: (Pat.regexText rest ++ tail)) (field_noGt h2)
    have hA := parseRe_closed ha (g + 1) (by omega) (Pat.regexText rest ++ tail)
    simp only [List.reverse_nil, List.nil_append] at hN
    simp only [parseAtom, hN, hA]
  rw [parseSeq_stepQ _ _ _ _ _ _ _ (by decide) (by decide) hat
      (parseQuant_none _ _ (quantFree_regexText rest tail hr ht)),
    ih tail ht (g + 1 + 1) (by omega)]
  rfl

theorem seqOk_opt (b rest : Pat) (cb cr : Re) (hb : repeatable cb = true) (hr : rest.shapeOk = true)
    (ihb : SeqOk b cb) (ih : SeqOk rest cr) :
    SeqOk (.opt b rest) (seqc (.rep cb 0 (some 1)) cr) := by
  intro tail ht f hf
  simp only [seqNeed] at hf
  obtain ⟨g, rfl⟩ : ∃ g, f = g + 1 + 1 + 1 := ⟨f - 3, by omega⟩
  simp only [Pat.regexText, optText_append]
  have hB := ihb (')' :: '?' :: (Pat.regexText rest ++ tail)) (okTail_close _) g (by omega)
  have hat : parseAtom (g + 1 + 1)
      ('(' :: '?' :: ':' :: (Pat.regexText b ++ ')' :: '?' :: (Pat.regexText rest ++ tail))) =
      some (cb, '?' :: (Pat.regexText rest ++ tail)) := by
    have hA : parseAlt (g + 1) (Pat.regexText b ++ ')' :: '?' :: (Pat.regexText rest ++ tail)) =
        some (cb, ')' :: '?' :: (Pat.regexText rest ++ tail)) := by
      rw [parseAlt_succ, hB]
      rfl
    simp only [parseAtom, hA]
  rw [parseSeq_stepQ _ _ _ _ _ _ _ (by decide) (by decide) hat
      (parseQuant_opt cb _ hb (quantFree_regexText rest tail hr ht)),
    ih tail ht (g + 1 + 1) (by omega)]
  rfl

/-- composition: under `shapeOk` the tree compiles, and `parseSeq` reads its text as that regex -/
theorem compile_seqOk (p : Pat) (h : p.shapeOk = true) :
    ∃ c, Pat.compile p = some c ∧ ((match p with | .done => False | _ => True) → repeatable c = true) ∧
      SeqOk p c := by
  induction p with
  | done => exact ⟨.eps, rfl, fun h => h.elim, seqOk_done⟩
  | lit c rest ih =>
    simp only [Pat.shapeOk, Bool.and_eq_true] at h
    obtain ⟨cr, e, -, hS⟩ := ih h.2
    refine ⟨seqc (.chr c) cr, ?_, fun _ => repeatable_seqc _ _ rfl, seqOk_lit c rest cr h.1 h.2 hS⟩
    simp [Pat.compile, e, seqR_eq_seqc]
  | part n rest ih =>
    simp only [Pat.shapeOk, Bool.and_eq_true] at h
    obtain ⟨⟨h1, h2⟩, h3⟩ := h
    obtain ⟨cr, e, -, hS⟩ := ih h3
    obtain ⟨rx, h1⟩ := Option.isSome_iff_exists.mp h1
    obtain ⟨fld, h2⟩ := Option.isSome_iff_exists.mp h2
    obtain ⟨a, ha⟩ := rx_parses h1
    refine ⟨seqc (.grp fld a) cr, ?_, fun _ => repeatable_seqc _ _ rfl,
      seqOk_part n rest a cr rx fld h1 h2 ha h3 hS⟩
    simp [Pat.compile, partReOf, h1, h2, ha, e, seqR_eq_seqc]
  | opt b rest ihb ihr =>
    simp only [Pat.shapeOk, Bool.and_eq_true] at h
    obtain ⟨⟨h1, h2⟩, h3⟩ := h
    obtain ⟨cb, eb, hrep, hSb⟩ := ihb h2
    obtain ⟨cr, er, -, hSr⟩ := ihr h3
    have hb : repeatable cb = true := by
      apply hrep
      cases b <;> simp_all
    refine ⟨seqc (.rep cb 0 (some 1)) cr, ?_, fun _ => repeatable_seqc _ _ rfl,
      seqOk_opt b rest cb cr hb h3 hSb hSr⟩
    simp [Pat.compile, eb, er, seqR_eq_seqc]

/-- a well-shaped tree compiles -/
theorem compile_isSome (p : Pat) (h : p.shapeOk = true) : (Pat.compile p).isSome = true := by
  obtain ⟨c, e, -, -⟩ := compile_seqOk p h
  simp [e]

/-- `parseSeq`/`parseAlt` on the text of a tree in front of `)` or at the end, any sufficient fuel -/
theorem parseSeq_regexText (p : Pat) (h : p.shapeOk = true) (tail : Str) (ht : okTail tail)
    (f : Nat) (hf : seqNeed p ≤ f) :
    parseSeq f (Pat.regexText p ++ tail) = (Pat.compile p).map (fun c => (c, tail)) := by
  obtain ⟨c, e, -, hS⟩ := compile_seqOk p h
  rw [e, hS tail ht f hf]
  rfl

/-- THE TIE: the structural regex source parses to the structural compilation -/
theorem parse_regexText (p : Pat) (h : p.shapeOk = true) : parseRe (Pat.regexText p) = Pat.compile p := by
  obtain ⟨c, e, -, hS⟩ := compile_seqOk p h
  have hn := seqNeed_le p
  have hP := hS [] okTail_nil (3 * (Pat.regexText p).length + 2) (by omega)
  rw [List.append_nil] at hP
  have hA := parseAlt_of_parseSeq _ _ _ hP
  rw [e]
  unfold parseRe
  have e3 : 3 * (Pat.regexText p).length + 3 = 3 * (Pat.regexText p).length + 2 + 1 := rfl
  rw [e3, hA]

end BV
