/-
  Proofs/DiffLemmas.lean — helper lemmas about Model/Diff.lean: the dry (diff) path versus the
  write path, the strict unified-diff applier, the hunk body reader.
-/
import BumpverVerif.Model.Diff
import BumpverVerif.Proofs.RewriteLemmas
namespace BV

/-! ### `diffFile` / `diffFiles` versus `rewriteContent` / `planWrites` -/

theorem diffFile_ok {fs : FS} {old new : VInfo} {path : Str} {pats : List CPat}
    {ol nl : List Str} (h : diffFile fs old new path pats = .ok (ol, nl)) :
    ∃ content, lookup path fs = some content ∧ ol = splitOn (detectLineSep content) content ∧
      rewriteLines pats new (splitOn (detectLineSep content) content) = .ok nl := by
  unfold diffFile at h
  split at h
  · cases h
  · rename_i content hc
    refine ⟨content, hc, ?_⟩
    simp only at h
    split at h
    · cases h
    · rename_i newLines hn
      split at h
      · cases h
      · cases h
        exact ⟨rfl, hn⟩

theorem diffFile_rewriteContent {fs : FS} {old new : VInfo} {path : Str} {pats : List CPat}
    {ol nl : List Str} (h : diffFile fs old new path pats = .ok (ol, nl)) :
    ∃ content, lookup path fs = some content ∧ ol = splitOn (detectLineSep content) content ∧
      rewriteContent pats new content = .ok (join (detectLineSep content) nl) := by
  obtain ⟨content, h1, h2, h3⟩ := diffFile_ok h
  refine ⟨content, h1, h2, ?_⟩
  unfold rewriteContent
  simp only [h3]

theorem diffFiles_cons_ok {fs : FS} {old new : VInfo} {path : Str} {pats : List CPat}
    {rest : List (Str × List CPat)} {rs : List (Str × List Str × List Str)}
    (h : diffFiles fs old new ((path, pats) :: rest) = .ok rs) :
    ∃ r rs', diffFile fs old new path pats = .ok r ∧ diffFiles fs old new rest = .ok rs' ∧
      rs = (path, r) :: rs' := by
  unfold diffFiles at h
  split at h
  · cases h
  · rename_i r hr
    split at h
    · cases h
    · rename_i rs' hrs'
      cases h
      exact ⟨r, rs', hr, hrs', rfl⟩

/-- a successful dry run ⇒ the read-and-validate phase of the real run succeeds and plans, for
    every diffed file, the join of the diffed new lines -/
theorem planWrites_of_diffFiles (fs : FS) (old new : VInfo) (fps : List (Str × List CPat))
    (rs : List (Str × List Str × List Str)) (h : diffFiles fs old new fps = .ok rs) :
    ∃ ws, planWrites fs new fps = .ok ws ∧
      ∀ r ∈ rs, ∃ content, lookup r.1 fs = some content ∧
        (r.1, join (detectLineSep content) r.2.2) ∈ ws := by
  induction fps generalizing rs with
  | nil =>
    simp only [diffFiles, Except.ok.injEq] at h
    subst h
    exact ⟨[], rfl, by simp⟩
  | cons fp rest ih =>
    obtain ⟨path, pats⟩ := fp
    obtain ⟨⟨ol, nl⟩, rs', hr, hrs', rfl⟩ := diffFiles_cons_ok h
    obtain ⟨ws, hws, hall⟩ := ih rs' hrs'
    obtain ⟨content, hc, -, hrc⟩ := diffFile_rewriteContent hr
    refine ⟨(path, join (detectLineSep content) nl) :: ws, ?_, ?_⟩
    · unfold planWrites
      simp only [hc, hrc, hws]
    · intro r hrm
      rcases List.mem_cons.1 hrm with rfl | hrm
      · exact ⟨content, hc, List.mem_cons_self⟩
      · obtain ⟨c, h1, h2⟩ := hall r hrm
        exact ⟨c, h1, List.mem_cons_of_mem _ h2⟩

/-! ### the applier -/

theorem split_facts {α} (old pre mid rest : List α) (k n : Nat) (h : old = pre ++ mid ++ rest)
    (hk : pre.length = k) (hn : mid.length = n) :
    (old.drop k).take n = mid ∧ old.drop (k + n) = rest ∧ k + n ≤ old.length ∧ old.take k = pre := by
  subst h hk hn
  refine ⟨?_, ?_, ?_, ?_⟩
  · simp [List.append_assoc]
  · rw [← List.length_append, List.drop_left]
  · simp only [List.length_append]; omega
  · rw [List.append_assoc, List.take_left]

/-- one step of `applyHunks`, as an iff -/
theorem applyHunks_cons_some (h : Hunk) (hs : List Hunk) (pos : Nat) (old new : List Str) :
    applyHunks (h :: hs) pos old = some new ↔
      pos ≤ h.oldPos ∧ h.oldSide.length = h.oldLen ∧ h.newSide.length = h.newLen ∧
      (h.oldLen = 0 ∨ h.oldStart ≠ 0) ∧ (h.oldPos - pos) + h.oldLen ≤ old.length ∧
      (old.drop (h.oldPos - pos)).take h.oldLen = h.oldSide ∧
      ∃ rest, applyHunks hs (h.oldPos + h.oldLen) (old.drop ((h.oldPos - pos) + h.oldLen)) = some rest ∧
        new = old.take (h.oldPos - pos) ++ h.newSide ++ rest := by
  rw [applyHunks]
  -- each test of the chain refuses exactly when one conjunct fails
  by_cases c1 : h.oldPos < pos
  · rw [if_pos c1]
    exact ⟨(fun x => by cases x), (fun x => by omega)⟩
  rw [if_neg c1]
  by_cases c2 : (h.oldSide.length != h.oldLen || h.newSide.length != h.newLen) = true
  · rw [if_pos c2]
    refine ⟨(fun x => by cases x), ?_⟩
    rintro ⟨-, a, b, -⟩
    simp [a, b] at c2
  rw [if_neg c2]
  have c2' : h.oldSide.length = h.oldLen ∧ h.newSide.length = h.newLen := by
    simpa using c2
  by_cases c3 : (h.oldLen != 0 && h.oldStart == 0) = true
  · rw [if_pos c3]
    refine ⟨(fun x => by cases x), ?_⟩
    rintro ⟨-, -, -, a, -⟩
    simp at c3
    omega
  rw [if_neg c3]
  have c3' : h.oldLen = 0 ∨ h.oldStart ≠ 0 := by
    simp at c3
    omega
  by_cases c4 : old.length < h.oldPos - pos + h.oldLen
  · rw [if_pos c4]
    exact ⟨(fun x => by cases x), (fun x => by omega)⟩
  rw [if_neg c4]
  by_cases c5 : ((old.drop (h.oldPos - pos)).take h.oldLen != h.oldSide) = true
  · rw [if_pos c5]
    refine ⟨(fun x => by cases x), ?_⟩
    rintro ⟨-, -, -, -, -, a, -⟩
    simp [a] at c5
  rw [if_neg c5]
  have c5' : (old.drop (h.oldPos - pos)).take h.oldLen = h.oldSide := by simpa using c5
  cases hr : applyHunks hs (h.oldPos + h.oldLen) (old.drop (h.oldPos - pos + h.oldLen)) with
  | none => simp
  | some rest =>
    simp only [Option.some.injEq]
    constructor
    · intro x
      exact ⟨by omega, c2'.1, c2'.2, c3', by omega, c5', rest, rfl, x.symm⟩
    · rintro ⟨-, -, -, -, -, -, rest', hr', hn⟩
      cases hr'
      exact hn.symm

/-! ### the hunk body reader -/

def DLine.isOld : DLine → Bool
  | .add _ => false
  | _ => true

def DLine.isNew : DLine → Bool
  | .del _ => false
  | _ => true

theorem readHunkBody_counts (lines : List Str) (o n : Nat) (ls : List DLine) (rest : List Str)
    (h : readHunkBody lines o n = some (ls, rest)) :
    (ls.filter DLine.isOld).length = o ∧ (ls.filter DLine.isNew).length = n ∧
      lines.length = ls.length + rest.length := by
  induction lines generalizing o n ls rest with
  | nil =>
    unfold readHunkBody at h
    split at h
    · rename_i hc
      simp only [Bool.and_eq_true, beq_iff_eq] at hc
      cases h
      simp [hc.1, hc.2]
    · cases h
  | cons l tl ih =>
    unfold readHunkBody at h
    split at h
    · rename_i hc
      simp only [Bool.and_eq_true, beq_iff_eq] at hc
      cases h
      simp [hc.1, hc.2]
    · split at h
      -- a line that starts with none of ' ', '-', '+' is refused; the three kinds differ only in
      -- which of the two counts they lower
      all_goals first
        | (cases h; done)
        | (split at h
           · cases h
           · rename_i hc
             simp only [Bool.or_eq_true, beq_iff_eq, not_or] at hc
             obtain ⟨⟨ls', r'⟩, hrec, heq⟩ := Option.map_eq_some_iff.1 h
             cases heq
             obtain ⟨h1, h2, h3⟩ := ih _ _ _ _ hrec
             simp only [List.filter_cons, DLine.isOld, DLine.isNew, if_true, Bool.false_eq_true, if_false,
               List.length_cons]
             omega)

end BV
