/-
  Proofs/Tie_compileCalleesInst.lean — the callee parameters of the generated `_compile_file_patterns`
  (`compile_pattern`, `compile_patterns` of v2patterns, `compile_patterns` of v1patterns) instantiated by GENERATED code:

  * v2: `GenF.compilePattern` / `GenF.compilePatterns` (harness/translate_patterns.py; their result `none` =
    an exception of the callee, read here as `re.error`, as the hand model does), with the fuel their `while True:` loops
    need for the pattern at hand (`tie_compilePattern`, `tie_compilePatterns`: any larger fuel gives the same result);
  * v1: `GenV1.v1CompilePattern` (harness/translate_v1.py) for every pattern.  `v1patterns.compile_patterns` itself
    (a one-line list comprehension over `compile_pattern`) is translated by no group: `mapE` stands for the comprehension
    (NOT tied to the source).

  `genCallees_agree`: these callees satisfy `CalleesAgree` for the environment whose `compileOk` is "the hand model's
  regex compiles" and for `mk` = the `patterns.Pattern` tuple (version_pattern, NORMALISED raw pattern, regex) — so the
  hypothesis `hc` of `tie_parseConfig_instantiated` / `tie_compileFilePatterns_model` is satisfiable by code generated from
  the source, and the compiled patterns in the map are the ones `Proofs/Tie_compilePattern.lean` describes.
-/
import BumpverVerif.Proofs.Tie_parseConfigInst
import BumpverVerif.Proofs.Tie_compilePattern
import BumpverVerif.Proofs.Tie_v1CompilePattern
namespace BV
open TieP Py

/-- `none` (an exception inside the generated v2 compile functions) read as `re.error` -/
def optExc {α : Type} : Option α → Except Str α
  | some a => .ok a
  | none => .error "re.error".toList

def fuelFor (vp p : Str) : Nat := compileFuel (normalizePattern vp p)
def fuelForAll (vp : Str) (ps : List Str) : Nat := (ps.map (fuelFor vp)).foldl max 0

/-- a `patterns.Pattern` made by the v1 compiler, as the same NamedTuple the v2 compiler makes -/
def v1ToPy (p : GenV1.V1Pattern) : GenF.PyPattern :=
  { version_pattern := p.versionPattern, raw_pattern := p.rawPattern, regexp := p.regexp }

/-- the callees instantiated by generated code (a version pattern that is not a str: AttributeError — never reached
    from `_parse_config`, which stores the stripped str first) -/
def genCallees : CompileCallees GenF.PyPattern where
  cp2 v p := match v with
    | .str vp => optExc (GenF.compilePattern Gen.rePatternEscapes Gen.partPatterns Gen.partFields
        Gen.pep440PartSubstitutions (fuelFor vp p) vp (some p))
    | _ => .error "AttributeError".toList
  cps2 v ps := match v with
    | .str vp => optExc (GenF.compilePatterns Gen.rePatternEscapes Gen.partPatterns Gen.partFields
        Gen.pep440PartSubstitutions (fuelForAll vp ps) vp ps)
    | _ => .error "AttributeError".toList
  cps1 v ps := match v with
    | .str vp => mapE (fun p => ((GenV1.v1CompilePattern vp (some p)).mapError V1Err.pyClass).map v1ToPy) ps
    | _ => .error "AttributeError".toList

/-- "the pattern compiles" in the hand model -/
def modelCompileOk (isNew : Bool) (vp p : Str) : Bool :=
  if isNew then (compileRe (normalizePattern vp p)).isSome
  else (match v1CompilePattern vp p with | .ok _ => true | .error _ => false)

/-- the compiled pattern: (version_pattern, normalised raw pattern, regex) -/
def modelPattern (vp : Str) (isNew : Bool) (p : Str) : GenF.PyPattern :=
  if isNew then
    patternOf vp (normalizePattern vp p) ((compileRe (normalizePattern vp p)).getD Re.eps)
  else
    { version_pattern := vp, raw_pattern := v1NormalizedPattern vp p,
      regexp := (match v1CompilePattern vp p with | .ok r => r | .error _ => Re.eps) }

namespace TieP

theorem optExc_mapM {α β : Type} (f : α → Option β) (l : List α) :
    optExc (PyP.mapM f l) = mapE (fun x => optExc (f x)) l := by
  induction l with
  | nil => rfl
  | cons x xs ih =>
    simp only [PyP.mapM, mapE]
    cases f x with
    | none => rfl
    | some y =>
      rw [← ih]
      cases PyP.mapM f xs <;> rfl

theorem mapE_congr {α β : Type} (f g : α → Except Str β) (l : List α) (h : ∀ x ∈ l, f x = g x) :
    mapE f l = mapE g l := by
  induction l with
  | nil => rfl
  | cons x xs ih =>
    simp only [mapE, h x List.mem_cons_self, ih (fun y hy => h y (List.mem_cons_of_mem _ hy))]

theorem le_foldl_max (l : List Nat) (init x : Nat) (h : x ≤ init ∨ x ∈ l) : x ≤ l.foldl max init := by
  induction l generalizing init with
  | nil =>
    rcases h with h | h
    · exact h
    · cases h
  | cons a t ih =>
    rw [List.foldl_cons]
    apply ih
    rcases h with h | h
    · exact .inl (Nat.le_trans h (Nat.le_max_left _ _))
    · rcases List.mem_cons.mp h with h | h
      · exact .inl (h ▸ Nat.le_max_right _ _)
      · exact .inr h

theorem v1CompileRe_error_class (s : Str) (e : V1Err) (h : v1CompileRe s = .error e) :
    e.pyClass = "re.error".toList := by
  unfold v1CompileRe v1ReOfSrc at h
  split at h
  · cases h; rfl
  · split at h
    · cases h; rfl
    · cases h

end TieP

theorem genCallees_cp2 (vp p : Str) :
    genCallees.cp2 (.str vp) p =
      if modelCompileOk true vp p then .ok (modelPattern vp true p) else .error "re.error".toList := by
  simp only [genCallees, modelCompileOk, modelPattern, if_true]
  rw [tie_compilePattern (fuelFor vp p) vp (some p) (by simp [fuelFor])]
  simp only [Option.getD_some]
  cases compileRe (normalizePattern vp p) <;> rfl

theorem genCallees_agree (env : CfgEnv) (henv : env.compileOk = modelCompileOk) (vp : Str) :
    CalleesAgree env genCallees (modelPattern vp) vp := by
  refine ⟨?_, ?_, ?_⟩
  · intro p
    rw [henv]
    exact genCallees_cp2 vp p
  · intro ps
    have hfuel : ∀ raw ∈ ps, compileFuel (normalizePattern vp raw) ≤ fuelForAll vp ps := by
      intro raw hraw
      exact le_foldl_max _ 0 _ (.inr (List.mem_map.mpr ⟨raw, hraw, rfl⟩))
    show optExc (GenF.compilePatterns _ _ _ _ (fuelForAll vp ps) vp ps) = _
    rw [tie_compilePatterns (fuelForAll vp ps) vp ps hfuel, optExc_mapM]
    apply mapE_congr
    intro p _
    rw [genCallees_cp2]
    simp only [modelCompileOk, modelPattern, if_true]
    cases compileRe (normalizePattern vp p) <;> rfl
  · intro ps
    rw [henv]
    show mapE _ ps = _
    apply mapE_congr
    intro p _
    have h1 := tie_v1CompilePattern vp (some p)
    simp only [Option.getD_some] at h1
    simp only [modelCompileOk, modelPattern, Bool.false_eq_true, if_false]
    cases hg : GenV1.v1CompilePattern vp (some p) with
    | error e =>
      rw [hg] at h1
      simp only [Except.map] at h1
      rw [← h1]
      simp only [Except.mapError, Except.map, Bool.false_eq_true, if_false]
      have : v1CompileRe (v1NormalizedPattern vp p) = .error e := by
        have := h1; unfold v1CompilePattern at this; exact this.symm
      rw [v1CompileRe_error_class _ e this]
    | ok pat =>
      rw [hg] at h1
      simp only [Except.map] at h1
      obtain ⟨hv, hr⟩ := tie_v1CompilePattern_fields vp (some p) pat hg
      simp only [Option.getD_some] at hr
      rw [← h1]
      simp only [Except.mapError, Except.map, if_true, v1ToPy, hv, hr]

/-- `tie_parseConfig_full_instantiated` with every callee of the file-pattern step generated from source:
    non-vacuity of its hypothesis `hc` -/
theorem genCallees_agree_all (pathExists : Str → Bool) (glob : Str → List Str) (today : Nat × Nat × Nat) :
    ∀ vp, CalleesAgree { validVersion := validVersion today, compileOk := modelCompileOk, pathExists := pathExists,
                         glob := glob } genCallees (modelPattern vp) vp :=
  fun vp => genCallees_agree _ rfl vp

/-- END TO END for `_parse_config`: every callee of the file-pattern step generated from source, the validation callees
    the hand model's parsers (themselves tied: `tie_parseVersionInfo`, `tie_v1ParseVersionInfo`).  Remaining hypotheses:
    glob total (`glob : Str → List Str`), and `hp` (the parser rejects this configuration's version, if at all, with
    PatternError). -/
theorem tie_parseConfig_full_generated (today : Nat × Nat × Nat) (pathExists : Str → Bool) (glob : Str → List Str)
    (pep : Str → Str) (raw : RawCfg)
    (hp : ∀ s4 s6, lookup "current_version".toList raw.opts = some (.str s4) →
      lookup "version_pattern".toList raw.opts = some (.str s6) →
      parseFailsOnlyWithPatternError today (stripQuotes s4) (stripQuotes s6) (cfgIsNewPattern (stripQuotes s6))) :
    (GenF.parseConfig (GenF.validateVersionWithPattern (parse2Model today) parse1Model) pep
        (GenF.compileFilePatterns (fun g => .ok (glob g)) genCallees.cp2 genCallees.cps2 genCallees.cps1) pathExists
        (TieH.embedRaw raw)).map (fun c => (absConfigNoPatterns c, c.file_patterns, c.pep440_version)) =
      ((parseConfig { validVersion := validVersion today, compileOk := modelCompileOk, pathExists := pathExists,
                      glob := glob } raw).mapError CfgErr.pyClass).map
        (fun e => ({ e with filePatterns := [] }, mapVals (modelPattern e.versionPattern e.isNewPattern) e.filePatterns,
          pep e.currentVersion)) :=
  tie_parseConfig_full_instantiated today
    { validVersion := validVersion today, compileOk := modelCompileOk, pathExists := pathExists, glob := glob }
    genCallees modelPattern pep raw (genCallees_agree_all pathExists glob today) hp

end BV
