/-
  Proofs/Tie_parseConfig.lean — the definition GENERATED from the Python source of
  `config._parse_config` (Gen/F_parseConfig.lean, harness/translate_config.py) equals the hand model
  `BV.parseConfig` (Model/Config.lean) on ALL raw dicts.

  * The three callees that stay parameters are instantiated from the hand model's environment
    `CfgEnv`: `_validate_version_with_pattern` ↦ `validateOf env`, `_compile_file_patterns` ↦
    `compileOf env` — a function of the raw dict AS MUTATED so far (it reads `version_pattern` from
    it), so the write-backs `raw_cfg['version_pattern'] = version_pattern.strip(...)` are part of the
    obligation — and `pl.Path(p).exists()` ↦ `env.pathExists`.  `version.to_pep440` is an arbitrary
    function `pep` (the model's `EffectiveConfig` has no such field; the tie says the field is
    `pep current_version`).
  * Result abstraction `absConfig`: `tag_scope` by its value, `commit`/`tag`/`push` by truthiness
    (a NamedTuple does not check its field types: a TOML `commit = "true"` stays a str — finding
    F-C18-quoted-bool — and every reader tests truthiness).
  * Error abstraction: the generated definition answers the Python exception class, the hand model
    a `CfgErr`; `CfgErr.pyClass`.  The pseudo class `!cast` never occurs.
  * `embedRaw`: the hand model's `RawCfg` always has `file_patterns` (set by `_parse_raw_config`).

  The proof follows the control flow once (every failing branch closes by evaluation); it does not
  mention the literal defaults (`DEFAULT_COMMIT_MESSAGE`, …): those are compared with the generated
  tables by `decide`.
-/
import BumpverVerif.Gen.F_parseConfig
import BumpverVerif.Proofs.Tie_parseCfgStrings
set_option linter.unusedSimpArgs false
namespace BV
open TieH
open GenF

/-- `_validate_version_with_pattern(current_version, version_pattern, is_new_pattern)` -/
def validateOf (env : CfgEnv) (cv vp : Str) (isNew : Bool) : Except Str Unit :=
  if env.validVersion cv vp isNew then .ok () else .error "ValueError".toList

/-- `_compile_file_patterns(raw_cfg, is_new_pattern)`: reads `raw_cfg['version_pattern']` and
    `raw_cfg['file_patterns']` -/
def compileOf (env : CfgEnv) (d : TomlSection) (isNew : Bool) : Except Str FilePatterns :=
  match rawStr "version_pattern".toList d.opts with
  | .error e => .error e.pyClass
  | .ok vp => (compileFilePatterns env isNew vp (d.filePatterns.getD [])).mapError CfgErr.pyClass

/-- what the hand model keeps of a `config.Config` -/
def absConfig (c : Cfg.Config FilePatterns) : EffectiveConfig :=
  { currentVersion := c.current_version, versionPattern := c.version_pattern,
    commitMessage := c.commit_message, tagMessage := c.tag_message, tagScope := c.tag_scope.value,
    preCommitHook := c.pre_commit_hook, postCommitHook := c.post_commit_hook,
    commit := c.commit.truthy, tag := c.tag.truthy, push := c.push.truthy,
    isNewPattern := c.is_new_pattern, filePatterns := c.file_patterns }

theorem tie_parseConfig_full (env : CfgEnv) (pep : Str → Str) (raw : RawCfg) :
    (GenF.parseConfig (validateOf env) pep (compileOf env) env.pathExists (embedRaw raw)).map
        (fun c => (absConfig c, c.pep440_version))
      = ((parseConfig env raw).mapError CfgErr.pyClass).map (fun e => (e, pep e.currentVersion)) := by
  unfold GenF.parseConfig parseConfig
  simp only [embedRaw, tie_parseCfgStrings, strOptDefault_match, strReq_match, stripQuotes, bind, Except.bind, pure,
    Except.pure, emptyStr, tagScope_default, apply_ite Prod.snd, apply_ite Prod.fst]
  simp (disch := exact toList_ne (by simp)) only [lookup_setOpt_ne, lookup_setOpt_eq, parseCfgStrings_setOpt_ne]
  -- commit_message, tag_message: `raw_cfg.get(key, DEFAULT).strip(...)`
  rw [strOf_default "commit_message".toList _ _ Gen.defaultCommitMessage (by decide)]
  generalize Py.strOf ((lookup "commit_message".toList raw.opts).getD _) = x1
  rcases x1 with _ | cm <;> simp only [Except.map, Except.mapError, pyClass_notAString]
  rw [strOf_default "tag_message".toList _ _ Gen.defaultTagMessage (by decide)]
  generalize Py.strOf ((lookup "tag_message".toList raw.opts).getD _) = x2
  rcases x2 with _ | tm <;> simp only [Except.map, Except.mapError, pyClass_notAString]
  -- current_version, version_pattern: `raw_cfg[key].strip(...)`
  rcases h3 : lookup "current_version".toList raw.opts with _ | (cv | _ | _) <;>
    simp only [Py.strOf, Except.map, Except.mapError, pyClass_notAString, pyClass_keyError]
  rcases h4 : lookup "version_pattern".toList raw.opts with _ | (vp | _ | _) <;>
    simp only [Py.strOf, Except.map, Except.mapError, pyClass_notAString, pyClass_keyError]
  -- _validate_version_with_pattern, _compile_file_patterns (parameters)
  simp only [validateOf, compileOf, rawStr, require, Bool.not_or, isNew_fold, isNew_fold', lookup_setOpt_eq,
    Option.getD_some]
  generalize env.validVersion _ _ _ = vv
  cases vv <;>
    simp only [Bool.false_eq_true, if_false, if_true, Except.map, Except.mapError, pyClass_invalidVersion]
  generalize compileFilePatterns env _ _ _ = cc
  rcases cc with ce | fps <;> simp only [Except.map, Except.mapError]
  -- tag_scope = TagScope(_parse_cfg_strings(raw_cfg, 'tag_scope', DEFAULT_TAG_SCOPE))
  rcases hts : parseCfgStrings "tag_scope".toList Gen.defaultTagScope raw.opts with e | ts <;>
    simp only [Except.map, Except.mapError]
  simp only [← tagScope_ofValue_isSome]
  rcases hov : Cfg.TagScope.ofValue ts with _ | sc <;>
    simp only [Option.isSome_none, Option.isSome_some, Bool.false_eq_true, if_false, if_true,
      Except.map, Except.mapError, pyClass_tagScope]
  -- the two hooks
  simp (disch := exact toList_ne (by simp)) only [parseCfgStrings_stripOpt_ne, parseCfgStrings_setOpt_ne]
  rcases hpre : parseCfgStrings "pre_commit_hook".toList [] raw.opts with e | pre <;>
    simp only [Except.map, Except.mapError]
  simp (disch := exact toList_ne (by simp)) only [parseCfgStrings_stripOpt_ne, parseCfgStrings_setOpt_ne]
  rcases hpost : parseCfgStrings "post_commit_hook".toList [] raw.opts with e | post <;>
    simp only [Except.map, Except.mapError]
  -- commit, tag, push
  simp (disch := exact toList_ne (by simp)) only [lookup_stripOpt_ne, lookup_setOpt_ne]
  simp only [optVal]
  rcases hcmt : lookup "commit".toList raw.opts with _ | vc <;>
    try simp only [Except.map, Except.mapError, pyClass_keyError]
  rcases htag : lookup "tag".toList raw.opts with _ | vt <;>
    try simp only [Except.map, Except.mapError, pyClass_keyError]
  rcases hpush : lookup "push".toList raw.opts with _ | vp' <;>
    try simp only [Except.map, Except.mapError, pyClass_keyError]
  -- `if tag is None: tag = False`, the flag checks, the record: every test is a Boolean combination of the three
  -- truth values and the two hook tests; all 32 valuations are closed by evaluation
  have hsc := tagScope_value_of ts sc hov
  subst hsc
  simp only [apply_ite Prod.snd, apply_ite Prod.fst, tagScope_mem_all, checkFlags, apply_ite RawVal.truthy,
    truthy_bool, truthy_ite_none, truthy_ite_nnone]
  generalize hbt : vt.truthy = bt
  generalize hbc : vc.truthy = bc
  generalize hbp : vp'.truthy = bp
  generalize (!List.isEmpty pre && !env.pathExists pre) = h1
  generalize (!List.isEmpty post && !env.pathExists post) = h2
  cases bt <;> cases bc <;> cases bp <;> cases h1 <;> cases h2 <;>
    simp only [Bool.and_false, Bool.and_true, Bool.false_and, Bool.true_and, Bool.not_true, Bool.not_false,
      Bool.false_eq_true, if_true, if_false, absConfig, apply_ite RawVal.truthy, truthy_bool, truthy_ite_none,
      truthy_ite_nnone, pyClass_tagRequiresCommit, pyClass_pushRequiresCommit,
      pyClass_preHookMissing, pyClass_postHookMissing] <;>
    simp only [hbt, hbc, hbp]

/-- the tie in its plain form -/
theorem tie_parseConfig (env : CfgEnv) (pep : Str → Str) (raw : RawCfg) :
    (GenF.parseConfig (validateOf env) pep (compileOf env) env.pathExists (embedRaw raw)).map absConfig
      = (parseConfig env raw).mapError CfgErr.pyClass := by
  have h := congrArg (Except.map Prod.fst) (tie_parseConfig_full env pep raw)
  cases h1 : GenF.parseConfig (validateOf env) pep (compileOf env) env.pathExists (embedRaw raw) <;>
    cases h2 : parseConfig env raw <;> simp_all [Except.map, Except.mapError]

end BV
