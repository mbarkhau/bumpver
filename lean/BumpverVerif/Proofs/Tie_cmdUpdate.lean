/-
  Proofs/Tie_cmdUpdate.lean — the definition GENERATED from the Python source of the command `cli.update`
  (Gen/F_cmdUpdate.lean, harness/translate_commands.py) against the COMPOSED hand model `BV.updateFull`
  (Model/Update.lean; = `BV.plan` of Model/Plan.lean for the environment `u.env` that Model/Update.lean derives from the
  models of the version decision, the dirty check and the rewrite phase).

    tie_cmdUpdate_updateFull
        (VCS events in order, exit code) of the translated `cli.update`  =  (events, exit code) of `updateFull u`
        for EVERY command line, configuration (new-style pattern), failure position of the VCS, tag / status output,
        hook behaviour, project files — `u` being the model input that the run corresponds to (`updInOf`).

  Everything `update` CALLS is tied elsewhere and enters through those ties (`tie_validateReleaseTag`,
  `tie_validateDate`, `tie_parseVcsOptions`, `tie_cmdUpdateCfgFromVcs_new`, `incrDispatch_new` ← `tie_incrDispatch`,
  `tie_normalizeSetVersion_new`, `tie_cmdIsValidVersion_new`, `getTags_full` ← `tie_getTags`, `tie_cliTryUpdate`).
  What THIS tie fixes is the order and the wiring inside `update`: validation first (exit 1 before anything is read or
  asked); the options are merged before the tags are looked up and a contradiction is exit 1 with no VCS invocation;
  `_update_cfg_from_vcs(cfg, fetch)` exactly when `--ignore-vcs-tag` is absent, on the MERGED configuration (scope of
  `--tag-scope`); the candidate from the version the lookup returned; `None` is exit 1; `uniqueness_check` from the
  MERGED scope or `--set-version`; the gate on (old = start version, new = candidate); the diff exactly under
  `--dry` (or `-vv`), for the new version; both messages from the right templates and versions; `if dry: return`;
  `_try_update` with the merged configuration, the candidate, commit / tag message in this order and `allow_dirty`.
  Proof: symbolic execution, case-splitting on what the MODEL functions answer; no generated code is restated.

  Hypotheses (`UpdateRealises`; `updateRealises_exists` in Tie_cmdUpdateExtra.lean shows they are jointly satisfiable
  for every command line / configuration / base environment):
  * `input`, `env`   : `u` is `updInOf …` and the plan environment of the run is `u.env`: the decision Booleans of the
                       oracle (`gateOk`, `uniqueOk`, `dirtyAbort`, `rewriteOk`, `startVersion`, `announced`) are what the
                       model's decision functions compute from the tags / status lines the environment serves.
  * `remote`, `notTracked` : those of `tie_getTags` / `tie_vcsCommit` (Tie_apiGetRemote.lean, Tie_vcsCommit.lean).
  * `newStyle`       : the hand model of the version part is the new-style one (`is_new_pattern` of the record and the
                       pattern text agree, as `config.py` computes it).
  * `date`, `emptyDate` : how the `--date` text was read (`strptime` is a parameter); `strptime("")` raises.
  * `scopeChoice`, `preHook`, `postHook` : click's guarantees, needed by `tie_parseVcsOptions` (witness of a difference
                       without them: `parseVcsOptions_empty_hook_differs`).
  * `verbose1`       : with `-v`, `incr_dispatch` also compiles the pattern (witness `YYYY.VV[`, Tie_incrDispatch.lean).
  * `diffDry`        : under `--dry` the diff oracle is the model's `rewriteOk` (the model lets the DIFF decide then).
  * `diffVerbose`    : MODEL GAP (harmless, reported): with `-vv` and without `--dry`, `_print_diff` runs BEFORE
                       `_try_update`; when it fails the command exits 1 without the usable-VCS probe and the status
                       call that `plan` (which has no verbosity) still shows.  Witness: `bumpver update -vv` with a
                       configured file missing.  Exit code and "nothing written / committed" agree.
  * `fmtCommit`, `fmtTag` : MODEL GAP (reported): `template.format(**kwargs)` raises KeyError for a template with an
                       unknown field (witness: `commit_message = "bump {old_version} -> {nope}"`): the real command
                       crashes after the gate — also under `--dry` — and writes nothing, the plan model (which does not
                       render messages) goes on to rewrite and commit.  `fmtTag` also says what the model's
                       `tagMsgEmpty` is: "the RENDERED tag message is empty".
  The run starts in the initial state, with `filepaths_x` = the environment's `files`, and a configuration was read
  (`cmdUpdate_no_config`, `cmdUpdate_unparsable_date` in Tie_cmdUpdateExtra.lean cover the two early exits the model has
  no input for).
-/
import BumpverVerif.Proofs.CmdUpdateLemmas
set_option linter.unusedSimpArgs false
namespace BV
namespace TieL

/-- the message templates in force -/
def commitTemplate {α : Type} (subT : Str → Str) (A : UpdArgs) (cfg0 : GenE.Config α) : Str :=
  match A.commit_message with
  | none => cfg0.commit_message
  | some m => subT m

def tagTemplate {α : Type} (subT : Str → Str) (A : UpdArgs) (cfg0 : GenE.Config α) : Str :=
  match A.tag_message with
  | none => cfg0.tag_message
  | some m => subT m

/-- everything the tie of `cli.update` assumes: `u` is the input of the composed model that the run corresponds to,
    and the environment of the run answers the way `u` says -/
structure UpdateRealises {α DateTime : Type} (strptime : Str → Str → Option DateTime) (dateOf : DateTime → Date)
    (subT : Str → Str) (vg : Int) (cfg0 : GenE.Config α) (ce : CmdEnv) (A : UpdArgs) (today date : Date)
    (dateGiven tme : Bool) (fs : FS) (fps : List (Str × List CPat)) (u : UpdIn) : Prop where
  input : u = updInOf A cfg0 ce.eff today date dateGiven tme fs fps
  env : ce.eff.plan = u.env
  remote : RemoteCoherent ce.eff
  notTracked : ce.eff.plan.kind = .hg → isInfix alreadyTracked ce.eff.excStderr = false
  newStyle : cfg0.is_new_pattern = true ∧ isNewPattern cfg0.version_pattern = true
  date : DateReading strptime dateOf A.date today dateGiven date
  emptyDate : strptime [] "%Y-%m-%d".toList = none
  scopeChoice : ∀ s, A.tag_scope = some s → (GenF.TagScope.ofValue s).isSome = true
  preHook : A.pre_commit_hook ≠ some []
  postHook : A.post_commit_hook ≠ some []
  verbose1 : pyMaxInt vg A.verbose ≠ 0 → ∃ r, pyV2CompilePattern cfg0.version_pattern = .ok r
  diffDry : A.dry = true → u.decide.gateOk = true →
    ce.diffOk u.decide.start cfg0.version_pattern (u.decide.new.getD []) = u.rewriteOk u.decide
  diffVerbose : A.dry = false → pyMaxInt vg A.verbose ≥ 2 → u.decide.gateOk = true →
    ce.diffOk u.decide.start cfg0.version_pattern (u.decide.new.getD []) = true
  fmtCommit : u.decide.gateOk = true →
    ∃ m, ce.fmt (commitTemplate subT A cfg0) (msgKwargs u.decide.start (u.decide.new.getD [])) = some m
  fmtTag : u.decide.gateOk = true →
    ∃ m, ce.fmt (tagTemplate subT A cfg0) (msgKwargs u.decide.start (u.decide.new.getD [])) = some m ∧ tme = m.isEmpty

end TieL
open TieL

attribute [local irreducible] isValid parseVersionInfo incr v1IsValid v1ParseVersionInfo v1Incr formatVersion
  normalizeSetVersion gate latestVersionTag parseVersionTags BV.getTags planTail

theorem tie_cmdUpdate_updateFull {α DateTime Ctx : Type} (strptime : Str → Str → Option DateTime)
    (dateOf : DateTime → Date) (subT : Str → Str) (vg : Int) (ctx : Ctx) (cfg0 : GenE.Config α) (ce : CmdEnv)
    (A : UpdArgs) (today date : Date) (dateGiven tme : Bool) (fs : FS) (fps : List (Str × List CPat)) (u : UpdIn)
    (h : UpdateRealises strptime dateOf subT vg cfg0 ce A today date dateGiven tme fs fps u) :
    cmdView (runUpdate today strptime dateOf subT vg (ctx, some cfg0) ce.eff.plan.files A ce ⟨⟨[], 0⟩, []⟩)
      = (updateFull u).2 := by
  obtain ⟨hu, henv, hrem, hnt, ⟨hnew, hnp⟩, hdate, hempty, hts, hpre, hpost, hverb, hdd, hdv, hfc, hft⟩ := h
  obtain ⟨hc0, ha, huign, -, hupat, hucv, hufl, hudg, hudate, hutoday, husv, hglob, hstatus, hallow⟩ := updInOf_fields hu
  unfold runUpdate GenL.update
  simp only [Cmd.bind_liftExc, tie_validateReleaseTag, tie_validateDate]
  -- 1. the two validations
  cases hrt : validReleaseTag A.fl.tag with
  | false =>
    have hv : (!validReleaseTag u.fl.tag || (u.dateGiven && u.fl.pinDate)) = true := by simp [hufl, hrt]
    rw [updateFull_invalid u hv]
    simp [cmdView, Cmd.exitCode, CStop.code]
  | true =>
  simp only [if_true]
  -- what `_validate_date` answers
  have hvd : (∃ md, validateDateRef strptime dateOf A.date A.fl.pinDate = .ok md ∧ md.getD today = date ∧
                (dateGiven && A.fl.pinDate) = false) ∨
             (validateDateRef strptime dateOf A.date A.fl.pinDate = .error (.sysExit 1) ∧
                (dateGiven && A.fl.pinDate) = true) := by
    unfold validateDateRef
    rcases hdate with ⟨hn, hdg, hd⟩ | ⟨d, dt, hs, hsp, hdg, hd⟩
    · left; exact ⟨none, by rw [hn], by rw [hd]; rfl, by rw [hdg]; rfl⟩
    · have hne : d.isEmpty = false := by
        cases d with
        | nil => rw [hempty] at hsp; cases hsp
        | cons c cs => rfl
      rw [hs]
      cases hpin : A.fl.pinDate
      · left
        refine ⟨some (dateOf dt), ?_, by rw [hd]; rfl, by simp⟩
        simp only [hne, hsp, Bool.not_false, Bool.and_false, Bool.false_eq_true, if_false]
      · right
        refine ⟨?_, by simp [hdg]⟩
        simp only [hne, Bool.not_false, Bool.and_self, if_true]
  rcases hvd with ⟨md, hvd, hmd, hdp⟩ | ⟨hvd, hdp⟩
  case inr =>
    have hv : (!validReleaseTag u.fl.tag || (u.dateGiven && u.fl.pinDate)) = true := by simp [hufl, hudg, hdp]
    rw [updateFull_invalid u hv]
    simp [hvd, cmdView, Cmd.exitCode, CStop.code]
  have hv : (!validReleaseTag u.fl.tag || (u.dateGiven && u.fl.pinDate)) = false := by simp [hufl, hudg, hdp, hrt]
  rw [updateFull_valid u hv]
  simp only [hvd]
  show _ = plan u.c0 u.a u.env
  rw [plan_eq_staged, ← henv]
  unfold planStaged
  -- 2. the configuration, merged with the command line options
  have htie : (GenF.parseVcsOptions (GenL.cfgToF cfg0) A.commit A.tag_commit A.push A.tag_scope A.pre_commit_hook
      A.post_commit_hook).map (absCfg tme) = parseVcsOptions (absCfg tme (GenL.cfgToF cfg0)) (planCliOf A) :=
    tie_parseVcsOptions tme _ (GenL.cfgToF cfg0) A.commit A.tag_commit A.push A.tag_scope A.pre_commit_hook
      A.post_commit_hook hts hpre hpost
  rw [hc0, ha, ← htie]
  cases hpo : GenF.parseVcsOptions (GenL.cfgToF cfg0) A.commit A.tag_commit A.push A.tag_scope A.pre_commit_hook
      A.post_commit_hook with
  | none =>
    simp [cmdView, Cmd.exitCode, CStop.code, Cmd.bind, Cmd.tryCatch, Cmd.ofOption, Cmd.throw, Cmd.exit, CStop.isA,
      Exc.isValueError]
  | some cF1 =>
  simp only [Option.map]
  obtain ⟨hf1, hf2, hf3, hf4, hf5, hf6, hf7⟩ := parseVcsOptions_fields _ _ _ _ _ _ _ _ hpo
  have hcv : (GenL.cfgOfF cF1).current_version = cfg0.current_version := hf1
  have hvp : (GenL.cfgOfF cF1).version_pattern = cfg0.version_pattern := hf2
  have hcm : (GenL.cfgOfF cF1).commit_message = cfg0.commit_message := hf4
  have htm : (GenL.cfgOfF cF1).tag_message = cfg0.tag_message := hf5
  have hinp : (GenL.cfgOfF cF1).is_new_pattern = true := by rw [← hnew]; exact hf6
  have hsc : (GenL.cfgOfF cF1).tag_scope = scopeE A cfg0 := by
    show GenL.scopeOfF cF1.tag_scope = _
    rw [hf7]
    exact scopeOfF_choice A.tag_scope cfg0.tag_scope hts
  have hcabs : ∀ (tm st pp : Str), tme = tm.isEmpty →
      absCfgE tm { GenL.cfgOfF cF1 with current_version := st, pep440_version := pp } = absCfg tme cF1 := by
    intro tm st pp htme
    rw [htme, ← absCfgE_ofF]
    rfl
  have hcsb : (absCfg tme cF1).scopeBranch = ((GenL.cfgOfF cF1).tag_scope == GenE.TagScope.BRANCH) := by
    show (cF1.tag_scope == GenF.TagScope.BRANCH) = (GenL.scopeOfF cF1.tag_scope == GenE.TagScope.BRANCH)
    rw [scopeOfF_branch]
  generalize GenL.cfgOfF cF1 = cfg1 at hcv hvp hcm htm hinp hsc hcabs hcsb ⊢
  generalize absCfg tme cF1 = c at hcabs hcsb ⊢
  -- what the plan model keeps of the command line
  have ha1 : (planCliOf A).ignoreVcsTag = A.ignore_vcs_tag := rfl
  have ha2 : (planCliOf A).fetch = A.fetch := rfl
  have ha3 : (planCliOf A).dry = A.dry := rfl
  have ha4 : (planCliOf A).setVersion = A.set_version.isSome := rfl
  generalize planCliOf A = a at ha1 ha2 ha3 ha4 ⊢
  -- 3. the version the update starts from
  have huscope : u.scope = absScopeE (scopeE A cfg0) := by rw [hu]; exact updInOf_scope _ _ _ _ _ _ _ _ _ hts
  have hutags : u.tagsSeen = tagsServed ce.eff (scopeE A cfg0) ⟨[], 0⟩ := by
    unfold UpdIn.tagsSeen tagsServed
    rw [isUsable_congr u.baseEnv ce.eff.plan (by rw [hu]; rfl) (by rw [hu]; rfl)]
    rw [hu]; rfl
  have hgo : ce.eff.plan.gateOk = u.decide.gateOk := by rw [henv]; rfl
  have huo : ce.eff.plan.uniqueOk = u.decide.uniqueOk := by rw [henv]; rfl
  have hrw : ce.eff.plan.rewriteOk = u.rewriteOk u.decide := by rw [henv]; rfl
  have hsv : ce.eff.plan.startVersion = u.decide.start := by rw [henv]; rfl
  have han : ce.eff.plan.announced = u.decide.new.getD [] := by rw [henv]; rfl
  simp only [ha1, ha2, Cmd.ofOption, Cmd.bind_pure_right, Cmd.tryCatch_pure, Cmd.pure_bind]
  generalize hX : (if A.ignore_vcs_tag = true then (({ evs := [], n := 0 } : PState), Outcome.ok)
    else BV.getTags ce.eff.plan A.fetch c.scopeBranch { evs := [], n := 0 }) = X
  refine cmdView_bind (fun cfg2 s' => X.2 = .ok ∧ s' = ⟨X.1, []⟩ ∧ u.startE = some cfg2.current_version ∧
      cfg2.version_pattern = cfg0.version_pattern ∧ cfg2.commit_message = cfg0.commit_message ∧
      cfg2.tag_message = cfg0.tag_message ∧ cfg2.tag_scope = scopeE A cfg0 ∧
      ∀ tm : Str, tme = tm.isEmpty → absCfgE tm cfg2 = c) ?start ?rest
  case start =>
    cases hign : A.ignore_vcs_tag
    case true =>
      rw [hign] at hX
      subst hX
      refine ⟨rfl, rfl, ?_, hvp, hcm, htm, hsc, fun tm h => hcabs tm _ _ h⟩
      unfold UpdIn.startE; rw [huign, hign, hucv, hcv]; rfl
    case false =>
      rw [hign] at hX
      simp only [Bool.false_eq_true, if_false] at hX ⊢
      rw [tie_cmdUpdateCfgFromVcs_new today cfg1 A.fetch hinp, tagsThen_run _ _ _ _ _ hrem, ← hcsb, hX]
      rcases X with ⟨p1, o1⟩
      cases o1
      case failed => rfl
      have hsE : u.startE = (match (latestVersionTag cfg1.version_pattern today
            (tagsServed ce.eff cfg1.tag_scope ⟨[], 0⟩)).map (fun l => (updCfg cfg1 l).current_version) with
          | .ok v => some v
          | .error _ => none) := by
        unfold UpdIn.startE
        rw [huign, hign, updCfg_startVersion, huscope, hupat, hucv, hutoday, hutags, hsc, hvp, hcv]
        rfl
      cases hl : latestVersionTag cfg1.version_pattern today (tagsServed ce.eff cfg1.tag_scope ⟨[], 0⟩)
      case error e =>
        rw [hl] at hsE
        have hgf : ce.eff.plan.gateOk = false := by
          rw [hgo]; exact decide_gateOk_of_cand_none u (cand_none_of_startE_none u hsE)
        simp [Cmd.exitCode, CStop.code, ofV2, Except.map, planGate_reject _ _ _ _ hgf]
      rename_i l
      rw [hl] at hsE
      refine ⟨rfl, rfl, hsE, ?_, ?_, ?_, ?_, ?_⟩
      · rw [updCfg_fields]; exact hvp
      · rw [updCfg_fields]; exact hcm
      · rw [updCfg_fields]; exact htm
      · rw [updCfg_fields]; exact hsc
      · intro tm h; rw [updCfg_fields]; exact hcabs tm _ _ h
  case rest =>
  intro cfg2 s' ⟨hXok, hs', hstartE, hvp2, hcm2, htm2, hsc2, hcabs2⟩
  rcases X with ⟨p1, o1⟩
  simp only at hXok hs'
  subst hXok hs'
  clear hX
  have hrhs : ∀ (x : List Ev × Nat), (if (Outcome.ok == Outcome.failed) = true then x else planGate c a ce.eff.plan p1)
      = planGate c a ce.eff.plan p1 := fun _ => rfl
  simp only [hrhs]
  -- 4. the candidate: `incr_dispatch` or the normalised `--set-version`
  rw [← hmd] at hudate
  have hc : (pyMaxInt vg A.verbose != 0) = true → ∃ r, pyV2CompilePattern cfg0.version_pattern = .ok r :=
    fun h => hverb ((pyMaxInt_ne_zero_iff vg A.verbose).mp h)
  have hreject : u.cand = none → planGate c a ce.eff.plan p1 = (p1.evs.reverse, 1) := fun hcn =>
    planGate_reject _ _ _ _ (by rw [hgo]; exact decide_gateOk_of_cand_none u hcn)
  refine cmdView_bind (fun o s' => s' = ⟨p1, []⟩ ∧ u.cand = o) ?cand ?rest
  case cand =>
    cases hsvA : A.set_version
    case none =>
      simp only [Cmd.bind_pure_right, Cmd.liftExc_run, hvp2]
      rw [incrDispatch_new today _ cfg2.current_version cfg0.version_pattern A.fl md hnp hc]
      have hcand0 : u.cand = (match incr cfg2.current_version cfg0.version_pattern A.fl (md.getD today) today with
          | .ok r => r
          | .error _ => none) := by
        unfold UpdIn.cand; rw [hstartE, husv, hsvA, hupat, hufl, hudate, hutoday]; rfl
      cases hinc : incr cfg2.current_version cfg0.version_pattern A.fl (md.getD today) today
      case error e =>
        rw [hinc] at hcand0
        rw [hreject hcand0]
        rfl
      case ok o =>
        rw [hinc] at hcand0
        exact ⟨rfl, hcand0⟩
    case some sv =>
      simp only [hvp2]
      rw [Cmd.bind, tie_normalizeSetVersion_new today cfg0.version_pattern sv hnp]
      have hcand0 : u.cand = (match normalizeSetVersion cfg0.version_pattern sv today with
          | .ok r => some r
          | .error _ => none) := by
        unfold UpdIn.cand; rw [hstartE, husv, hsvA, hupat, hutoday]; rfl
      cases hnorm : normalizeSetVersion cfg0.version_pattern sv today
      case error e =>
        rw [hnorm] at hcand0
        rw [hreject hcand0]
        rfl
      case ok nv =>
        rw [hnorm] at hcand0
        exact ⟨rfl, hcand0⟩
  case rest =>
  intro o s' ⟨hs', hcand⟩
  subst hs'
  cases o
  case none => rw [hreject hcand]; rfl
  rename_i nv
  -- 5. the gate
  obtain ⟨hdstart, hdnew, hdgate, hduniq⟩ := decide_of_cand u hstartE hcand
  rw [hupat, hutoday] at hdgate
  rw [hupat, hutoday, hglob] at hduniq
  have hunique : (cfg2.tag_scope == GenE.TagScope.BRANCH || A.set_version != none) = (c.scopeBranch || a.setVersion) := by
    rw [hcsb, hsc, hsc2, ha4]
    cases A.set_version <;> rfl
  have hunique' : (A.set_version != none || cfg2.tag_scope == GenE.TagScope.BRANCH) = (c.scopeBranch || a.setVersion) := by
    rw [Bool.or_comm]; exact hunique
  simp only [hunique, hunique', hvp2]
  refine cmdView_bind (fun t s' => if t then ∃ p2, s' = ⟨p2, []⟩ ∧ u.decide.gateOk = true ∧
      planGate c a ce.eff.plan p1 = (if A.dry then (p2.evs.reverse, if ce.eff.plan.rewriteOk then 0 else 1)
        else planTail ce.eff.plan c p2)
    else (s'.p.evs.reverse, 1) = planGate c a ce.eff.plan p1) ?gate ?rest
  case gate =>
    rw [tie_cmdIsValidVersion_new today cfg0.version_pattern cfg2.current_version nv _ hnp]
    unfold gateCmd
    have hclosed : ∀ r, gate cfg0.version_pattern cfg2.current_version nv false [] today = r → r ≠ .ok .accept →
        planGate c a ce.eff.plan p1 = (p1.evs.reverse, 1) := by
      intro r hr hne
      refine planGate_reject _ _ _ _ ?_
      rw [hgo, hdgate, hr]
      rcases r with e | v
      · rfl
      · cases v <;> first | exact absurd rfl hne | rfl
    cases hgate : gate cfg0.version_pattern cfg2.current_version nv false [] today
    case error e => rw [hclosed _ hgate (fun h => nomatch h)]; rfl
    rename_i verdict
    cases verdict
    case rejectPattern => simp only [if_false, Bool.false_eq_true]; exact (hclosed _ hgate (fun h => nomatch h)).symm
    case rejectNotGreater => simp only [if_false, Bool.false_eq_true]; exact (hclosed _ hgate (fun h => nomatch h)).symm
    case rejectNotUnique => simp only [if_false, Bool.false_eq_true]; exact (hclosed _ hgate (fun h => nomatch h)).symm
    have hgt : ce.eff.plan.gateOk = true := by rw [hgo, hdgate, hgate]
    have hdgo : u.decide.gateOk = true := by rw [← hgo]; exact hgt
    unfold planGate
    simp only [hgt, Bool.not_true, Bool.false_eq_true, if_false, ha3]
    -- 6. the uniqueness check (branch scope or --set-version): one more tag listing
    have hfe : (Outcome.ok == Outcome.failed) = false := rfl
    have hff : (Outcome.failed == Outcome.failed) = true := rfl
    cases hun : (c.scopeBranch || a.setVersion)
    case false =>
      simp only [Bool.false_eq_true, if_false, Bool.false_and, hfe, if_true]
      exact ⟨p1, rfl, hdgo, rfl⟩
    case true =>
      simp only [if_true, Bool.true_and]
      rw [uniqueCmd_run _ _ _ hrem]
      rcases hg2 : BV.getTags ce.eff.plan false false p1 with ⟨p2, o2⟩
      cases o2
      case failed => simp [Cmd.exitCode, CStop.code, hff]
      simp only [hfe, Bool.false_eq_true, if_false]
      unfold tagsServed tagsListed
      have hgb : (GenE.TagScope.GLOBAL == GenE.TagScope.BRANCH) = false := rfl
      simp only [hgb, Bool.false_eq_true, if_false]
      cases husable : (isUsable ce.eff.plan p1).2
      case false =>
        simp only [Bool.false_eq_true, if_false, parseVersionTags_nil, Except.map, ofV2, Bool.false_and]
        have hnil : (!([] : List Str).contains nv) = true := rfl
        simp only [hnil, if_true]
        exact ⟨p2, rfl, hdgo, rfl⟩
      case true =>
        simp only [if_true, Bool.true_and]
        cases hpvt : parseVersionTags cfg0.version_pattern today (tagsOf (ce.eff.output "ls_tags"))
        case error e =>
          have : ce.eff.plan.uniqueOk = false := by rw [huo, hduniq, hpvt]
          simp [this, Cmd.exitCode, CStop.code, ofV2, Except.map]
        rename_i vts
        have huqv : ce.eff.plan.uniqueOk = !vts.contains nv := by rw [huo, hduniq, hpvt]
        simp only [huqv, Except.map, ofV2, Bool.not_not]
        cases hcont : vts.contains nv
        case true => simp
        simp only [Bool.not_false, Bool.false_eq_true, if_false, if_true]
        exact ⟨p2, rfl, hdgo, rfl⟩
  case rest =>
  intro t s' hP
  cases t
  case false =>
    simp only [Bool.false_eq_true, if_false] at hP ⊢
    rw [← hP]; rfl
  obtain ⟨p2, hs', hdgo, hPG⟩ := hP
  subst hs'
  rw [hPG]
  simp only [if_true, Cmd.bind_pure_unit]
  -- 7. diff (under --dry / -vv), the two messages, `if dry: return`, `_try_update`
  obtain ⟨cm, hcmf⟩ := hfc hdgo
  obtain ⟨tm, htmf, htme⟩ := hft hdgo
  rw [hdstart, hdnew] at hcmf htmf
  simp only [Option.getD_some] at hcmf htmf
  unfold msgKwargs at hcmf htmf
  have hdiffD := fun h => hdd h hdgo
  have hdiffV := fun h1 h2 => hdv h1 h2 hdgo
  rw [hdstart, hdnew] at hdiffD hdiffV
  simp only [Option.getD_some, ← hrw] at hdiffD hdiffV
  have hdirty : ce.eff.plan.dirtyAbort =
      (BV.assertNotDirty (pySplitlines (ce.eff.output "status")) ce.eff.plan.files A.allow_dirty != .proceed) := by
    have h1 : ce.eff.plan.dirtyAbort = u.dirtyAbort := by rw [henv]; rfl
    have h2 : ce.eff.plan.files = u.paths := by rw [henv]; rfl
    rw [h1, h2]
    unfold UpdIn.dirtyAbort
    rw [hstatus, hallow]
    cases BV.assertNotDirty (pySplitlines (ce.eff.output "status")) u.paths A.allow_dirty <;> rfl
  have hcoh : UpdateCoherent ce.eff cfg2 nv A.allow_dirty :=
    ⟨⟨hrem, rfl, hnt, by rw [hsv, hdstart], by rw [han, hdnew]; rfl⟩, hdirty⟩
  have htail : cmdView (Cmd.liftEff (GenE.cliTryUpdate cfg2 nv cm tm A.allow_dirty ce.eff.plan.files) ce ⟨p2, []⟩)
      = planTail ce.eff.plan c p2 := by
    rw [cmdView_liftEff, ← hcabs2 tm htme]
    exact tie_cliTryUpdate ce.eff p2 cfg2 nv cm tm A.allow_dirty hcoh
  -- the diff and the two messages leave the state alone and do not depend on one another: they are evaluated where
  -- they stand, whatever their order
  simp only [hcm2, htm2]
  cases hcmA : A.commit_message <;> cases htmA : A.tag_message <;>
    simp only [commitTemplate, tagTemplate, hcmA, htmA] at hcmf htmf <;>
    simp only [] <;>
    cases hdry : A.dry
  all_goals first
    | -- --dry: the diff decides the exit code, nothing else happens
      (have hd := hdiffD hdry
       simp only [Bool.true_or, if_true, Cmd.bind, Cmd.printDiff, Cmd.format, Cmd.pure, Cmd.ite_run, hd, hcmf, htmf]
       cases hrwv : ce.eff.plan.rewriteOk <;> rfl)
    | -- a real run: `_try_update` = the tail of the plan
      (have hd := hdiffV hdry
       rw [← htail]
       simp only [Bool.false_or, Bool.false_eq_true, if_false, Cmd.bind_pure_unit]
       by_cases hv2 : pyMaxInt vg A.verbose ≥ 2
       · simp only [Cmd.bind, Cmd.printDiff, Cmd.format, Cmd.pure, Cmd.ite_run, hv2, decide_true, if_true, hd hv2,
           hcmf, htmf]
       · simp only [Cmd.bind, Cmd.printDiff, Cmd.format, Cmd.pure, Cmd.ite_run, hv2, decide_false, if_false,
           Bool.false_eq_true, hcmf, htmf])

end BV
