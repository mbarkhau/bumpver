/-
  Proofs/PartRows.lean — the supported parts, row by row: recogniser (`Gen.partPatterns`), field (`Gen.partFields`),
  renderer (`Gen.partFormats`), domain (`partDoms`), and the reading `int(...)` with the two-digit-year rule.  `CalRow`
  collects this for a calendar part, `partCase` dispatches over all twenty-nine parts; the table evaluations come from
  Props/C02Parts.lean, and Proofs/ComposeMain.lean, Proofs/ReadBack.lean argue about a variable row.
-/
import BumpverVerif.Proofs.ComposeLemmas
import BumpverVerif.Props.C02Parts
namespace BV

theorem partOk_eq {n : Str} {d : VInfo → Bool} (hl : lookup n partDoms = some d) (v : VInfo) :
    partOk v n = d v := by
  simp only [partOk, hl]

def tagWords : List Str := ["preview", "final", "dev", "alpha", "beta", "post", "rc"].map String.toList
def pytagWords : List Str := ["dev", "post", "rc", "a", "b"].map String.toList

theorem re_tags :
    partReOf "TAG".toList = some (altLits tagWords) ∧
    partReOf "PYTAG".toList = some (altLits pytagWords) := by
  refine ⟨?_, ?_⟩ <;> decide +kernel

theorem tagWords_ok : Gen.validReleaseTagValues.all (fun t => wordsOk tagWords t) = true := by
  decide +kernel

theorem pytagWords_ok : Gen.validReleaseTagValues.all (fun t =>
    match lookup t Gen.pep440TagByTag with
    | some p => p.isEmpty || wordsOk pytagWords p
    | none => true) = true := by
  decide +kernel

theorem tag_part (v : VInfo) (hok : tagOk v = true) (rx : Re) (hrx : partReOf "TAG".toList = some rx)
    (nd : Bool) : PartHead v "TAG".toList rx nd := by
  rw [re_tags.1] at hrx
  cases hrx
  have hw := List.all_eq_true.mp tagWords_ok v.tag (by simpa [tagOk] using hok)
  exact ⟨v.tag, partText_TAG v, (altLits_head' tagWords v.tag [] hw).2.1,
    firstOk_lower _ _ (by decide +kernel) (altLits_head' tagWords v.tag [] hw).2.2,
    fun k _ => (altLits_head' tagWords v.tag k hw).1⟩

theorem pytag_part (v : VInfo) (hok : pytagOk v = true) (rx : Re)
    (hrx : partReOf "PYTAG".toList = some rx) (nd : Bool) : PartHead v "PYTAG".toList rx nd := by
  rw [re_tags.2] at hrx
  cases hrx
  simp only [pytagOk, tagOk, Bool.and_eq_true, List.contains_iff_mem, beq_iff_eq,
    Bool.not_eq_true', List.isEmpty_eq_false_iff] at hok
  obtain ⟨⟨hmem, hlk⟩, hne⟩ := hok
  have hw := List.all_eq_true.mp pytagWords_ok v.tag hmem
  rw [hlk] at hw
  simp only [Bool.or_eq_true, List.isEmpty_iff] at hw
  have hw : wordsOk pytagWords v.pytag = true := hw.resolve_left hne
  exact ⟨v.pytag, partText_PYTAG v, hne, firstOk_lower _ _ (by decide +kernel) (altLits_head' pytagWords v.pytag [] hw).2.2,
    fun k _ => (altLits_head' pytagWords v.pytag k hw).1⟩

def emptySt : MSt := { rest := [], start := true, caps := [] }

/-- no recogniser has a named group; outside the tags that of a supported part is digit-only and needs a character -/
theorem partRe_table : Gen.partPatterns.all (fun ns =>
    match parseRe ns.2 with
    | some rx => (reGroupNames rx).isEmpty &&
        (isTagPart ns.1 || (lookup ns.1 partDoms).isNone || (rx.digitOnly && (rx.m emptySt).isEmpty))
    | none => true) = true := by
  -- the kernel decodes a string literal slowly and would do so at every comparison: spell the table out first
  unfold Gen.partPatterns
  repeat rw [String.toList_ofList]
  decide +kernel

theorem partRe_facts (n : Str) (rx : Re) (h : partReOf n = some rx) :
    reGroupNames rx = [] ∧
    ((lookup n partDoms).isSome = true → isTagPart n = false → rx.digitOnly = true ∧ rx.m emptySt = []) := by
  unfold partReOf at h
  cases hl : lookup n Gen.partPatterns with
  | none => rw [hl] at h; cases h
  | some s =>
    rw [hl] at h
    have := List.all_eq_true.mp partRe_table _ (lookup_mem hl)
    simp only [Option.bind_some] at h
    simp only [h, Bool.and_eq_true, List.isEmpty_iff, Bool.or_eq_true, Option.isNone_iff_eq_none] at this
    refine ⟨this.1, fun hd ht => ?_⟩
    rcases this.2 with (h1 | h1) | h1
    · rw [ht] at h1; cases h1
    · rw [h1] at hd; cases hd
    · exact h1

def isYearField (f : Str) : Bool := f == "year_y".toList || f == "year_g".toList

/-- the two-digit-year rule of `parse_field_values_to_cinfo` (applies to year_y / year_g only) -/
def yadj (f : Str) (z : Nat) : Nat :=
  if isYearField f then (if z < 1000 then z + 2000 else z) else z

def isAnchorField (f : Str) : Bool :=
  ["year_y".toList, "year_g".toList, "month".toList, "dom".toList, "doy".toList, "week_v".toList].contains f

theorem yadj_other (f : Str) (z : Nat) (h : isYearField f = false) : yadj f z = z := by
  simp only [yadj, h, Bool.false_eq_true, if_false]

theorem yadj_year_big (f : Str) (z : Nat) (h : 1000 ≤ z) : yadj f z = z := by
  unfold yadj
  split
  · rw [if_neg (by omega)]
  · rfl

theorem yadj_year_small (f : Str) (z : Nat) (hf : isYearField f = true) (h : z < 1000) : yadj f z = z + 2000 := by
  simp only [yadj, hf, if_true, h]

theorem read_str (x : Nat) : strToNat (fmtValue .str (.nat x)) = x := by
  simp only [fmtValue, strToNat_natToStr]

theorem read_pad (w x : Nat) : strToNat (fmtValue (.pad w) (.nat x)) = x := by
  simp only [fmtValue, strToNat_zfill, strToNat_natToStr]

theorem read_yy_table : (List.range 100).all (fun i => strToNat (fmtValue .yy (.nat (2000 + i))) == i) = true := by
  decide +kernel

/-- `str(y)[-2:]` of a year 2000..2099 reads as `y - 2000`, zero-padded or not -/
theorem read_yy (x : Nat) (h1 : 2000 ≤ x) (h2 : x ≤ 2099) :
    strToNat (fmtValue .yy (.nat x)) = x - 2000 ∧ ∀ w, strToNat (fmtValue (.yypad w) (.nat x)) = x - 2000 := by
  have := List.all_eq_true.mp read_yy_table (x - 2000) (List.mem_range.mpr (by omega))
  rw [show 2000 + (x - 2000) = x by omega, beq_iff_eq] at this
  refine ⟨this, fun w => ?_⟩
  rw [← this]
  exact strToNat_zfill w _

/-- decidable on a row of the tables: `int(text)` followed by the two-digit-year rule recovers every value of the
    domain `lo..hi` of field `f` rendered by `kd`, and a field that anchors the date is never 0 -/
def readable (f : Str) (kd : Gen.FmtKind) (lo hi : Nat) : Bool :=
  (!isAnchorField f || decide (1 ≤ lo)) &&
  match kd with
  | .str | .pad _ => !isYearField f || decide (1000 ≤ lo)
  | .yy | .yypad _ => isYearField f && decide (2000 ≤ lo) && decide (hi ≤ 2099)
  | .int => false

theorem readable_spec (f : Str) (kd : Gen.FmtKind) (lo hi : Nat) (h : readable f kd lo hi = true) :
    (∀ x, lo ≤ x → x ≤ hi → yadj f (strToNat (fmtValue kd (.nat x))) = x) ∧
    (isAnchorField f = true → 1 ≤ lo) := by
  have plain : (isYearField f = false ∨ 1000 ≤ lo) → ∀ x, lo ≤ x → yadj f x = x :=
    fun h x h1 => h.elim (yadj_other f x) (fun h => yadj_year_big f x (by omega))
  have small : ∀ x, 2000 ≤ x → x ≤ 2099 → isYearField f = true → yadj f (x - 2000) = x := by
    intro x h1 h2 hf
    rw [yadj_year_small f _ hf (by omega)]
    omega
  cases kd <;>
    simp only [readable, Bool.and_eq_true, Bool.or_eq_true, Bool.not_eq_true', decide_eq_true_eq] at h <;>
    obtain ⟨ha, hk⟩ := h <;>
    refine ⟨fun x h1 h2 => ?_, fun hf => ha.resolve_left (by rw [hf]; simp)⟩
  · rw [read_str]; exact plain hk x h1
  · cases hk
  · rw [read_pad]; exact plain hk x h1
  · rw [(read_yy x (by omega) (by omega)).1]; exact small x (by omega) (by omega) hk.1.1
  · rw [(read_yy x (by omega) (by omega)).2]; exact small x (by omega) (by omega) hk.1.1

/-- the row of a calendar part `n`: its field `f` with accessor `get`, its renderer `kd`, its domain `lo..hi`, and the
    agreement of recogniser, renderer and reader on that domain -/
structure CalRow (n f : Str) (get : CalOpt → Option Nat) (kd : Gen.FmtKind) (lo hi : Nat) : Prop where
  isCal : isCalPart n = true
  notTag : isTagPart n = false
  field : lookup n Gen.partFields = some f
  fcal : f ∈ Gen.calFields
  fmt : lookup n Gen.partFormats = some kd
  noZero : lookup n Gen.partZeroValues = none
  get_eq : ∀ v : VInfo, v.get f = optNat (get v.cal)
  dom : ∀ v : VInfo, partOk v n = optIn (get v.cal) lo hi
  head : ∀ x, lo ≤ x → x ≤ hi → ∀ rx, partReOf n = some rx → ∀ k, (needND n = true → NoDigitAhead k) →
    HeadConsumes rx (fmtValue kd (.nat x)) k
  read : ∀ x, lo ≤ x → x ≤ hi → yadj f (strToNat (fmtValue kd (.nat x))) = x
  anchor : isAnchorField f = true → 1 ≤ lo

/-- the decidable entries of a row -/
def rowOk (n f : Str) (kd : Gen.FmtKind) (lo hi : Nat) : Bool :=
  isCalPart n && !isTagPart n && lookup n Gen.partFields == some f && Gen.calFields.contains f &&
    lookup n Gen.partFormats == some kd && (lookup n Gen.partZeroValues).isNone && readable f kd lo hi

theorem fmtValue_ne_nil (kd : Gen.FmtKind) (x : Nat) : fmtValue kd (.nat x) ≠ [] := by
  cases kd <;> simp [fmtValue, zfill, natToStr_ne_nil]

theorem mem_range1 (lo hi x : Nat) (h1 : lo ≤ x) (h2 : x ≤ hi) : x ∈ range1 lo hi :=
  List.mem_map.mpr ⟨x - lo, List.mem_range.mpr (by omega), by omega⟩

theorem sweep_at {lo hi : Nat} {P : Nat → Bool} (h : (range1 lo hi).all P = true) (x : Nat)
    (h1 : lo ≤ x) (h2 : x ≤ hi) : P x = true :=
  List.all_eq_true.mp h x (mem_range1 lo hi x h1 h2)

theorem headRestNil_of_matchLen (rx : Re) (t : Str) (hne : t ≠ []) (h : matchLen rx t = some t.length) :
    headRestNil rx t = true := by
  unfold matchLen reMatch at h
  unfold headRestNil
  cases hh : (rx.m { rest := t, start := true, caps := [] }).head? with
  | none => rw [hh] at h; cases h
  | some s =>
    rw [hh] at h
    simp only [Option.map_some, Option.some.injEq] at h
    have := List.length_pos_iff.mpr hne
    exact List.isEmpty_iff.mpr (List.length_eq_zero_iff.mp (by omega))

/-- a part with a finite domain: the row from the sweep of `C02_finite_parts` (the first success consumes the rendered
    text when it stands alone), carried over every continuation that does not start with a digit by `digitOnly_tr` -/
theorem finRow (name : String) (f : Str) (get : CalOpt → Option Nat) (kd : Gen.FmtKind) (lo hi : Nat)
    {back : Str → Nat} {fw : Bool}
    (hl : lookup name.toList partDoms = some (fun v => optIn (get v.cal) lo hi))
    (hok : (rowOk name.toList f kd lo hi && needND name.toList) = true)
    (hget : ∀ v : VInfo, v.get f = optNat (get v.cal))
    (hsw : ∀ x, lo ≤ x → x ≤ hi → partOK name x back fw = true) : CalRow name.toList f get kd lo hi := by
  simp only [rowOk, Bool.and_eq_true, Bool.not_eq_true', beq_iff_eq, List.contains_iff_mem,
    Option.isNone_iff_eq_none] at hok
  obtain ⟨⟨⟨⟨⟨⟨⟨hc, ht⟩, hf⟩, hfc⟩, hkd⟩, hz⟩, hr⟩, hnd⟩ := hok
  refine ⟨hc, ht, hf, hfc, hkd, hz, hget, partOk_eq hl, fun x h1 h2 rx hrx k hk => ?_, (readable_spec _ _ _ _ hr).1,
    (readable_spec _ _ _ _ hr).2⟩
  have hsw := hsw x h1 h2
  have hrx' : partRe name = some rx := hrx
  have hkd' : partFmt name = some kd := hkd
  simp only [partOK, hrx', hkd', Bool.and_eq_true, beq_iff_eq] at hsw
  exact headConsumes_of_digitOnly rx ((partRe_facts _ rx hrx).2 (by rw [hl]; rfl) ht).1 _
    (headRestNil_of_matchLen rx _ (fmtValue_ne_nil kd x) hsw.1.1.1) k (hk hnd)

/-- YYYY / GGGG: `[1-9][0-9]{3}` / `str(y)`, 1000..9999, whatever follows -/
theorem yearRow (n f : Str) (get : CalOpt → Option Nat)
    (hl : lookup n partDoms = some (fun v => optIn (get v.cal) 1000 9999))
    (hok : rowOk n f .str 1000 9999 = true) (hget : ∀ v : VInfo, v.get f = optNat (get v.cal))
    (hre : partReOf n = some (.seq posDigitCls (.rep digitCls 3 (some 3)))) : CalRow n f get .str 1000 9999 := by
  simp only [rowOk, Bool.and_eq_true, Bool.not_eq_true', beq_iff_eq, List.contains_iff_mem,
    Option.isNone_iff_eq_none] at hok
  obtain ⟨⟨⟨⟨⟨⟨hc, ht⟩, hf⟩, hfc⟩, hkd⟩, hz⟩, hr⟩ := hok
  refine ⟨hc, ht, hf, hfc, hkd, hz, hget, partOk_eq hl, fun x h1 h2 rx hrx k _ => ?_, (readable_spec _ _ _ _ hr).1,
    (readable_spec _ _ _ _ hr).2⟩
  rw [hre] at hrx
  cases hrx
  exact hc_year4 x h1 h2 k

/-- the parts by name: a calendar part with its row, or one of the ten others with its domain -/
inductive PartCase : Str → (VInfo → Bool) → Prop
  | cal {n f : Str} {get : CalOpt → Option Nat} {kd : Gen.FmtKind} {lo hi : Nat} (row : CalRow n f get kd lo hi) :
      PartCase n (fun v => optIn (get v.cal) lo hi)
  | major : PartCase "MAJOR".toList (fun _ => true)
  | minor : PartCase "MINOR".toList (fun _ => true)
  | patch : PartCase "PATCH".toList (fun _ => true)
  | num : PartCase "NUM".toList (fun _ => true)
  | inc0 : PartCase "INC0".toList (fun _ => true)
  | inc1 : PartCase "INC1".toList (fun v => decide (1 ≤ v.inc1))
  | build : PartCase "BUILD".toList (fun v => isDigitStr v.bid)
  | bld : PartCase "BLD".toList (fun v => isDigitStr v.bid && decide (1 ≤ strToNat v.bid))
  | tag : PartCase "TAG".toList tagOk
  | pytag : PartCase "PYTAG".toList pytagOk

/-- THE DISPATCH over `partDoms`; the calendar rows are filled in from `C02_unbounded_shapes` (YYYY, GGGG) and
    `C02_finite_parts` (the seventeen finite parts) -/
theorem partCase (n : Str) (d : VInfo → Bool) (hl : lookup n partDoms = some d) : PartCase n d := by
  have hmem := lookup_mem hl
  obtain ⟨sM, sD, sJ, sQ, sV, sW, s0Y, sYY⟩ := C02_finite_parts
  have and2 : ∀ {a b : Bool}, (a && b) = true → a = true ∧ b = true := fun h => Bool.and_eq_true_iff.mp h
  simp only [partDoms, List.mem_cons, Prod.mk.injEq, List.not_mem_nil, or_false] at hmem
  rcases hmem with ⟨rfl, rfl⟩ | ⟨rfl, rfl⟩ | ⟨rfl, rfl⟩ | ⟨rfl, rfl⟩ | ⟨rfl, rfl⟩ | ⟨rfl, rfl⟩ |
    ⟨rfl, rfl⟩ | ⟨rfl, rfl⟩ | ⟨rfl, rfl⟩ | ⟨rfl, rfl⟩ | ⟨rfl, rfl⟩ | ⟨rfl, rfl⟩ | ⟨rfl, rfl⟩ |
    ⟨rfl, rfl⟩ | ⟨rfl, rfl⟩ | ⟨rfl, rfl⟩ | ⟨rfl, rfl⟩ | ⟨rfl, rfl⟩ | ⟨rfl, rfl⟩ | ⟨rfl, rfl⟩ |
    ⟨rfl, rfl⟩ | ⟨rfl, rfl⟩ | ⟨rfl, rfl⟩ | ⟨rfl, rfl⟩ | ⟨rfl, rfl⟩ | ⟨rfl, rfl⟩ | ⟨rfl, rfl⟩ |
    ⟨rfl, rfl⟩ | ⟨rfl, rfl⟩
  · exact .cal (yearRow _ "year_y".toList (·.yearY) hl (by decide +kernel) get_year_y C02_unbounded_shapes.2.2.2.2.2.2.2.2.1)
  · exact .cal (finRow "YY" "year_y".toList (·.yearY) .yy 2001 2099 hl (by decide +kernel) get_year_y
      (fun x a b => (and2 (sweep_at sYY x a b)).1))
  · exact .cal (finRow "0Y" "year_y".toList (·.yearY) (.yypad 2) 2000 2099 hl (by decide +kernel) get_year_y
      (fun x a b => (and2 (sweep_at s0Y x a b)).1))
  · exact .cal (yearRow _ "year_g".toList (·.yearG) hl (by decide +kernel) get_year_g C02_unbounded_shapes.2.2.2.2.2.2.2.2.2.1)
  · exact .cal (finRow "GG" "year_g".toList (·.yearG) .yy 2001 2099 hl (by decide +kernel) get_year_g
      (fun x a b => (and2 (sweep_at sYY x a b)).2))
  · exact .cal (finRow "0G" "year_g".toList (·.yearG) (.yypad 2) 2000 2099 hl (by decide +kernel) get_year_g
      (fun x a b => (and2 (sweep_at s0Y x a b)).2))
  · exact .cal (finRow "Q" "quarter".toList (·.quarter) .str 1 4 hl (by decide +kernel) get_quarter (sweep_at sQ))
  · exact .cal (finRow "MM" "month".toList (·.month) .str 1 12 hl (by decide +kernel) get_month
      (fun x a b => (and2 (sweep_at sM x a b)).1))
  · exact .cal (finRow "0M" "month".toList (·.month) (.pad 2) 1 12 hl (by decide +kernel) get_month
      (fun x a b => (and2 (sweep_at sM x a b)).2))
  · exact .cal (finRow "DD" "dom".toList (·.dom) .str 1 31 hl (by decide +kernel) get_dom
      (fun x a b => (and2 (sweep_at sD x a b)).1))
  · exact .cal (finRow "0D" "dom".toList (·.dom) (.pad 2) 1 31 hl (by decide +kernel) get_dom
      (fun x a b => (and2 (sweep_at sD x a b)).2))
  · exact .cal (finRow "JJJ" "doy".toList (·.doy) .str 1 366 hl (by decide +kernel) get_doy
      (fun x a b => (and2 (sweep_at sJ x a b)).1))
  · exact .cal (finRow "00J" "doy".toList (·.doy) (.pad 3) 1 366 hl (by decide +kernel) get_doy
      (fun x a b => (and2 (sweep_at sJ x a b)).2))
  · exact .cal (finRow "WW" "week_w".toList (·.weekW) .str 0 52 hl (by decide +kernel) get_week_w
      (fun x a b => (and2 (and2 (and2 (sweep_at sW x a b)).1).1).1))
  · exact .cal (finRow "0W" "week_w".toList (·.weekW) (.pad 2) 0 52 hl (by decide +kernel) get_week_w
      (fun x a b => (and2 (and2 (and2 (sweep_at sW x a b)).1).1).2))
  · exact .cal (finRow "UU" "week_u".toList (·.weekU) .str 0 52 hl (by decide +kernel) get_week_u
      (fun x a b => (and2 (and2 (sweep_at sW x a b)).1).2))
  · exact .cal (finRow "0U" "week_u".toList (·.weekU) (.pad 2) 0 52 hl (by decide +kernel) get_week_u
      (fun x a b => (and2 (sweep_at sW x a b)).2))
  · exact .cal (finRow "VV" "week_v".toList (·.weekV) .str 1 53 hl (by decide +kernel) get_week_v
      (fun x a b => (and2 (sweep_at sV x a b)).1))
  · exact .cal (finRow "0V" "week_v".toList (·.weekV) (.pad 2) 1 53 hl (by decide +kernel) get_week_v
      (fun x a b => (and2 (sweep_at sV x a b)).2))
  · exact .major
  · exact .minor
  · exact .patch
  · exact .num
  · exact .inc0
  · exact .inc1
  · exact .build
  · exact .bld
  · exact .tag
  · exact .pytag

theorem calPart_dom_table : calPartNames.all (fun n => (lookup n partDoms).isSome) = true := by decide +kernel

theorem calRow_of (n : Str) (hc : isCalPart n = true) : ∃ f get kd lo hi, CalRow n f get kd lo hi := by
  have hd := List.all_eq_true.mp calPart_dom_table n (by simpa [isCalPart] using hc)
  cases hl : lookup n partDoms with
  | none => rw [hl] at hd; cases hd
  | some d =>
    cases partCase n d hl with
    | cal row => exact ⟨_, _, _, _, _, row⟩
    | _ => exact absurd hc (by decide +kernel)

section row
variable {n f : Str} {get : CalOpt → Option Nat} {kd : Gen.FmtKind} {lo hi : Nat} (row : CalRow n f get kd lo hi)
include row

theorem CalRow.value (v : VInfo) (hok : partOk v n = true) : ∃ x, get v.cal = some x ∧ lo ≤ x ∧ x ≤ hi := by
  rw [row.dom] at hok
  cases hx : get v.cal with
  | none => rw [hx] at hok; cases hok
  | some x =>
    rw [hx] at hok
    simp only [optIn, Bool.and_eq_true, decide_eq_true_eq] at hok
    exact ⟨x, rfl, hok⟩

theorem CalRow.text (v : VInfo) (x : Nat) (hx : get v.cal = some x) :
    partText v n = some (fmtValue kd (.nat x)) := by
  simp only [partText, row.field, row.fmt, row.get_eq, hx, optNat]

theorem CalRow.partHead (v : VInfo) (hok : partOk v n = true) (rx : Re) (hrx : partReOf n = some rx) :
    PartHead v n rx (needND n) := by
  obtain ⟨x, hx, h1, h2⟩ := row.value v hok
  exact ⟨fmtValue kd (.nat x), row.text v x hx, fmtValue_ne_nil kd x,
    firstOk_digits n _ row.notTag (allDigits_fmtValue kd x), row.head x h1 h2 rx hrx⟩

end row

/-- THE PER-PART LEMMA: every supported part, on every value of its domain -/
theorem part_head (v : VInfo) (n : Str) (hok : partOk v n = true) (rx : Re)
    (hrx : partReOf n = some rx) : PartHead v n rx (needND n) := by
  obtain ⟨hMAJ, hMIN, hPAT, hNUM, hI0, hBUILD, hBLD, hI1, -⟩ := C02_unbounded_shapes
  have plus : partReOf n = some reDigitsPlus → ∀ t k, t ≠ [] → allDigits t = true → NoDigitAhead k →
      HeadConsumes rx t k := by
    intro h t k hne hd hk
    rw [h] at hrx; cases hrx
    exact hc_digitsPlus t k hne hd hk
  have pos : partReOf n = some rePosInt → ∀ x k, 1 ≤ x → NoDigitAhead k →
      HeadConsumes rx (natToStr x) k := by
    intro h x k hx hk
    rw [h] at hrx; cases hrx
    exact hc_posNat x hx k hk
  have nat : ∀ x k, NoDigitAhead k → partReOf n = some reDigitsPlus → HeadConsumes rx (natToStr x) k :=
    fun x k hk h => plus h _ k (natToStr_ne_nil x) (allDigits_natToStr x) hk
  cases hl : lookup n partDoms with
  | none => simp only [partOk, hl] at hok; cases hok
  | some d =>
    have hok' := hok
    rw [partOk_eq hl] at hok
    cases partCase n d hl with
    | cal row => exact row.partHead v hok' rx hrx
    | major =>
      exact digits_part v _ _ rx (partText_major v) (natToStr_ne_nil _) (allDigits_natToStr _) (by decide +kernel) (by decide +kernel)
        (fun k hk => nat _ k hk hMAJ)
    | minor =>
      exact digits_part v _ _ rx (partText_minor v) (natToStr_ne_nil _) (allDigits_natToStr _) (by decide +kernel) (by decide +kernel)
        (fun k hk => nat _ k hk hMIN)
    | patch =>
      exact digits_part v _ _ rx (partText_patch v) (natToStr_ne_nil _) (allDigits_natToStr _) (by decide +kernel) (by decide +kernel)
        (fun k hk => nat _ k hk hPAT)
    | num =>
      exact digits_part v _ _ rx (partText_num v) (natToStr_ne_nil _) (allDigits_natToStr _) (by decide +kernel) (by decide +kernel)
        (fun k hk => nat _ k hk hNUM)
    | inc0 =>
      exact digits_part v _ _ rx (partText_inc0 v) (natToStr_ne_nil _) (allDigits_natToStr _) (by decide +kernel) (by decide +kernel)
        (fun k hk => nat _ k hk hI0)
    | inc1 =>
      exact digits_part v _ _ rx (partText_inc1 v) (natToStr_ne_nil _) (allDigits_natToStr _) (by decide +kernel) (by decide +kernel)
        (fun k hk => pos hI1 _ k (by simpa using hok) hk)
    | build =>
      have hb := (isDigitStr_iff _).mp hok
      exact digits_part v _ _ rx (partText_BUILD v) hb.1 hb.2 (by decide +kernel) (by decide +kernel) (fun k hk => plus hBUILD _ k hb.1 hb.2 hk)
    | bld =>
      simp only [Bool.and_eq_true, decide_eq_true_eq] at hok
      exact digits_part v _ _ rx (partText_BLD v) (natToStr_ne_nil _) (allDigits_natToStr _) (by decide +kernel) (by decide +kernel)
        (fun k hk => pos hBLD _ k hok.2 hk)
    | tag => exact tag_part v hok rx hrx _
    | pytag => exact pytag_part v hok rx hrx _

end BV
