/-
  Proofs/Tie_iterMatches.lean — the definition GENERATED from the Python source of
  `parse.iter_matches` (Gen/F_iterMatches.lean: nested loops over patterns and matches, the generator run
  to exhaustion) equals the hand model's `iterMatches` through the abstraction, for every list of lines
  and every list of well-formed patterns (the regexp IS the compiled raw pattern — the Python object
  carries the compiled regex, the model recompiles it): `TieM.iterMatches_tie` for every engine `RwEngine V`
  (the function is shared by v1rewrite.py and v2rewrite.py), `tie_iterMatches` for `BV.iterMatches`
  (`Pattern.Wf`).

  The callees are the generated `GenF.iterForPattern` (tie_iterForPattern) and `GenF.hasOverlap`
  (tie_hasOverlap).  The proof is by two generic fold lemmas which only ask what ONE iteration of the
  inner / outer loop does to the pair (yielded matches, recorded spans).
-/
import BumpverVerif.Gen.F_iterMatches
import BumpverVerif.Proofs.RewriteGeneric
import BumpverVerif.Proofs.Tie_iterForPattern
import BumpverVerif.Proofs.Tie_hasOverlap
namespace BV

open GenF (PatternMatch Pattern)

/-- the inner loop: every match is recorded, the non-overlapping ones are yielded -/
theorem foldl_inner_tie
    (g : List PatternMatch × List LineSpan → PatternMatch → List PatternMatch × List LineSpan)
    (hg : ∀ y s m, g (y, s) m = (if hasOverlap m.abs.span s then y else y ++ [m], s ++ [m.abs.span]))
    (l : List PatternMatch) (y : List PatternMatch) (s : List LineSpan) :
    ((List.foldl g (y, s) l).1).map PatternMatch.abs = y.map PatternMatch.abs ++ keptOf s (l.map PatternMatch.abs)
    ∧ (List.foldl g (y, s) l).2 = s ++ (l.map PatternMatch.abs).map PMatch.span := by
  induction l generalizing y s with
  | nil => simp [keptOf]
  | cons m l ih =>
    rw [List.foldl_cons, hg]
    obtain ⟨ih1, ih2⟩ := ih (if hasOverlap m.abs.span s then y else y ++ [m]) (s ++ [m.abs.span])
    refine ⟨?_, ?_⟩
    · rw [ih1]
      simp only [List.map_cons, keptOf]
      split <;> simp
    · rw [ih2]; simp

/-! ### `parse.iter_matches` is engine independent: it uses the `regexp` the pattern object carries -/

namespace TieM

/-- the outer loop, for every engine whose `compile` gives back the regexes the pattern objects carry -/
theorem foldl_outer_tie {V : Type} (E : RwEngine V) (lines : List Str)
    (f : List PatternMatch × List LineSpan → Pattern → List PatternMatch × List LineSpan)
    (hf : ∀ y s (p : Pattern),
      ((f (y, s) p).1).map PatternMatch.abs
          = y.map PatternMatch.abs ++ keptOf s (iterForPatternGo p.regexp p.abs 0 lines)
      ∧ (f (y, s) p).2 = s ++ (iterForPatternGo p.regexp p.abs 0 lines).map PMatch.span)
    (ps : List Pattern) (hwf : ∀ p ∈ ps, E.compile p.abs = some p.regexp)
    (y : List PatternMatch) (s : List LineSpan) :
    ∃ rest, E.iterMatchesGo lines (ps.map Pattern.abs) s = some rest ∧
      ((List.foldl f (y, s) ps).1).map PatternMatch.abs = y.map PatternMatch.abs ++ rest := by
  induction ps generalizing y s with
  | nil => exact ⟨[], by simp [RwEngine.iterMatchesGo_nil]⟩
  | cons p ps ih =>
    have hp := hwf p List.mem_cons_self
    obtain ⟨h1, h2⟩ := hf y s p
    obtain ⟨rest, hr1, hr2⟩ := ih (fun q hq => hwf q (List.mem_cons_of_mem _ hq)) (f (y, s) p).1 (f (y, s) p).2
    refine ⟨keptOf s (iterForPatternGo p.regexp p.abs 0 lines) ++ rest, ?_, ?_⟩
    · rw [List.map_cons, RwEngine.iterMatchesGo_cons, hp]
      simp only
      rw [← h2, hr1]
      rfl
    · rw [List.foldl_cons]
      have : f (y, s) p = ((f (y, s) p).1, (f (y, s) p).2) := rfl
      rw [this, hr2, h1, List.append_assoc]

/-- the generated `parse.iter_matches` abstracts to the model's `iterMatches` of EVERY engine whose
    `compile` gives back the regexes the pattern objects carry -/
theorem iterMatches_tie {V : Type} (E : RwEngine V) (lines : List Str) (patterns : List Pattern)
    (hwf : ∀ p ∈ patterns, E.compile p.abs = some p.regexp) :
    E.iterMatches lines (patterns.map Pattern.abs)
      = some ((GenF.iterMatches lines patterns).map PatternMatch.abs) := by
  have key : ∀ (f : List PatternMatch × List LineSpan → Pattern → List PatternMatch × List LineSpan),
      (∀ y s (p : Pattern),
        ((f (y, s) p).1).map PatternMatch.abs
            = y.map PatternMatch.abs ++ keptOf s (iterForPatternGo p.regexp p.abs 0 lines)
        ∧ (f (y, s) p).2 = s ++ (iterForPatternGo p.regexp p.abs 0 lines).map PMatch.span) →
      E.iterMatches lines (patterns.map Pattern.abs)
        = some (((List.foldl f ([], []) patterns).1).map PatternMatch.abs) := by
    intro f hf
    obtain ⟨rest, h1, h2⟩ := foldl_outer_tie E lines f hf patterns hwf [] []
    unfold RwEngine.iterMatches
    rw [h1, h2]
    simp
  unfold GenF.iterMatches
  refine key _ ?_
  intro y s p
  rw [← tie_iterForPattern]
  refine foldl_inner_tie _ ?_ (GenF.iterForPattern lines p) y s
  intro y s m
  simp only [tie_hasOverlap, PatternMatch.abs, PMatch.span]
  split <;> simp_all

end TieM

theorem tie_iterMatches (lines : List Str) (patterns : List Pattern) (hwf : ∀ p ∈ patterns, p.Wf) :
    iterMatches lines (patterns.map Pattern.abs) = some ((GenF.iterMatches lines patterns).map PatternMatch.abs) :=
  (v2Engine_iterMatches _ _).symm.trans
    (TieM.iterMatches_tie v2Engine lines patterns (fun p hp => (v2Engine_compile p.abs).trans (hwf p hp)))

/-! ### the yielded matches carry one of the given patterns (with its regexp) -/

theorem foldl_inner_mem
    (g : List PatternMatch × List LineSpan → PatternMatch → List PatternMatch × List LineSpan)
    (hg : ∀ y s m, g (y, s) m = (if hasOverlap m.abs.span s then y else y ++ [m], s ++ [m.abs.span]))
    (l : List PatternMatch) (y : List PatternMatch) (s : List LineSpan) :
    ∀ x ∈ (List.foldl g (y, s) l).1, x ∈ y ∨ x ∈ l := by
  induction l generalizing y s with
  | nil => intro x hx; exact .inl hx
  | cons m l ih =>
    intro x hx
    rw [List.foldl_cons, hg] at hx
    rcases ih _ _ x hx with h | h
    · split at h
      · exact .inl h
      · rcases List.mem_append.1 h with h | h
        · exact .inl h
        · exact .inr (by simp_all)
    · exact .inr (List.mem_cons_of_mem _ h)

theorem foldl_outer_mem
    (f : List PatternMatch × List LineSpan → Pattern → List PatternMatch × List LineSpan)
    (hf : ∀ y s (p : Pattern), ∀ x ∈ (f (y, s) p).1, x ∈ y ∨ x.pattern = p)
    (ps : List Pattern) (y : List PatternMatch) (s : List LineSpan) :
    ∀ x ∈ (List.foldl f (y, s) ps).1, x ∈ y ∨ x.pattern ∈ ps := by
  induction ps generalizing y s with
  | nil => intro x hx; exact .inl hx
  | cons p ps ih =>
    intro x hx
    rw [List.foldl_cons] at hx
    have : f (y, s) p = ((f (y, s) p).1, (f (y, s) p).2) := rfl
    rw [this] at hx
    rcases ih _ _ x hx with h | h
    · rcases hf y s p x h with h | h
      · exact .inl h
      · exact .inr (h ▸ List.mem_cons_self)
    · exact .inr (List.mem_cons_of_mem _ h)

theorem iterMatches_pattern_mem (lines : List Str) (patterns : List Pattern) :
    ∀ m ∈ GenF.iterMatches lines patterns, m.pattern ∈ patterns := by
  intro m hm
  unfold GenF.iterMatches at hm
  have := foldl_outer_mem _ ?_ patterns [] [] m hm
  · rcases this with h | h
    · cases h
    · exact h
  · intro y s p x hx
    have := foldl_inner_mem _ ?_ (GenF.iterForPattern lines p) y s x hx
    · rcases this with h | h
      · exact .inl h
      · exact .inr (iterForPattern_fields lines p x h).1
    · intro y s m
      simp only [tie_hasOverlap, PatternMatch.abs, PMatch.span]
      split <;> simp_all

end BV
