/-
  Proofs/TieN_Incr.lean — the hypothesis `hf` of `tie_incr` (Proofs/Tie_incr.lean: `_parse_pattern_fields(raw_pattern)`
  does not raise) is a THEOREM for the source text of every pattern tree of supported shape (`Pat.shapeOk`, part of
  `tokSafe`): `_parse_segtree` succeeds on such text (`parseSegtree_text`, Proofs/TokTie_Seg.lean), and
  `_parse_pattern_fields` raises nothing else.

      parsePatternFields_text : p.shapeOk → ∃ fs, parsePatternFields (Pat.text p) = .ok fs
      tie_incr_text           : tokSafe p → GenF.incr old (Pat.text p) … = incr old (Pat.text p) (TieA.mkFlags …) date today

  (the witness of `hf` in Tie_incr.lean is the pattern of two backslashes — no tree has that text: a backslash is
  no supported literal, `litOk`).
-/
import BumpverVerif.Props.C02Tie
import BumpverVerif.Proofs.Tie_incr
namespace BV

/-- `_parse_pattern_fields` does not raise on the source text of a tree of supported shape -/
theorem parsePatternFields_text (p : Pat) (h : p.shapeOk = true) :
    ∃ fs, parsePatternFields (Pat.text p) = .ok fs := by
  unfold parsePatternFields
  rw [parseSegtree_text p h]
  exact ⟨_, rfl⟩

/-- `tie_incr` for the text of a `tokSafe` tree: NO hypothesis -/
theorem tie_incr_text (p : Pat) (hs : tokSafe p = true) (old_version : Str) (major minor patch : Bool)
    (tag : Option Str) (tag_num pin_increments pin_date : Bool) (maybe_date : Option (Nat × Nat × Nat))
    (today : Nat × Nat × Nat) :
    GenF.incr old_version (Pat.text p) major minor patch tag tag_num pin_increments pin_date maybe_date today =
      incr old_version (Pat.text p) (TieA.mkFlags major minor patch tag tag_num pin_increments pin_date)
        (match maybe_date with | none => today | some d => d) today :=
  tie_incr old_version (Pat.text p) major minor patch tag tag_num pin_increments pin_date maybe_date today
    (parsePatternFields_text p (tokSafe_shapeOk p hs))

/-- for pattern TEXT `s` that tokenises to a `tokSafe` tree whose text it is (all decidable on `s`) -/
theorem tie_incr_str (s : Str) (p : Pat) (ht : tokenize s = some p) (hst : Pat.text p = s) (hs : tokSafe p = true)
    (old_version : Str) (major minor patch : Bool)
    (tag : Option Str) (tag_num pin_increments pin_date : Bool) (maybe_date : Option (Nat × Nat × Nat))
    (today : Nat × Nat × Nat) :
    GenF.incr old_version s major minor patch tag tag_num pin_increments pin_date maybe_date today =
      incr old_version s (TieA.mkFlags major minor patch tag tag_num pin_increments pin_date)
        (match maybe_date with | none => today | some d => d) today := by
  have _ := ht
  subst hst
  exact tie_incr_text p hs old_version major minor patch tag tag_num pin_increments pin_date maybe_date today

end BV
