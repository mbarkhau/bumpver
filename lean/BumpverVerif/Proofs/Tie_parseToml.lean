/-
  Proofs/Tie_parseToml.lean — the definition GENERATED from the Python source of
  `config._parse_toml` (Gen/F_parseToml.lean) equals the hand model `BV.parseTomlPost` (the part of
  `_parse_toml` after `toml.load`) on every loaded document.

  `toml.load` stays a parameter.  The generated definition sees its result as `Py.TomlFull`
  (the keys 'tool', 'bumpver', 'pycalver' of the top level dict and 'bumpver' of `['tool']`, each
  possibly absent); the hand model's `TomlDoc` merges the two tests `'tool' in d and 'bumpver' in
  d['tool']` into one field: `absToml`.
  Result abstraction: `embedRaw` (the Python dict has the key 'file_patterns').
-/
import BumpverVerif.Gen.F_parseToml
import BumpverVerif.Proofs.Tie_setRawConfigDefaults
set_option linter.unusedSimpArgs false
namespace BV
open TieH

/-- the hand model's view of a loaded TOML document -/
def absToml (full : Py.TomlFull) : TomlDoc :=
  { toolBumpver := full.tool.bind (·.bumpver), bumpver := full.bumpver, pycalver := full.pycalver }

theorem tie_parseToml (full : Py.TomlFull) :
    GenF.parseToml full = ((parseTomlPost (absToml full)).mapError CfgErr.pyClass).map embedRaw := by
  unfold GenF.parseToml parseTomlPost
  -- the table: `['tool']['bumpver']`, else `['bumpver']`, else `['pycalver']`, else `{}`
  generalize hsel : @ite (Except Str TomlSection) (full.tool.isSome = true) _ _ _ = sel
  have hs : sel = .ok (tomlMainSection (absToml full)) := by
    rw [← hsel]
    obtain ⟨tool, bv, pc⟩ := full
    rcases tool with _ | ⟨_ | tb⟩ <;> rcases bv with _ | bv <;> rcases pc with _ | pc <;> rfl
  subst hs
  simp only []
  rw [foldl_congr (g := fun st od => { st with opts := tomlBoolStep st.opts od })]
  · rw [foldl_list_eq _ _ _ Gen.boolOptions (by decide), foldl_opts]
    simp only [tomlBoolLoop, tie_setRawConfigDefaults, withFilePatterns, embedRaw]
    generalize setRawConfigDefaults _ = r
    rcases r with e | ⟨⟩ <;> rfl
  · intro st od
    rfl

end BV
