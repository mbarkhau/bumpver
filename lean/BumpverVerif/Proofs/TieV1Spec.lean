/-
  Proofs/TieV1Spec.lean — scaffolding for the source-level ties of the legacy engine (group `v1`).

  The hand model of `_parse_field_values` (`v1ParseFieldValues`, Model/V1.lean) is written in `do` notation; its
  elaborated form duplicates the continuation into the branches of the two calendar steps.  `pfvSpec` is the SAME
  function as an explicit chain of `Except.bind`s over named stages (`pfvBid`, `pfvMD` = month/dom from the day of
  the year or from the fields, `pfvDW` = day of year and weeks from the date, `pfvQuarter`, `pfvTag`), and
  `pfv_model_eq_spec` proves the model equal to it on all inputs.  Nothing here depends on the Python source;
  `Proofs/Tie_v1ParseFieldValues.lean` proves the GENERATED definition equal to `pfvSpec` step by step.
  The lockstep lemmas for two chains of `Except.bind` (`v1_ebind_congr`, `v1_ebind_congr_map`) serve the other
  `Tie_v1*` files as well.
-/
import BumpverVerif.Model.V1
namespace BV

theorem v1_ebind_ok {ε α β} (a : α) (f : α → Except ε β) : Except.bind (Except.ok a) f = f a := rfl
theorem v1_ebind_error {ε α β} (e : ε) (f : α → Except ε β) :
    Except.bind (Except.error e : Except ε α) f = Except.error e := rfl

/-- lockstep: two bind chains are equal when their heads are and their continuations are pointwise -/
theorem v1_ebind_congr {ε α β} {a b : Except ε α} {f g : α → Except ε β} (h : a = b) (hfg : ∀ x, f x = g x) :
    Except.bind a f = Except.bind b g := by
  subst h
  cases a with
  | error e => rfl
  | ok x => exact hfg x

/-- lockstep where the left head computes `g` of what the right head computes -/
theorem v1_ebind_congr_map {ε α β γ} {a : Except ε α} {b : Except ε β} {f : α → Except ε γ} {k : β → Except ε γ}
    (g : β → α) (h : a = Except.map g b) (hfg : ∀ x, f (g x) = k x) : Except.bind a f = Except.bind b k := by
  subst h
  cases b with
  | error e => rfl
  | ok x => exact hfg x

def pfvBid (fv : FVals) : Except V1Err Str :=
  match lookup "bid".toList fv with
  | none => .ok "0001".toList
  | some (some s) => .ok s
  | some none => .error .unsupported

def pfvAdj (year0 : Option Nat) : Option Nat := year0.map (fun y => if y < 100 then y + 2000 else y)

def pfvMD (fv : FVals) (year doy0 : Option Nat) : Except V1Err (Option Nat × Option Nat) :=
  if truthy year && truthy doy0 then
    match dateFromDoy (year.getD 0) (doy0.getD 0) with
    | some d => .ok (some d.2.1, some d.2.2)
    | none => .error .overflow
  else
    Except.bind (v1IntField fv "month") fun m =>
    Except.bind (v1IntField fv "dom") fun d => .ok (m, d)

def pfvDW (year month dom doy0 : Option Nat) : Except V1Err (Option Nat × Option Nat × Option Nat) :=
  if truthy year && truthy month && truthy dom then
    if validDate (year.getD 0) (month.getD 0) (dom.getD 0) then
      .ok (some (dayOfYear (year.getD 0) (month.getD 0) (dom.getD 0)), some (weekW (year.getD 0) (month.getD 0) (dom.getD 0)),
           some (weekU (year.getD 0) (month.getD 0) (dom.getD 0)))
    else .error .valueError
  else .ok (doy0, none, none)

def pfvQuarter (q0 month : Option Nat) : Option Nat :=
  match q0 with
  | some q => some q
  | none => if truthy month then some (quarterFromMonth (month.getD 0)) else none

def pfvTag (fv : FVals) : Str :=
  let tag0 : Str := match lookup "tag".toList fv with
    | some (some t) => t
    | _ => "final".toList
  (lookup tag0 Gen.tagByPep440Tag).getD tag0

def pfvSpec (fv : FVals) : Except V1Err V1Info :=
  Except.bind (pfvBid fv) fun bid =>
  Except.bind (v1IntField fv "year") fun year0 =>
  Except.bind (v1IntField fv "doy") fun doy0 =>
  Except.bind (pfvMD fv (pfvAdj year0) doy0) fun md =>
  Except.bind (pfvDW (pfvAdj year0) md.1 md.2 doy0) fun dw =>
  Except.bind (v1IntField fv "quarter") fun q0 =>
  Except.bind (v1IntFieldOr0 fv "major") fun major =>
  Except.bind (v1IntFieldOr0 fv "minor") fun minor =>
  Except.bind (v1IntFieldOr0 fv "patch") fun patch =>
  .ok { year := pfvAdj year0, quarter := pfvQuarter q0 md.1, month := md.1, dom := md.2, doy := dw.1,
        isoWeek := dw.2.1, usWeek := dw.2.2, major := major, minor := minor, patch := patch, bid := bid,
        tag := pfvTag fv }



theorem pfv_model_eq_spec (fv : FVals) : v1ParseFieldValues fv = pfvSpec fv := by
  unfold v1ParseFieldValues pfvSpec pfvBid pfvMD pfvDW pfvAdj
  simp only [bind, pure, Except.pure, throw, throwThe, MonadExceptOf.throw]
  generalize v1IntField fv "year" = ry
  generalize v1IntField fv "doy" = rd
  generalize v1IntField fv "month" = rm
  generalize v1IntField fv "dom" = rdom
  generalize lookup "bid".toList fv = lb
  -- each step below splits one looked-up or parsed value in every open goal: the error cases close by `rfl`
  -- (both sides stop there), the others go on
  rcases lb with _ | _ | b
  all_goals first | rfl | skip
  all_goals (rcases ry with e | y <;> first | rfl | skip)
  all_goals (rcases rd with e | d <;> first | rfl | skip)
  all_goals simp only [v1_ebind_ok, v1_ebind_error]
  all_goals generalize Option.map (fun y => if y < 100 then y + 2000 else y) y = ya
  all_goals by_cases h1 : (truthy ya && truthy d) = true
  all_goals simp only [h1, if_true, if_false, Bool.false_eq_true]
  -- year and day of year both truthy: month and day come from the day of the year
  all_goals try (
    cases hdd : dateFromDoy (ya.getD 0) (d.getD 0) with
    | none => rfl
    | some dt =>
      simp only [v1_ebind_ok]
      by_cases h2 : (truthy ya && truthy (some dt.2.1) && truthy (some dt.2.2)) = true
      · by_cases h3 : validDate (ya.getD 0) ((some dt.2.1).getD 0) ((some dt.2.2).getD 0) = true
        · simp only [h2, h3, if_true, v1_ebind_ok]; rfl
        · simp only [h2, h3, if_true, if_false, v1_ebind_error, Bool.false_eq_true]
      · simp only [h2, if_false, v1_ebind_ok, Bool.false_eq_true]; rfl)
  all_goals (rcases rm with e | m <;> first | rfl | skip)
  all_goals (rcases rdom with e | dm <;> first | rfl | skip)
  all_goals simp only [v1_ebind_ok]
  all_goals (
      by_cases h2 : (truthy ya && truthy m && truthy dm) = true
      · by_cases h3 : validDate (ya.getD 0) (m.getD 0) (dm.getD 0) = true
        · simp only [h2, h3, if_true, v1_ebind_ok]; rfl
        · simp only [h2, h3, if_true, if_false, v1_ebind_error, Bool.false_eq_true]
      · simp only [h2, if_false, v1_ebind_ok, Bool.false_eq_true]; rfl)

end BV
