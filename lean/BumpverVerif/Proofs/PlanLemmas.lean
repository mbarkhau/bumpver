/-
  Proofs/PlanLemmas.lean — helper lemmas about `BV.plan` and its phases.

  `commitPhase` and `plan` are first restated with every step computed up front and the decisions
  following as one chain of `if`s (`commitPhase_eq`, `plan_eq`).  Two facts are read off that chain,
  one decision at a time:
  * "shape": which events a phase appends and under which conditions (`CommitShape`, `PlanShape`);
    where an event comes from, what a rejected gate or a failed rewrite leaves, and the order of the
    steps all follow by cases on the shape;
  * "stop":  an invariant saying that no non-swallowed VCS invocation has failed so far.
-/
import BumpverVerif.Model.Plan
import BumpverVerif.Proofs.Basics
namespace BV

/-! ### `parseVcsOptions` -/

theorem parseVcsOptions_eq (c : PlanCfg) (a : PlanCli) :
    parseVcsOptions c a =
      if a.commit == some false && a.tagCommit == some true then none
      else if a.commit == some false && a.push == some true then none
      else if !a.commit.getD c.commit && a.tagCommit == some true then none
      else if !a.commit.getD c.commit && a.push == some true then none
      else some { commit := a.commit.getD c.commit, tag := a.tagCommit.getD c.tag,
                  push := a.push.getD c.push, preHook := c.preHook || a.preHook,
                  postHook := c.postHook || a.postHook,
                  scopeBranch := a.scopeBranch.getD c.scopeBranch, tagMsgEmpty := c.tagMsgEmpty } := by
  obtain ⟨ac, at', ap, _, _, asc, _, _, _, _⟩ := a
  cases ac <;> cases at' <;> cases ap <;> cases asc <;> rfl

theorem parseVcsOptions_none_iff (c : PlanCfg) (a : PlanCli) :
    parseVcsOptions c a = none ↔
      (a.commit.getD c.commit = false ∧ (a.tagCommit = some true ∨ a.push = some true)) := by
  rw [parseVcsOptions_eq]
  rcases a.commit with _ | _ | _ <;> simp <;> grind

theorem parseVcsOptions_some {c : PlanCfg} {a : PlanCli} {c' : PlanCfg}
    (h : parseVcsOptions c a = some c') :
    c'.commit = a.commit.getD c.commit ∧ c'.tag = a.tagCommit.getD c.tag ∧
      c'.push = a.push.getD c.push := by
  rw [parseVcsOptions_eq] at h
  rcases of_ite_eq h with ⟨-, h⟩ | ⟨-, h⟩; · cases h
  rcases of_ite_eq h with ⟨-, h⟩ | ⟨-, h⟩; · cases h
  rcases of_ite_eq h with ⟨-, h⟩ | ⟨-, h⟩; · cases h
  rcases of_ite_eq h with ⟨-, h⟩ | ⟨-, h⟩; · cases h
  obtain rfl := Option.some.inj h
  exact ⟨rfl, rfl, rfl⟩

/-! ### shape of the logs of the phases -/

@[simp] theorem vcsCall_evs (e : PlanEnv) (ev : Ev) (s : PState) :
    (vcsCall e ev s).1.evs = ev :: s.evs := rfl
@[simp] theorem vcsCall_n (e : PlanEnv) (ev : Ev) (s : PState) :
    (vcsCall e ev s).1.n = s.n + 1 := rfl

/-- `l'` extends the (reversed) log `l` by events satisfying `P` -/
def EvExt (P : Ev → Prop) (l l' : List Ev) : Prop := ∃ new, l' = new ++ l ∧ ∀ ev ∈ new, P ev

theorem EvExt.refl {P : Ev → Prop} (l : List Ev) : EvExt P l l := ⟨[], by simp⟩
theorem EvExt.cons {P : Ev → Prop} {l l' : List Ev} {ev : Ev} (hp : P ev) (h : EvExt P l l') :
    EvExt P l (ev :: l') := by
  obtain ⟨new, rfl, hn⟩ := h
  exact ⟨ev :: new, by simp, by simpa [hp] using hn⟩
theorem EvExt.trans {P : Ev → Prop} {l l' l'' : List Ev} (h1 : EvExt P l l') (h2 : EvExt P l' l'') :
    EvExt P l l'' := by
  obtain ⟨n1, rfl, hn1⟩ := h1
  obtain ⟨n2, rfl, hn2⟩ := h2
  refine ⟨n2 ++ n1, by simp, ?_⟩
  intro ev hev
  rcases List.mem_append.1 hev with h | h
  · exact hn2 ev h
  · exact hn1 ev h
theorem EvExt.mono {P Q : Ev → Prop} {l l' : List Ev} (hpq : ∀ ev, P ev → Q ev) (h : EvExt P l l') :
    EvExt Q l l' := by
  obtain ⟨new, rfl, hn⟩ := h
  exact ⟨new, rfl, fun ev hev => hpq ev (hn ev hev)⟩

theorem isUsable_shape (e : PlanEnv) (s : PState) :
    ((isUsable e s).1.evs = s.evs ∧ (isUsable e s).2 = false) ∨
      (isUsable e s).1.evs = .cmd "is_usable" :: s.evs := by
  unfold isUsable
  split <;> simp

/-- the probes of `get_remote` -/
def RemEv (ev : Ev) : Prop := ev = .cmd "ls_branches" ∨ ev = .cmd "show_remotes"

theorem getRemote_ext (e : PlanEnv) (s : PState) : EvExt RemEv s.evs (getRemote e s).1.evs := by
  unfold getRemote
  split
  · simp only []
    split
    · exact .cons (.inl rfl) (.refl _)
    · split
      · exact .cons (.inl rfl) (.refl _)
      · exact .cons (.inr rfl) (.cons (.inl rfl) (.refl _))
  · exact .cons (.inr rfl) (.refl _)

/-- events `get_tags` may log; `fetch` and the remote probes only when fetching is requested -/
def TagEv (f : Bool) (ev : Ev) : Prop :=
  ev = .cmd "is_usable" ∨ ev = .cmd "ls_tags" ∨ ev = .cmd "ls_tags_branch" ∨
    (f = true ∧ (ev = .cmd "ls_branches" ∨ ev = .cmd "show_remotes" ∨ ev = .cmd "fetch"))

theorem getTags_ext (e : PlanEnv) (f b : Bool) (s : PState) :
    EvExt (TagEv f) s.evs (getTags e f b s).1.evs := by
  unfold getTags
  have h1 : EvExt (TagEv f) s.evs (isUsable e s).1.evs := by
    rcases isUsable_shape e s with ⟨h, _⟩ | h <;> rw [h]
    · exact .refl _
    · exact .cons (.inl rfl) (.refl _)
  generalize isUsable e s = r at *
  obtain ⟨s1, u⟩ := r
  simp only at h1 ⊢
  have hls : TagEv f (.cmd (if b then "ls_tags_branch" else "ls_tags")) := by
    cases b <;> simp [TagEv]
  split
  · exact h1
  · cases f
    · exact .cons hls h1
    · have h2 := (getRemote_ext e s1).mono (Q := TagEv true) (by
        rintro ev (h | h) <;> simp [TagEv, h])
      generalize getRemote e s1 = r at *
      obtain ⟨sa, rem⟩ := r
      cases rem
      · exact .cons hls (h1.trans h2)
      · simp only [if_true]
        split
        · exact .cons (by simp [TagEv]) (h1.trans h2)
        · exact .cons hls (.cons (by simp [TagEv]) (h1.trans h2))

/-- the `add` events for a list of files, most recent first -/
def addsRev (l : List Str) : List Ev := (l.map Ev.add).reverse

theorem addAll_shape (e : PlanEnv) (l : List Str) (s : PState) :
    ∃ l1 l2, l = l1 ++ l2 ∧ (addAll e l s).1.evs = addsRev l1 ++ s.evs ∧
      ((addAll e l s).2 = .ok → l2 = []) := by
  induction l generalizing s with
  | nil => exact ⟨[], [], by simp [addAll, addsRev]⟩
  | cons p ps ih =>
    unfold addAll
    simp only []
    split
    · exact ⟨[p], ps, by simp [addsRev]⟩
    · obtain ⟨l1, l2, h1, h2, h3⟩ := ih (vcsCall e (.add p) s).1
      exact ⟨p :: l1, l2, by simp [h1], by simp [h2, addsRev], h3⟩

def hookPre (e : PlanEnv) (c : PlanCfg) : List Ev :=
  if c.preHook then [.preHook e.startVersion e.announced] else []
def hookPost (e : PlanEnv) (c : PlanCfg) : List Ev :=
  if c.postHook then [.postHook e.startVersion e.announced] else []
def tagCmd (c : PlanCfg) : Ev := .cmd (if c.tagMsgEmpty then "tag_light" else "tag")
def tagL (c : PlanCfg) : List Ev := if c.tag then [tagCmd c] else []
def pushCmd (c : PlanCfg) : Ev := .cmd (if c.tag then "push_tag" else "push")
/-- everything up to and including the commit, most recent first -/
def uptoCommit (e : PlanEnv) (c : PlanCfg) : List Ev :=
  .cmd "commit" :: addsRev e.files ++ hookPre e c

/-- the possible logs (most recent first) and outcomes of `commitPhase` -/
inductive CommitShape (e : PlanEnv) (c : PlanCfg) : List Ev → Outcome → Prop
  | preFail : c.preHook = true → e.preOk = false →
      CommitShape e c [.preHook e.startVersion e.announced] .failed
  | addFail (l1 l2 : List Str) : (c.preHook = true → e.preOk = true) → e.files = l1 ++ l2 →
      CommitShape e c (addsRev l1 ++ hookPre e c) .failed
  | commitFail : (c.preHook = true → e.preOk = true) → CommitShape e c (uptoCommit e c) .failed
  | postFail : (c.preHook = true → e.preOk = true) → c.postHook = true → e.postOk = false →
      CommitShape e c (.postHook e.startVersion e.announced :: uptoCommit e c) .failed
  | tagFail : (c.preHook = true → e.preOk = true) → (c.postHook = true → e.postOk = true) →
      c.tag = true → CommitShape e c (tagCmd c :: hookPost e c ++ uptoCommit e c) .failed
  | noPush : (c.preHook = true → e.preOk = true) → (c.postHook = true → e.postOk = true) →
      c.push = false → CommitShape e c (tagL c ++ hookPost e c ++ uptoCommit e c) .ok
  | noRemote (probes : List Ev) : (c.preHook = true → e.preOk = true) →
      (c.postHook = true → e.postOk = true) → c.push = true → (∀ ev ∈ probes, RemEv ev) →
      CommitShape e c (probes ++ tagL c ++ hookPost e c ++ uptoCommit e c) .ok
  | push (probes : List Ev) (o : Outcome) : (c.preHook = true → e.preOk = true) →
      (c.postHook = true → e.postOk = true) → c.push = true → (∀ ev ∈ probes, RemEv ev) →
      CommitShape e c (pushCmd c :: probes ++ tagL c ++ hookPost e c ++ uptoCommit e c) o

theorem Outcome.ok_of_not_failed {o : Outcome} (h : ¬ (o == Outcome.failed) = true) : o = .ok := by
  cases o <;> simp_all

theorem Outcome.failed_of_beq {o : Outcome} (h : (o == Outcome.failed) = true) : o = .failed := by
  cases o <;> simp_all

theorem commitPhase_eq (e : PlanEnv) (c : PlanCfg) (s : PState) :
    commitPhase e c s =
      let s0 : PState := if c.preHook then ⟨.preHook e.startVersion e.announced :: s.evs, s.n⟩ else s
      let r1 := addAll e e.files s0
      let r2 := vcsCall e (.cmd "commit") r1.1
      let s3 : PState :=
        if c.postHook then ⟨.postHook e.startVersion e.announced :: r2.1.evs, r2.1.n⟩ else r2.1
      let r4 := if c.tag then vcsCall e (tagCmd c) s3 else (s3, .ok)
      let r5 := getRemote e r4.1
      if c.preHook && !e.preOk then (s0, .failed)
      else if r1.2 == .failed then (r1.1, .failed)
      else if r2.2 == .failed then (r2.1, .failed)
      else if c.postHook && !e.postOk then (s3, .failed)
      else if r4.2 == .failed then (r4.1, .failed)
      else if c.push then (if r5.2 then vcsCall e (pushCmd c) r5.1 else (r5.1, .ok))
      else (r4.1, .ok) := rfl

theorem commitPhase_shape (e : PlanEnv) (c : PlanCfg) (s : PState) :
    ∃ C, (commitPhase e c s).1.evs = C ++ s.evs ∧ CommitShape e c C (commitPhase e c s).2 := by
  generalize hr : commitPhase e c s = r
  rw [commitPhase_eq] at hr
  extract_lets s0 r1 r2 s3 r4 r5 at hr
  have h0 : s0.evs = hookPre e c ++ s.evs := by
    simp only [s0, hookPre]; split <;> rfl
  obtain ⟨l1, l2, hl, h1, hok⟩ := addAll_shape e e.files s0
  have h2 : r2.1.evs = .cmd "commit" :: r1.1.evs := rfl
  have h3 : s3.evs = hookPost e c ++ r2.1.evs := by
    simp only [s3, hookPost]; split <;> rfl
  have h4 : r4.1.evs = tagL c ++ s3.evs ∧ (r4.2 = .failed → c.tag = true) := by
    simp only [r4, tagL]; split <;> simp [*]
  obtain ⟨probes, h5, hpr⟩ := getRemote_ext e r4.1
  change r1.1.evs = _ at h1
  change r1.2 = _ → _ at hok
  change r5.1.evs = _ at h5
  clear_value r5 r4 s3 r2 r1 s0
  rw [h0] at h1
  rcases of_ite_eq hr with ⟨hp, rfl⟩ | ⟨hp, hr⟩
  · simp only [Bool.and_eq_true, Bool.not_eq_eq_eq_not, Bool.not_true] at hp
    exact ⟨_, by simp [h0, hookPre, hp.1], .preFail hp.1 hp.2⟩
  have hp' : c.preHook = true → e.preOk = true := by simpa using hp
  rcases of_ite_eq hr with ⟨-, rfl⟩ | ⟨ho1, hr⟩
  · exact ⟨_, by rw [h1, List.append_assoc], .addFail l1 l2 hp' hl⟩
  obtain rfl := hok (Outcome.ok_of_not_failed ho1)
  rw [List.append_nil] at hl
  rw [h1, ← hl, ← List.append_assoc, ← List.cons_append] at h2
  change r2.1.evs = uptoCommit e c ++ s.evs at h2
  rcases of_ite_eq hr with ⟨-, rfl⟩ | ⟨-, hr⟩
  · exact ⟨_, h2, .commitFail hp'⟩
  rw [h2, ← List.append_assoc] at h3
  rcases of_ite_eq hr with ⟨hq, rfl⟩ | ⟨hq, hr⟩
  · simp only [Bool.and_eq_true, Bool.not_eq_eq_eq_not, Bool.not_true] at hq
    exact ⟨_, by simpa [hookPost, hq.1] using h3, .postFail hp' hq.1 hq.2⟩
  have hq' : c.postHook = true → e.postOk = true := by simpa using hq
  obtain ⟨h4, ht⟩ := h4
  rw [h3, ← List.append_assoc, ← List.append_assoc] at h4
  rcases of_ite_eq hr with ⟨ho4, rfl⟩ | ⟨-, hr⟩
  · have ht := ht (Outcome.failed_of_beq ho4)
    exact ⟨_, by simpa [tagL, ht] using h4, .tagFail hp' hq' ht⟩
  rw [h4, ← List.append_assoc, ← List.append_assoc, ← List.append_assoc] at h5
  rcases of_ite_eq hr with ⟨hpush, hr⟩ | ⟨hpush, rfl⟩
  · rcases of_ite_eq hr with ⟨-, rfl⟩ | ⟨-, rfl⟩
    · exact ⟨_, by rw [vcsCall_evs, h5]; rfl, .push probes _ hp' hq' hpush hpr⟩
    · exact ⟨_, h5, .noRemote probes hp' hq' hpush hpr⟩
  · exact ⟨_, h4, .noPush hp' hq' (by simpa using hpush)⟩

theorem mem_addsRev {ev : Ev} {l : List Str} : ev ∈ addsRev l ↔ ∃ p ∈ l, ev = .add p := by
  simp [addsRev, eq_comm]

theorem mem_hookPre {ev : Ev} {e : PlanEnv} {c : PlanCfg} :
    ev ∈ hookPre e c ↔ ev = .preHook e.startVersion e.announced ∧ c.preHook = true := by
  unfold hookPre; split <;> simp_all

theorem mem_hookPost {ev : Ev} {e : PlanEnv} {c : PlanCfg} :
    ev ∈ hookPost e c ↔ ev = .postHook e.startVersion e.announced ∧ c.postHook = true := by
  unfold hookPost; split <;> simp_all

theorem mem_tagL {ev : Ev} {c : PlanCfg} : ev ∈ tagL c ↔ ev = tagCmd c ∧ c.tag = true := by
  unfold tagL; split <;> simp_all

theorem mem_uptoCommit {ev : Ev} {e : PlanEnv} {c : PlanCfg} :
    ev ∈ uptoCommit e c ↔ ev = .cmd "commit" ∨ (∃ p ∈ e.files, ev = .add p) ∨
      (ev = .preHook e.startVersion e.announced ∧ c.preHook = true) := by
  simp [uptoCommit, mem_addsRev, mem_hookPre]

theorem commit_mem_uptoCommit (e : PlanEnv) (c : PlanCfg) : Ev.cmd "commit" ∈ uptoCommit e c := by
  simp [uptoCommit]

/-- what an event logged by `commitPhase` can be -/
theorem CommitShape.mem {e : PlanEnv} {c : PlanCfg} {C : List Ev} {o : Outcome}
    (h : CommitShape e c C o) {ev : Ev} (hev : ev ∈ C) :
    (ev = .preHook e.startVersion e.announced ∧ c.preHook = true) ∨
    (∃ p ∈ e.files, ev = .add p) ∨ ev = .cmd "commit" ∨
    (ev = .postHook e.startVersion e.announced ∧ c.postHook = true ∧ Ev.cmd "commit" ∈ C) ∨
    (ev = tagCmd c ∧ c.tag = true ∧ Ev.cmd "commit" ∈ C) ∨
    (RemEv ev ∧ c.push = true ∧ Ev.cmd "commit" ∈ C) ∨
    (ev = pushCmd c ∧ c.push = true ∧ Ev.cmd "commit" ∈ C) := by
  have hcm := commit_mem_uptoCommit e c
  cases h with
  | preFail hp _ => simp_all
  | addFail l1 l2 _ hl =>
    simp only [List.mem_append, mem_addsRev, mem_hookPre] at hev
    rcases hev with ⟨p, hp, rfl⟩ | h
    · exact .inr (.inl ⟨p, by simp [hl, hp], rfl⟩)
    · exact .inl h
  | commitFail _ => simp only [mem_uptoCommit] at hev; grind
  | postFail _ hq _ =>
    simp only [List.mem_cons, mem_uptoCommit] at hev
    simp only [List.mem_cons, hcm, or_true, and_true]
    grind
  | tagFail _ _ ht =>
    simp only [List.mem_cons, List.mem_append, mem_uptoCommit, mem_hookPost] at hev
    simp only [List.mem_cons, List.mem_append, hcm, or_true, and_true]
    grind
  | noPush _ _ _ =>
    simp only [List.mem_append, mem_uptoCommit, mem_hookPost, mem_tagL] at hev
    simp only [List.mem_append, hcm, or_true, and_true]
    grind
  | noRemote probes _ _ hpush hpr =>
    simp only [List.mem_append, mem_uptoCommit, mem_hookPost, mem_tagL] at hev
    simp only [List.mem_append, hcm, or_true, and_true]
    have := hpr ev
    grind
  | push probes o _ _ hpush hpr =>
    simp only [List.mem_cons, List.mem_append, mem_uptoCommit, mem_hookPost, mem_tagL] at hev
    simp only [List.mem_cons, List.mem_append, hcm, or_true, and_true]
    have := hpr ev
    grind

/-- a successful commit phase staged every file, committed and (if enabled) tagged -/
theorem CommitShape.ok_complete {e : PlanEnv} {c : PlanCfg} {C : List Ev}
    (h : CommitShape e c C .ok) :
    (∀ p ∈ e.files, Ev.add p ∈ C) ∧ Ev.cmd "commit" ∈ C ∧ (c.tag = true → tagCmd c ∈ C) := by
  have hup : (∀ p ∈ e.files, Ev.add p ∈ uptoCommit e c) ∧ Ev.cmd "commit" ∈ uptoCommit e c :=
    ⟨fun p hp => mem_uptoCommit.2 (.inr (.inl ⟨p, hp, rfl⟩)), commit_mem_uptoCommit e c⟩
  cases h with
  | noPush _ _ _ => simp only [List.mem_append, mem_tagL]; grind
  | noRemote probes _ _ _ _ => simp only [List.mem_append, mem_tagL]; grind
  | push probes _ _ _ _ _ => simp only [List.mem_cons, List.mem_append, mem_tagL]; grind

theorem CommitShape.pre_fail {e : PlanEnv} {c : PlanCfg} {C : List Ev} {o : Outcome}
    (h : CommitShape e c C o) (hp : e.preOk = false) {x y : Str} (hm : Ev.preHook x y ∈ C) :
    C.head? = some (.preHook x y) ∧ o = .failed := by
  have hpre : c.preHook = true := by
    have := h.mem hm
    simp [tagCmd, pushCmd, RemEv] at this
    exact this.2
  cases h <;> simp_all

theorem CommitShape.post_fail {e : PlanEnv} {c : PlanCfg} {C : List Ev} {o : Outcome}
    (h : CommitShape e c C o) (hp : e.postOk = false) {x y : Str} (hm : Ev.postHook x y ∈ C) :
    C.head? = some (.postHook x y) ∧ o = .failed := by
  have hpost : c.postHook = true := by
    have := h.mem hm
    simp [tagCmd, pushCmd, RemEv] at this
    exact this.2.1
  cases h with
  | preFail _ _ => simp at hm
  | addFail l1 l2 _ _ => simp [mem_addsRev, mem_hookPre] at hm
  | commitFail _ => simp [mem_uptoCommit] at hm
  | postFail _ _ _ => simp [mem_uptoCommit] at hm; simp [hm]
  | tagFail _ hq _ => simp_all
  | noPush _ hq _ => simp_all
  | noRemote _ _ hq _ _ => simp_all
  | push _ _ _ hq _ _ => simp_all

/-- the possible traces and exit codes of `plan` once the options are accepted -/
inductive PlanShape (c : PlanCfg) (a : PlanCli) (e : PlanEnv) : List Ev → Nat → Prop
  | stop (T : List Ev) : (∀ ev ∈ T, TagEv a.fetch ev) → PlanShape c a e T 1
  | dry (T : List Ev) : (∀ ev ∈ T, TagEv a.fetch ev) → a.dry = true → e.gateOk = true →
      PlanShape c a e T (if e.rewriteOk then 0 else 1)
  | dirty (T : List Ev) : (∀ ev ∈ T, TagEv a.fetch ev) → c.commit = true → a.dry = false →
      e.gateOk = true → PlanShape c a e (T ++ [.cmd "is_usable", .cmd "status"]) 1
  | unusable (T U : List Ev) : (∀ ev ∈ T, TagEv a.fetch ev) → a.dry = false → e.gateOk = true →
      (U = [] ∨ U = [.cmd "is_usable"]) → PlanShape c a e (T ++ U) 1
  | noVcs (T U : List Ev) : (∀ ev ∈ T, TagEv a.fetch ev) → a.dry = false → e.gateOk = true →
      e.rewriteOk = true → (U = [] ∨ U = [.cmd "is_usable"]) →
      PlanShape c a e (T ++ U ++ [.rewrite]) 0
  | commit (T C : List Ev) (o : Outcome) : (∀ ev ∈ T, TagEv a.fetch ev) → c.commit = true →
      a.dry = false → e.gateOk = true → e.rewriteOk = true → e.dirtyAbort = false →
      CommitShape e c C o →
      PlanShape c a e (T ++ [.cmd "is_usable", .cmd "status", .rewrite] ++ C.reverse)
        (if o = .ok then 0 else 1)

theorem TagEv.of_false {f : Bool} {ev : Ev} (h : TagEv false ev) : TagEv f ev := by
  simp only [TagEv] at h ⊢
  simp only [Bool.false_eq_true, false_and, or_false] at h
  rcases h with h | h | h <;> simp [h]

theorem plan_eq {c0 c : PlanCfg} {a : PlanCli} {e : PlanEnv} (hc : parseVcsOptions c0 a = some c) :
    plan c0 a e =
      let r1 := if a.ignoreVcsTag then (⟨[], 0⟩, .ok) else getTags e a.fetch c.scopeBranch ⟨[], 0⟩
      let r2 := if c.scopeBranch || a.setVersion then getTags e false false r1.1 else (r1.1, .ok)
      let r3 := if c.commit then isUsable e r2.1 else (r2.1, false)
      let r4 := if r3.2 then vcsCall e (.cmd "status") r3.1 else (r3.1, .ok)
      let r6 := commitPhase e c ⟨.rewrite :: r4.1.evs, r4.1.n⟩
      if r1.2 == .failed then (r1.1.evs.reverse, 1)
      else if !e.gateOk then (r1.1.evs.reverse, 1)
      else if r2.2 == .failed then (r2.1.evs.reverse, 1)
      else if (c.scopeBranch || a.setVersion) && tagsListed e r1.1 && !e.uniqueOk then
        (r2.1.evs.reverse, 1)
      else if a.dry then (r2.1.evs.reverse, if e.rewriteOk then 0 else 1)
      else if r4.2 == .failed then (r4.1.evs.reverse, 1)
      else if r3.2 && e.dirtyAbort then (r4.1.evs.reverse, 1)
      else if !e.rewriteOk then (r4.1.evs.reverse, 1)
      else if !r3.2 then ((Ev.rewrite :: r4.1.evs).reverse, 0)
      else (r6.1.evs.reverse, if r6.2 == .ok then 0 else 1) := by
  unfold plan
  rw [hc]

theorem plan_shape (c0 c : PlanCfg) (a : PlanCli) (e : PlanEnv)
    (hc : parseVcsOptions c0 a = some c) : PlanShape c a e (plan c0 a e).1 (plan c0 a e).2 := by
  generalize hr : plan c0 a e = r
  rw [plan_eq hc] at hr
  extract_lets r1 r2 r3 r4 r6 at hr
  have e1 : EvExt (TagEv a.fetch) [] r1.1.evs := by
    simp only [r1]; split
    · exact .refl _
    · exact getTags_ext e a.fetch c.scopeBranch _
  have e2 : EvExt (TagEv a.fetch) [] r2.1.evs := by
    simp only [r2]; split
    · exact e1.trans ((getTags_ext e false false r1.1).mono fun _ => TagEv.of_false)
    · exact e1
  have stop : ∀ {l : List Ev}, EvExt (TagEv a.fetch) [] l → ∀ ev ∈ l.reverse, TagEv a.fetch ev := by
    rintro _ ⟨T, rfl, hm⟩
    simpa using hm
  have hT := stop e2
  have h4 : (r3.2 = false ∧ r4.2 = .ok ∧ ∃ U, (U = [] ∨ U = [.cmd "is_usable"]) ∧
        r4.1.evs.reverse = r2.1.evs.reverse ++ U) ∨
      (r3.2 = true ∧ c.commit = true ∧
        r4.1.evs.reverse = r2.1.evs.reverse ++ [.cmd "is_usable", .cmd "status"]) := by
    have h3 : (r3.1.evs = r2.1.evs ∧ r3.2 = false) ∨
        (c.commit = true ∧ r3.1.evs = .cmd "is_usable" :: r2.1.evs) := by
      simp only [r3]; split
      · exact (isUsable_shape e r2.1).imp id (⟨‹_›, ·⟩)
      · exact .inl ⟨rfl, rfl⟩
    simp only [r4]
    cases hu : r3.2
    · refine .inl ⟨rfl, rfl, ?_⟩
      rcases h3 with ⟨h, -⟩ | ⟨-, h⟩
      · exact ⟨[], .inl rfl, by simp [h]⟩
      · exact ⟨_, .inr rfl, by simp [h]⟩
    · rcases h3 with ⟨-, h⟩ | ⟨hcm, h⟩
      · rw [hu] at h; cases h
      · exact .inr ⟨rfl, hcm, by simp [h]⟩
  obtain ⟨C, hC, hsh⟩ := commitPhase_shape e c ⟨.rewrite :: r4.1.evs, r4.1.n⟩
  change r6.1.evs = _ at hC
  change CommitShape e c C r6.2 at hsh
  clear_value r6 r4 r3 r2 r1
  rcases of_ite_eq hr with ⟨-, rfl⟩ | ⟨-, hr⟩
  · exact .stop _ (stop e1)
  rcases of_ite_eq hr with ⟨-, rfl⟩ | ⟨hg, hr⟩
  · exact .stop _ (stop e1)
  have hg : e.gateOk = true := by simpa using hg
  rcases of_ite_eq hr with ⟨-, rfl⟩ | ⟨-, hr⟩
  · exact .stop _ hT
  rcases of_ite_eq hr with ⟨-, rfl⟩ | ⟨-, hr⟩
  · exact .stop _ hT
  rcases of_ite_eq hr with ⟨hd, rfl⟩ | ⟨hd, hr⟩
  · exact .dry _ hT hd hg
  have hd : a.dry = false := by simpa using hd
  rcases h4 with ⟨hf, hok, U, hU, h4⟩ | ⟨hu, hcm, h4⟩
  · -- no usable VCS: neither dirty check nor commit phase
    rw [hf, hok] at hr
    rcases of_ite_eq hr with ⟨h, -⟩ | ⟨-, hr⟩
    · cases h
    rcases of_ite_eq hr with ⟨h, -⟩ | ⟨-, hr⟩
    · cases h
    rcases of_ite_eq hr with ⟨-, rfl⟩ | ⟨hrw, hr⟩
    · exact h4 ▸ .unusable _ _ hT hd hg hU
    rcases of_ite_eq hr with ⟨-, rfl⟩ | ⟨h, -⟩
    · rw [List.reverse_cons, h4]
      exact .noVcs _ _ hT hd hg (by simpa using hrw) hU
    · exact absurd rfl h
  · rw [hu] at hr
    have hdirty : PlanShape c a e r4.1.evs.reverse 1 := h4 ▸ .dirty _ hT hcm hd hg
    rcases of_ite_eq hr with ⟨-, rfl⟩ | ⟨-, hr⟩
    · exact hdirty
    rcases of_ite_eq hr with ⟨-, rfl⟩ | ⟨hda, hr⟩
    · exact hdirty
    rcases of_ite_eq hr with ⟨-, rfl⟩ | ⟨hrw, hr⟩
    · exact hdirty
    rcases of_ite_eq hr with ⟨h, -⟩ | ⟨-, rfl⟩
    · cases h
    have hev : r6.1.evs.reverse =
        r2.1.evs.reverse ++ [.cmd "is_usable", .cmd "status", .rewrite] ++ C.reverse := by
      simp [hC, h4]
    have hcode : (if (r6.2 == Outcome.ok) = true then 0 else 1) = (if r6.2 = .ok then 0 else 1) := by
      cases r6.2 <;> rfl
    simp only [hev, hcode]
    exact .commit _ _ _ hT hcm hd hg (by simpa using hrw) (by simpa using hda) hsh

/-- where an event of the trace comes from -/
theorem PlanShape.mem {c : PlanCfg} {a : PlanCli} {e : PlanEnv} {tr : List Ev} {code : Nat}
    (sh : PlanShape c a e tr code) {ev : Ev} (hev : ev ∈ tr) :
    TagEv a.fetch ev ∨ (a.dry = false ∧
      ((c.commit = true ∧ ev = .cmd "status") ∨ ev = .rewrite ∨
       (c.commit = true ∧ e.dirtyAbort = false ∧ Ev.cmd "status" ∈ tr ∧ Ev.rewrite ∈ tr ∧
         ∃ C o, CommitShape e c C o ∧ ev ∈ C ∧ (∀ x ∈ C, x ∈ tr) ∧
           (code = if o = .ok then 0 else 1) ∧
           (∀ x, C.head? = some x → tr.getLast? = some x)))) := by
  have hu : TagEv a.fetch (.cmd "is_usable") := .inl rfl
  cases sh with
  | stop T hT => exact .inl (hT ev hev)
  | dry T hT _ _ => exact .inl (hT ev hev)
  | dirty T hT hc hd _ =>
    simp only [List.mem_append, List.mem_cons, List.not_mem_nil, or_false] at hev
    rcases hev with h | rfl | rfl
    · exact .inl (hT ev h)
    · exact .inl hu
    · exact .inr ⟨hd, .inl ⟨hc, rfl⟩⟩
  | unusable T U hT hd _ hU =>
    rcases hU with rfl | rfl <;>
      simp only [List.mem_append, List.mem_cons, List.not_mem_nil, or_false] at hev
    · exact .inl (hT ev hev)
    · rcases hev with h | rfl
      · exact .inl (hT ev h)
      · exact .inl hu
  | noVcs T U hT hd _ _ hU =>
    rcases hU with rfl | rfl <;>
      simp only [List.mem_append, List.mem_cons, List.not_mem_nil, or_false] at hev
    · rcases hev with h | rfl
      · exact .inl (hT ev h)
      · exact .inr ⟨hd, .inr (.inl rfl)⟩
    · rcases hev with (h | rfl) | rfl
      · exact .inl (hT ev h)
      · exact .inl hu
      · exact .inr ⟨hd, .inr (.inl rfl)⟩
  | commit T C o hT hc hd _ _ hda hsh =>
    simp only [List.mem_append, List.mem_cons, List.not_mem_nil, or_false, List.mem_reverse] at hev
    rcases hev with (h | rfl | rfl | rfl) | h
    · exact .inl (hT ev h)
    · exact .inl hu
    · exact .inr ⟨hd, .inl ⟨hc, rfl⟩⟩
    · exact .inr ⟨hd, .inr (.inl rfl)⟩
    · refine .inr ⟨hd, .inr (.inr ⟨hc, hda, by simp, by simp, C, o, hsh, h, by simp +contextual,
        rfl, ?_⟩)⟩
      intro x hx
      cases C with
      | nil => simp at hx
      | cons y C' =>
        simp only [List.head?_cons, Option.some.injEq] at hx
        subst hx
        simp only [List.reverse_cons, ← List.append_assoc]
        rw [List.getLast?_append]; simp

theorem PlanShape.halted {c : PlanCfg} {a : PlanCli} {e : PlanEnv} {tr : List Ev} {code : Nat}
    (sh : PlanShape c a e tr code)
    (h : e.rewriteOk = false ∨ (e.dirtyAbort = true ∧ Ev.cmd "status" ∈ tr)) :
    code = 1 ∧ ∀ ev ∈ tr, TagEv a.fetch ev ∨ ev = .cmd "status" := by
  have hne : ∀ {T U : List Ev}, (∀ ev ∈ T, TagEv a.fetch ev) → (U = [] ∨ U = [.cmd "is_usable"]) →
      Ev.cmd "status" ∉ T ++ U := by
    intro T U hT hU hs
    rcases List.mem_append.1 hs with hs | hs
    · have := hT _ hs
      simp [TagEv] at this
    · rcases hU with rfl | rfl <;> simp at hs
  have hro : ∀ {T U : List Ev}, (∀ ev ∈ T, TagEv a.fetch ev) →
      (∀ ev ∈ U, ev = .cmd "is_usable" ∨ ev = .cmd "status") →
      ∀ ev ∈ T ++ U, TagEv a.fetch ev ∨ ev = .cmd "status" := by
    intro T U hT hU ev hev
    rcases List.mem_append.1 hev with hev | hev
    · exact .inl (hT ev hev)
    · exact (hU ev hev).imp (fun h => .inl h) id
  cases sh with
  | stop T hT => exact ⟨rfl, fun ev hev => .inl (hT ev hev)⟩
  | dry T hT _ _ =>
    refine ⟨?_, fun ev hev => .inl (hT ev hev)⟩
    rcases h with hr | ⟨-, hs⟩
    · simp [hr]
    · exact absurd (by simpa using hs) (hne hT (.inl rfl))
  | dirty T hT _ _ _ => exact ⟨rfl, hro hT (by simp)⟩
  | unusable T U hT _ _ hU => exact ⟨rfl, hro hT (by rcases hU with rfl | rfl <;> simp)⟩
  | noVcs T U hT _ _ hrw hU =>
    rcases h with hr | ⟨-, hs⟩
    · rw [hrw] at hr; cases hr
    · rcases List.mem_append.1 hs with hs | hs
      · exact absurd hs (hne hT hU)
      · simp at hs
  | commit T C o _ _ _ _ hrw hda _ =>
    rcases h with hr | ⟨hd, -⟩
    · rw [hrw] at hr; cases hr
    · rw [hda] at hd; cases hd

/-! ### order of the steps -/

/-- position of an event in the documented step order (copy of `Ev.rank` in Props/C10) -/
def Ev.rk : Ev → Option Nat
  | .cmd n =>
    if n == "status" then some 0 else if n == "commit" then some 4
    else if n == "tag" || n == "tag_light" then some 6
    else if n == "push" || n == "push_tag" then some 7 else none
  | .rewrite => some 1
  | .preHook _ _ => some 2
  | .add _ => some 3
  | .postHook _ _ => some 5

/-- the ranks of `l` (most recent first) are decreasing and lie in `[lo, hi]` -/
def Rk (lo hi : Nat) (l : List Ev) : Prop :=
  (l.filterMap Ev.rk).Pairwise (· ≥ ·) ∧ ∀ x ∈ l.filterMap Ev.rk, lo ≤ x ∧ x ≤ hi

theorem Rk.append {lo m m' hi : Nat} {A B : List Ev} (hA : Rk m hi A) (hB : Rk lo m' B)
    (h1 : lo ≤ m') (h2 : m' ≤ m) (h3 : m ≤ hi) : Rk lo hi (A ++ B) := by
  obtain ⟨pA, bA⟩ := hA
  obtain ⟨pB, bB⟩ := hB
  refine ⟨?_, ?_⟩
  · rw [List.filterMap_append, List.pairwise_append]
    refine ⟨pA, pB, fun x hx y hy => ?_⟩
    have := bA x hx; have := bB y hy
    show y ≤ x
    omega
  · intro x hx
    rw [List.filterMap_append, List.mem_append] at hx
    rcases hx with hx | hx
    · have := bA x hx; omega
    · have := bB x hx; omega

theorem Rk.of_none {lo hi : Nat} {l : List Ev} (h : ∀ ev ∈ l, ev.rk = none) : Rk lo hi l := by
  have : l.filterMap Ev.rk = [] := List.filterMap_eq_nil_iff.2 h
  simp [Rk, this]

theorem Rk.single {ev : Ev} {r : Nat} (h : ev.rk = some r) : Rk r r [ev] := by
  simp [Rk, h]

/-! The lemmas below take their numeric side conditions as arguments discharged by `omega`. -/

theorem Rk.mono {lo hi lo' hi' : Nat} {l : List Ev} (h : Rk lo hi l) (h1 : lo' ≤ lo := by omega)
    (h2 : hi ≤ hi' := by omega) : Rk lo' hi' l :=
  ⟨h.1, fun x hx => by have := h.2 x hx; omega⟩

/-- `Rk.append` in the form the proofs below call it -/
theorem Rk.app {lo m m' hi : Nat} {A B : List Ev} (hA : Rk m hi A) (hB : Rk lo m' B)
    (h1 : lo ≤ m' := by omega) (h2 : m' ≤ m := by omega) (h3 : m ≤ hi := by omega) :
    Rk lo hi (A ++ B) := hA.append hB h1 h2 h3

theorem Rk.cons {lo m hi r : Nat} {ev : Ev} {B : List Ev} (h : ev.rk = some r) (hB : Rk lo m B)
    (h1 : lo ≤ m := by omega) (h2 : m ≤ r := by omega) (h3 : r ≤ hi := by omega) :
    Rk lo hi (ev :: B) :=
  ((Rk.single h).app hB).mono

theorem Rk.cons_none {lo hi : Nat} {ev : Ev} {B : List Ev} (h : ev.rk = none) (hB : Rk lo hi B) :
    Rk lo hi (ev :: B) := by
  simpa [Rk, h] using hB

theorem rk_hookPre (e : PlanEnv) (c : PlanCfg) : Rk 2 2 (hookPre e c) := by
  unfold hookPre; split <;> simp [Rk, Ev.rk]
theorem rk_hookPost (e : PlanEnv) (c : PlanCfg) : Rk 5 5 (hookPost e c) := by
  unfold hookPost; split <;> simp [Rk, Ev.rk]
theorem rk_tagCmd (c : PlanCfg) : (tagCmd c).rk = some 6 := by
  unfold tagCmd; split <;> simp [Ev.rk]
theorem rk_pushCmd (c : PlanCfg) : (pushCmd c).rk = some 7 := by
  unfold pushCmd; split <;> simp [Ev.rk]
theorem rk_tagL (c : PlanCfg) : Rk 6 6 (tagL c) := by
  unfold tagL; split
  · exact Rk.single (rk_tagCmd c)
  · simp [Rk]
theorem rk_addsRev (l : List Str) : Rk 3 3 (addsRev l) := by
  induction l with
  | nil => simp [Rk, addsRev]
  | cons p ps ih =>
    have : addsRev (p :: ps) = addsRev ps ++ [.add p] := by simp [addsRev]
    rw [this]
    exact ih.app (Rk.single (r := 3) rfl)
theorem rk_uptoCommit (e : PlanEnv) (c : PlanCfg) : Rk 2 4 (uptoCommit e c) :=
  Rk.cons (r := 4) rfl ((rk_addsRev e.files).app (rk_hookPre e c))
theorem rk_probes {lo hi : Nat} {l : List Ev} (h : ∀ ev ∈ l, RemEv ev) : Rk lo hi l :=
  Rk.of_none fun ev hev => by rcases h ev hev with rfl | rfl <;> simp [Ev.rk]
theorem rk_tagEvs {lo hi : Nat} {f : Bool} {l : List Ev} (h : ∀ ev ∈ l, TagEv f ev) : Rk lo hi l :=
  Rk.of_none fun ev hev => by
    rcases h ev hev with rfl | rfl | rfl | ⟨-, rfl | rfl | rfl⟩ <;> simp [Ev.rk]

theorem CommitShape.rk {e : PlanEnv} {c : PlanCfg} {C : List Ev} {o : Outcome}
    (h : CommitShape e c C o) : Rk 2 7 C := by
  have hup := rk_uptoCommit e c
  have hpo : Rk 2 5 (hookPost e c ++ uptoCommit e c) := (rk_hookPost e c).app hup
  have htl : Rk 2 6 (tagL c ++ hookPost e c ++ uptoCommit e c) := by
    rw [List.append_assoc]
    exact (rk_tagL c).app hpo
  have hpr : ∀ {probes}, (∀ ev ∈ probes, RemEv ev) →
      Rk 2 6 (probes ++ tagL c ++ hookPost e c ++ uptoCommit e c) := fun h => by
    rw [List.append_assoc, List.append_assoc, ← List.append_assoc (tagL c)]
    exact (rk_probes h : Rk 6 6 _).app htl
  cases h with
  | preFail _ _ => exact (Rk.single (r := 2) rfl).mono
  | addFail l1 l2 _ _ => exact ((rk_addsRev l1).app (rk_hookPre e c)).mono
  | commitFail _ => exact hup.mono
  | postFail _ _ _ => exact Rk.cons (r := 5) rfl hup
  | tagFail _ _ _ => exact Rk.cons (rk_tagCmd c) hpo
  | noPush _ _ _ => exact htl.mono
  | noRemote probes _ _ _ h => exact (hpr h).mono
  | push probes o _ _ _ h => exact Rk.cons (rk_pushCmd c) (hpr h)

theorem PlanShape.rk {c : PlanCfg} {a : PlanCli} {e : PlanEnv} {tr : List Ev} {code : Nat}
    (sh : PlanShape c a e tr code) : Rk 0 7 tr.reverse := by
  have hT : ∀ {T : List Ev} {lo hi : Nat}, (∀ ev ∈ T, TagEv a.fetch ev) → Rk lo hi T.reverse :=
    fun h => rk_tagEvs (f := a.fetch) (by simpa using h)
  have hu : (Ev.cmd "is_usable").rk = none := rfl
  have hst : ∀ {T : List Ev}, (∀ ev ∈ T, TagEv a.fetch ev) →
      Rk 0 0 (.cmd "status" :: .cmd "is_usable" :: T.reverse) := fun h =>
    Rk.cons (m := 0) (r := 0) rfl (Rk.cons_none hu (hT h))
  cases sh with
  | stop _ h => exact hT h
  | dry _ h _ _ => exact hT h
  | dirty T h _ _ _ => simpa using (hst h).mono (lo' := 0) (hi' := 7)
  | unusable T U h _ _ hU =>
    rcases hU with rfl | rfl
    · simpa using hT h
    · simpa using Rk.cons_none hu (hT h)
  | noVcs T U h _ _ _ hU =>
    rcases hU with rfl | rfl
    · simpa using Rk.cons (m := 0) (r := 1) (hi := 7) (ev := .rewrite) rfl (hT h)
    · simpa using Rk.cons (m := 0) (r := 1) (hi := 7) (ev := .rewrite) rfl (Rk.cons_none hu (hT h))
  | commit T C o h _ _ _ _ _ hsh =>
    simpa using hsh.rk.app (Rk.cons (r := 1) (hi := 1) (ev := .rewrite) rfl (hst h))

/-! ### stop at the first failure -/

/-- VCS invocations (copy of `Ev.isVcs` in Props/C10) -/
def Ev.vcs : Ev → Bool
  | .cmd _ => true
  | .add _ => true
  | _ => false

/-- probes whose failure is swallowed (copy of `Ev.swallowed` in Props/C10) -/
def Ev.swal : Ev → Bool
  | .cmd n => n == "is_usable" || n == "ls_branches" || n == "show_remotes"
  | _ => false

def cnt (l : List Ev) : Nat := (l.filter Ev.vcs).length

/-- in the log `l` (most recent first) every VCS invocation whose index is `f` is a swallowed
    probe -/
def okRev (f : Option Nat) : List Ev → Prop
  | [] => True
  | ev :: rest => okRev f rest ∧ (ev.vcs = true → f = some (cnt rest) → ev.swal = true)

/-- the counter is the number of VCS invocations and no non-swallowed one has failed -/
def Inv (e : PlanEnv) (s : PState) : Prop := s.n = cnt s.evs ∧ okRev e.failAt s.evs
/-- everything before the most recent event is fine -/
def Pre (e : PlanEnv) (s : PState) : Prop := okRev e.failAt s.evs.tail
def Post (e : PlanEnv) (r : PState × Outcome) : Prop :=
  (r.2 = .ok → Inv e r.1) ∧ (r.2 = .failed → Pre e r.1)

theorem okRev.tail {f : Option Nat} {l : List Ev} (h : okRev f l) : okRev f l.tail := by
  cases l with
  | nil => exact h
  | cons x l => exact h.1

theorem Inv.pre {e : PlanEnv} {s : PState} (h : Inv e s) : Pre e s := h.2.tail

theorem Post.of_inv {e : PlanEnv} {s : PState} {o : Outcome} (h : Inv e s) : Post e (s, o) :=
  ⟨fun _ => h, fun _ => h.pre⟩

theorem Post.of_pre {e : PlanEnv} {s : PState} (h : Pre e s) : Post e (s, .failed) :=
  ⟨fun h' => Outcome.noConfusion h', fun _ => h⟩

theorem cnt_cons (ev : Ev) (l : List Ev) : cnt (ev :: l) = cnt l + (if ev.vcs then 1 else 0) := by
  unfold cnt; cases h : ev.vcs <;> simp [h]

theorem vcsCall_post {e : PlanEnv} {ev : Ev} {s : PState} (hv : ev.vcs = true) (h : Inv e s) :
    Post e (vcsCall e ev s) := by
  refine ⟨fun ho => ⟨?_, h.2, fun _ hf => ?_⟩, fun _ => h.2⟩
  · simp [vcsCall, cnt_cons, hv, h.1]
  · simp only [vcsCall] at ho
    rw [← h.1] at hf
    simp [hf] at ho

theorem vcsCall_inv_swal {e : PlanEnv} {ev : Ev} {s : PState} (hv : ev.vcs = true)
    (hs : ev.swal = true) (h : Inv e s) : Inv e (vcsCall e ev s).1 :=
  ⟨by simp [vcsCall, cnt_cons, hv, h.1], h.2, fun _ _ => hs⟩

theorem push_inv {e : PlanEnv} {ev : Ev} {s : PState} (hv : ev.vcs = false) (h : Inv e s) :
    Inv e { evs := ev :: s.evs, n := s.n } :=
  ⟨by simp [cnt_cons, hv, h.1], h.2, fun h' => by simp [hv] at h'⟩

theorem isUsable_inv {e : PlanEnv} {s : PState} (h : Inv e s) : Inv e (isUsable e s).1 := by
  unfold isUsable
  split
  · exact h
  · exact vcsCall_inv_swal rfl rfl h

theorem getRemote_inv {e : PlanEnv} {s : PState} (h : Inv e s) : Inv e (getRemote e s).1 := by
  have h1 := vcsCall_inv_swal (e := e) (ev := .cmd "ls_branches") rfl rfl h
  unfold getRemote
  split
  · simp only []
    split
    · exact h1
    · split
      · exact h1
      · exact vcsCall_inv_swal rfl rfl h1
  · exact vcsCall_inv_swal rfl rfl h

theorem getTags_post {e : PlanEnv} {f b : Bool} {s : PState} (h : Inv e s) :
    Post e (getTags e f b s) := by
  unfold getTags
  have h1 := isUsable_inv h
  generalize isUsable e s = r at *
  obtain ⟨s1, u⟩ := r
  simp only at h1 ⊢
  split
  · exact .of_inv h1
  · cases f
    · exact vcsCall_post rfl h1
    · have h2 := getRemote_inv h1
      generalize getRemote e s1 = r at *
      obtain ⟨sa, rem⟩ := r
      simp only at h2
      cases rem
      · exact vcsCall_post rfl h2
      · simp only [if_true]
        have h3 := vcsCall_post (ev := .cmd "fetch") rfl h2
        generalize vcsCall e (.cmd "fetch") sa = r at *
        obtain ⟨sb, o⟩ := r
        cases o
        · exact vcsCall_post rfl (h3.1 rfl)
        · exact .of_pre (h3.2 rfl)

theorem addAll_post {e : PlanEnv} {l : List Str} {s : PState} (h : Inv e s) :
    Post e (addAll e l s) := by
  induction l generalizing s with
  | nil => exact .of_inv h
  | cons p ps ih =>
    unfold addAll
    have h1 := vcsCall_post (ev := .add p) rfl h
    generalize vcsCall e (.add p) s = r at *
    obtain ⟨s1, o⟩ := r
    cases o
    · exact ih (h1.1 rfl)
    · exact .of_pre (h1.2 rfl)

theorem Post.seq {e : PlanEnv} {r k : PState × Outcome} (hr : Post e r)
    (hk : Inv e r.1 → Post e k) : Post e (if r.2 == .failed then (r.1, .failed) else k) := by
  by_cases ho : (r.2 == Outcome.failed) = true
  · rw [if_pos ho]; exact .of_pre (hr.2 (Outcome.failed_of_beq ho))
  · rw [if_neg ho]; exact hk (hr.1 (Outcome.ok_of_not_failed ho))

theorem Post.guard {e : PlanEnv} {p : Prop} [Decidable p] {s : PState} {k : PState × Outcome}
    (hs : Inv e s) (hk : Post e k) : Post e (if p then (s, .failed) else k) := by
  split
  · exact .of_pre hs.pre
  · exact hk

theorem commitPhase_post {e : PlanEnv} {c : PlanCfg} {s : PState} (hI : Inv e s) :
    Post e (commitPhase e c s) := by
  rw [commitPhase_eq]
  extract_lets s0 r1 r2 s3 r4 r5
  have hook : ∀ {b : Bool} {ev : Ev} {s : PState}, ev.vcs = false → Inv e s →
      Inv e (if b then ⟨ev :: s.evs, s.n⟩ else s) := fun hv h => by
    split
    · exact push_inv hv h
    · exact h
  have h0 : Inv e s0 := hook rfl hI
  refine .guard h0 (.seq (addAll_post h0) fun h1 => .seq (vcsCall_post rfl h1) fun h2 =>
    .guard (hook rfl h2) (.seq (r := r4) ?_ fun h4 => ?_))
  · simp only [r4]; split
    · exact vcsCall_post rfl (hook rfl h2)
    · exact .of_inv (hook rfl h2)
  · split
    · split
      · exact vcsCall_post rfl (getRemote_inv h4)
      · exact .of_inv (getRemote_inv h4)
    · exact .of_inv h4

/-- either the whole trace is fine, or everything before its last event is and the exit code
    is 1 -/
def PlanPost (e : PlanEnv) (r : List Ev × Nat) : Prop :=
  okRev e.failAt r.1.reverse ∨ (okRev e.failAt r.1.reverse.tail ∧ r.2 = 1)

theorem PlanPost.of_pre {e : PlanEnv} {s : PState} (h : Pre e s) :
    PlanPost e (s.evs.reverse, 1) := .inr ⟨by simpa [Pre] using h, rfl⟩
theorem PlanPost.of_inv {e : PlanEnv} {s : PState} {code : Nat} (h : Inv e s) :
    PlanPost e (s.evs.reverse, code) := .inl (by simpa using h.2)

theorem PlanPost.seq {e : PlanEnv} {r : PState × Outcome} {k : List Ev × Nat} (hr : Post e r)
    (hk : Inv e r.1 → PlanPost e k) :
    PlanPost e (if r.2 == .failed then (r.1.evs.reverse, 1) else k) := by
  by_cases ho : (r.2 == Outcome.failed) = true
  · rw [if_pos ho]; exact .of_pre (hr.2 (Outcome.failed_of_beq ho))
  · rw [if_neg ho]; exact hk (hr.1 (Outcome.ok_of_not_failed ho))

theorem PlanPost.guard {e : PlanEnv} {p : Prop} [Decidable p] {s : PState} {code : Nat}
    {k : List Ev × Nat} (hs : Inv e s) (hk : PlanPost e k) :
    PlanPost e (if p then (s.evs.reverse, code) else k) := by
  split
  · exact .of_inv hs
  · exact hk

theorem plan_post (c0 : PlanCfg) (a : PlanCli) (e : PlanEnv) : PlanPost e (plan c0 a e) := by
  cases hc : parseVcsOptions c0 a with
  | none => exact .inl (by simp [plan, hc, okRev])
  | some c =>
  rw [plan_eq hc]
  extract_lets r1 r2 r3 r4 r6
  have h0 : Inv e ⟨[], 0⟩ := ⟨rfl, trivial⟩
  have h1 : Post e r1 := by
    simp only [r1]; split
    · exact .of_inv h0
    · exact getTags_post h0
  have h2 : Inv e r1.1 → Post e r2 := fun h => by
    simp only [r2]; split
    · exact getTags_post h
    · exact .of_inv h
  have h4 : Inv e r2.1 → Post e r4 := fun h => by
    have h3 : Inv e r3.1 := by
      simp only [r3]; split
      · exact isUsable_inv h
      · exact h
    simp only [r4]; split
    · exact vcsCall_post rfl h3
    · exact .of_inv h3
  refine .seq h1 fun i1 => .guard i1 <| .seq (h2 i1) fun i2 => .guard i2 <| .guard i2 <|
    .seq (h4 i2) fun i4 => .guard i4 <| .guard i4 <|
      .guard (s := ⟨.rewrite :: r4.1.evs, r4.1.n⟩) (push_inv rfl i4) ?_
  have h6 : Post e r6 := commitPhase_post (push_inv rfl i4)
  cases ho : r6.2
  · exact .of_inv (h6.1 ho)
  · exact .of_pre (h6.2 ho)

theorem cnt_eq_rev (l : List Ev) : (l.reverse.filter Ev.vcs).length = cnt l := by
  simp [cnt, List.filter_reverse]

theorem getElem?_filter_concat {α : Type} (p : α → Bool) (L : List α) (x : α) {k : Nat} {y : α}
    (h : ((L ++ [x]).filter p)[k]? = some y) :
    (L.filter p)[k]? = some y ∨ (y = x ∧ p x = true ∧ k = (L.filter p).length) := by
  rw [List.filter_append] at h
  by_cases hlt : k < (L.filter p).length
  · exact .inl (by rwa [List.getElem?_append_left hlt] at h)
  · rw [List.getElem?_append_right (by omega)] at h
    cases hx : p x
    · simp [hx] at h
    · simp only [hx, List.filter_cons, if_true, List.filter_nil] at h
      obtain ⟨hi, hxe⟩ := List.getElem?_eq_some_iff.1 h
      rw [List.getElem_singleton] at hxe
      exact .inr ⟨hxe.symm, rfl, by simp only [List.length_cons, List.length_nil] at hi; omega⟩

theorem okRev_get {f : Option Nat} {k : Nat} (hk : f = some k) {l : List Ev} (h : okRev f l)
    {ev : Ev} (hev : (l.reverse.filter Ev.vcs)[k]? = some ev) : ev.swal = true := by
  induction l with
  | nil => simp at hev
  | cons x l ih =>
    rw [List.reverse_cons] at hev
    rcases getElem?_filter_concat _ _ _ hev with h' | ⟨rfl, hx, hk'⟩
    · exact ih h.1 h'
    · exact h.2 hx (by rw [hk, hk', cnt_eq_rev])

theorem stop_core {f : Option Nat} {k : Nat} (hk : f = some k) {tr : List Ev} {code : Nat}
    (h : okRev f tr.reverse ∨ (okRev f tr.reverse.tail ∧ code = 1)) {ev : Ev}
    (hev : (tr.filter Ev.vcs)[k]? = some ev) (hns : ev.swal = false) :
    tr.getLast? = some ev ∧ code = 1 := by
  have not_earlier : ∀ {l : List Ev}, okRev f l → (l.reverse.filter Ev.vcs)[k]? ≠ some ev :=
    fun h h' => by simp [okRev_get hk h h'] at hns
  rcases h with h | ⟨h, hcode⟩
  · exact absurd (by simpa using hev) (not_earlier h)
  · refine ⟨?_, hcode⟩
    rcases List.eq_nil_or_concat tr with rfl | ⟨L, x, rfl⟩
    · simp at hev
    · rw [List.concat_eq_append] at hev h ⊢
      rcases getElem?_filter_concat _ _ _ hev with h' | ⟨rfl, -, -⟩
      · exact absurd (by simpa using h') (not_earlier (l := L.reverse) (by simpa using h))
      · simp

/-! ### `plan` when the version gate rejects or the rewrite phase fails -/

theorem plan_gate_rejected (c0 : PlanCfg) (a : PlanCli) (e : PlanEnv) (hg : e.gateOk = false) :
    (plan c0 a e).2 = 1 ∧ ∀ ev ∈ (plan c0 a e).1, TagEv a.fetch ev := by
  cases hc : parseVcsOptions c0 a with
  | none => simp [plan, hc]
  | some c =>
    have sh := plan_shape c0 c a e hc
    generalize (plan c0 a e).1 = tr, (plan c0 a e).2 = code at sh ⊢
    cases sh with
    | stop T hT => exact ⟨rfl, hT⟩
    | dry _ _ _ h | dirty _ _ _ _ h | unusable _ _ _ _ h | noVcs _ _ _ _ h
    | commit _ _ _ _ _ _ h => rw [hg] at h; cases h

theorem plan_rewrite_fail (c0 : PlanCfg) (a : PlanCli) (e : PlanEnv) (hr : e.rewriteOk = false) :
    (plan c0 a e).2 = 1 ∧ ∀ ev ∈ (plan c0 a e).1, TagEv a.fetch ev ∨ ev = .cmd "status" := by
  cases hc : parseVcsOptions c0 a with
  | none => simp [plan, hc]
  | some c => exact (plan_shape c0 c a e hc).halted (.inl hr)

end BV
