/-
  Proofs/EffLemmas.lean — lemmas shared by the effect ties
  (Proofs/Tie_apiGetRemote, Tie_vcsCommit, Tie_getTags, Tie_assertNotDirty, Tie_cliUpdate).

  A generated definition (Gen/F_<name>.lean, namespace BV.GenE) is a term built from `Eff.bind / pure / tryCatch /
  tryFinally / forIn`, the primitive effects of Model/Eff.lean and calls of other generated definitions.
    * A method of `VCSAPI` is tied by an EQUATION for all states (`… e s = Eff.liftC a (step s)`).
    * A sequence of such steps is tied phase by phase: the monad laws leave one `bind` per phase, the model is the same
      chain written with `planThen` (definitionally its own `let (s', o) := …; if o == .failed then … else …`), and
      `Eff.Shows.bind` pairs them off; `Eff.Shows P r p` also says by which exceptions the run may stop.
  So a semantics-preserving rewrite of the Python (renamed locals, nested `if`s for `and`, early returns, a comprehension
  for a loop) leads to the same chain of phases, while a changed order / guard / handler leaves a phase in which the two
  sides differ.  `eff_auto` (below, with `eff_step` of Proofs/EffTactics.lean) is used for the leaves whose case
  analysis is over the TEXT a subcommand prints (`get_remote`, `status`).
-/
import BumpverVerif.Model.Eff
import BumpverVerif.Proofs.EffTactics
namespace BV

/-! ### running the combinators -/

theorem Eff.ite_run {α : Type} (c : Prop) [Decidable c] (m n : Eff α) (e : EffEnv) (s : PState) :
    (if c then m else n) e s = if c then m e s else n e s := by split <;> rfl

theorem Eff.bind_assoc {α β γ : Type} (m : Eff α) (f : α → Eff β) (g : β → Eff γ) :
    Eff.bind (Eff.bind m f) g = Eff.bind m (fun a => Eff.bind (f a) g) := by
  funext e s
  simp only [Eff.bind]
  rcases m e s with ⟨s', r⟩
  cases r <;> rfl

theorem Eff.pure_bind {α β : Type} (a : α) (f : α → Eff β) : Eff.bind (Eff.pure a) f = f a := rfl

theorem Eff.bind_pure {α : Type} (m : Eff α) : Eff.bind m Eff.pure = m := by
  funext e s
  simp only [Eff.bind]
  rcases m e s with ⟨s', r⟩
  cases r <;> rfl

/-- the shape the translator gives a statement that is a call: `bind (call …) (fun _ => pure ())` -/
theorem Eff.bind_pure_unit (m : Eff Unit) : Eff.bind m (fun _ => Eff.pure ()) = m := Eff.bind_pure m

theorem Eff.tryFinally_pure {α : Type} (m : Eff α) : Eff.tryFinally m (Eff.pure ()) = m := by
  funext e s
  simp only [Eff.tryFinally, Eff.pure]

/-- a model step seen as an effect result: a failing VCS invocation is a CalledProcessError -/
def Eff.liftC {α : Type} (a : α) : PState × Outcome → PState × Except Stop α
  | (s', .ok) => (s', .ok a)
  | (s', .failed) => (s', .error .called)

/-- what the hand model keeps of an effect result: the state and "ok / failed" -/
def Eff.view {α : Type} (r : PState × Except Stop α) : PState × Outcome := (r.1, Eff.outcome r.2)

theorem Eff.call_run (name : String) (kw : List (String × Str)) (e : EffEnv) (s : PState) :
    Eff.call name kw e s = Eff.liftC (e.output name) (vcsCall e.plan (Eff.callEv name kw) s) := by
  unfold Eff.call
  rcases vcsCall e.plan (Eff.callEv name kw) s with ⟨s', o⟩
  cases o <;> rfl

theorem Eff.bind_pure_liftC {α β : Type} {m : Eff α} {e : EffEnv} {s : PState} {a : α} {r : PState × Outcome}
    {g : α → β} (h : m e s = Eff.liftC a r) : Eff.bind m (fun x => Eff.pure (g x)) e s = Eff.liftC (g a) r := by
  simp only [Eff.bind, h]
  rcases r with ⟨s', o⟩
  cases o <;> rfl

/-- go on with `k` unless the step failed: how Model/Plan.lean chains its steps (definitionally its
    `let (s', o) := r; if o == .failed then (s', .failed) else k s'`) -/
def planThen (r : PState × Outcome) (k : PState → PState × Outcome) : PState × Outcome :=
  if r.2 == .failed then (r.1, .failed) else k r.1

def hookStep (configured ok : Bool) (ev : Ev) (s : PState) : PState × Outcome :=
  if configured then ({ s with evs := ev :: s.evs }, if ok then .ok else .failed) else (s, .ok)

/-- the model's own text for a hook step -/
theorem planThen_hookStep (configured ok : Bool) (ev : Ev) (s : PState) (k : PState → PState × Outcome) :
    planThen (hookStep configured ok ev s) k =
      if configured && !ok then (if configured then { s with evs := ev :: s.evs } else s, .failed)
      else k (if configured then { s with evs := ev :: s.evs } else s) := by
  cases configured <;> cases ok <;> rfl

theorem Eff.bind_liftC {α β : Type} {m : Eff α} {f : α → Eff β} {e : EffEnv} {s : PState} {a : α} {b : β}
    {p : PState × Outcome} {k : PState → PState × Outcome}
    (hm : m e s = Eff.liftC a p) (hf : ∀ s', f a e s' = Eff.liftC b (k s')) :
    Eff.bind m f e s = Eff.liftC b (planThen p k) := by
  simp only [Eff.bind, hm]
  rcases p with ⟨s', o⟩
  cases o
  · exact hf s'
  · rfl

theorem Eff.tryCatch_bind {α β : Type} (m : Eff α) (f : α → Eff β) (h : Stop → Eff β) (e : EffEnv) (s : PState) :
    Eff.tryCatch (Eff.bind m f) h e s =
      (match m e s with
       | (s', .ok a) => Eff.tryCatch (f a) h e s'
       | (s', .error x) => h x e s') := by
  simp only [Eff.tryCatch, Eff.bind]
  rcases m e s with ⟨s', r⟩
  cases r <;> rfl

theorem Eff.tryCatch_liftC {α : Type} {m : Eff α} {h : Stop → Eff α} {e : EffEnv} {s : PState} {a : α}
    {p : PState × Outcome} (hm : m e s = Eff.liftC a p) (hh : ∀ s', h .called e s' = (s', .error .called)) :
    Eff.tryCatch m h e s = Eff.liftC a p := by
  simp only [Eff.tryCatch, hm]
  rcases p with ⟨s', o⟩
  cases o
  · rfl
  · exact hh s'

/-- the hand model records the effect result `r` as `p`, and `r` stopped, if it did, by an exception in `P` -/
def Eff.Shows {α : Type} (P : Stop → Prop) (r : PState × Except Stop α) (p : PState × Outcome) : Prop :=
  Eff.view r = p ∧ ∀ x, r.2 = .error x → P x

/-- a failing VCS invocation (CalledProcessError) or a failing hook (`sys.exit(1)`) -/
def Stop.vcsOrHook (x : Stop) : Prop := x = .called ∨ x = .exit 1

def Stop.exitsOne (x : Stop) : Prop := ∀ α : Type, Eff.exitCode (.error x : Except Stop α) = 1

theorem Stop.vcsOrHook.exitsOne {x : Stop} (h : x.vcsOrHook) : x.exitsOne := by
  rcases h with rfl | rfl <;> exact fun _ => rfl

theorem Eff.Shows.mono {α : Type} {P Q : Stop → Prop} {r : PState × Except Stop α} {p : PState × Outcome}
    (h : Eff.Shows P r p) (hPQ : ∀ x, P x → Q x) : Eff.Shows Q r p :=
  ⟨h.1, fun x hx => hPQ x (h.2 x hx)⟩

theorem Eff.Shows.pure {α : Type} {P : Stop → Prop} (a : α) (e : EffEnv) (s : PState) :
    Eff.Shows P (Eff.pure a e s) (s, .ok) :=
  ⟨rfl, fun _ h => nomatch h⟩

theorem Eff.Shows.liftC {α : Type} {P : Stop → Prop} (hP : P .called) (a : α) (p : PState × Outcome) :
    Eff.Shows P (Eff.liftC a p) p := by
  rcases p with ⟨s', o⟩
  cases o
  · exact ⟨rfl, fun _ h => nomatch h⟩
  · exact ⟨rfl, fun x h => (Except.error.inj h) ▸ hP⟩

theorem Eff.Shows.hook {P : Stop → Prop} (hP : P (.exit 1)) (k : HookKind) (path old new : Str) (e : EffEnv)
    (s : PState) :
    Eff.Shows P (Eff.hook k path old new e s)
      (match k with
       | .pre => hookStep true e.plan.preOk (.preHook old new) s
       | .post => hookStep true e.plan.postOk (.postHook old new) s) := by
  cases k <;> simp only [Eff.hook, hookStep, if_true] <;> split <;>
    first | exact ⟨rfl, fun x h => Except.error.inj h ▸ hP⟩ | exact ⟨rfl, fun _ h => by cases h⟩

/-- phases pair off: the continuation is only reached, on either side, when the first phase succeeded -/
theorem Eff.Shows.bind {α β : Type} {P : Stop → Prop} {m : Eff α} {f : α → Eff β} {e : EffEnv} {s : PState}
    {p : PState × Outcome} {k : PState → PState × Outcome}
    (hm : Eff.Shows P (m e s) p) (hf : ∀ a s', Eff.Shows P (f a e s') (k s')) :
    Eff.Shows P (Eff.bind m f e s) (planThen p k) := by
  simp only [Eff.bind]
  generalize m e s = r at hm
  obtain ⟨s', r⟩ := r
  obtain ⟨rfl, hx⟩ := hm
  cases r with
  | ok a => exact hf a s'
  | error x => exact ⟨rfl, fun y h => (Except.error.inj h) ▸ hx x rfl⟩

theorem Eff.Shows.tryCatch {α : Type} {P Q : Stop → Prop} {m : Eff α} {h : Stop → Eff α} {e : EffEnv} {s : PState}
    {p : PState × Outcome} (hm : Eff.Shows P (m e s) p)
    (hh : ∀ x s', P x → ∃ y, h x e s' = (s', .error y) ∧ Q y) :
    Eff.Shows Q (Eff.tryCatch m h e s) p := by
  simp only [Eff.tryCatch]
  generalize m e s = r at hm
  obtain ⟨s', r⟩ := r
  obtain ⟨rfl, hx⟩ := hm
  cases r with
  | ok a => exact ⟨rfl, fun _ h => nomatch h⟩
  | error x =>
    obtain ⟨y, hy, hq⟩ := hh x s' (hx x rfl)
    show Eff.Shows Q (h x e s') _
    rw [hy]
    exact ⟨rfl, fun z hz => (Except.error.inj hz) ▸ hq⟩

def exitOf (p : PState × Outcome) : List Ev × Nat := (p.1.evs.reverse, if p.2 == .ok then 0 else 1)

theorem exitOf_planThen (p : PState × Outcome) (k : PState → PState × Outcome) :
    exitOf (planThen p k) = if p.2 == .failed then (p.1.evs.reverse, 1) else exitOf (k p.1) := by
  rcases p with ⟨s, o⟩
  cases o <;> rfl

theorem Eff.Shows.exitOf {α : Type} {r : PState × Except Stop α} {p : PState × Outcome}
    (h : Eff.Shows Stop.exitsOne r p) : (r.1.evs.reverse, Eff.exitCode r.2) = BV.exitOf p := by
  obtain ⟨s, r⟩ := r
  obtain ⟨rfl, hx⟩ := h
  cases r with
  | ok a => rfl
  | error x => exact congrArg (Prod.mk s.evs.reverse) (hx x rfl α)

/-- Python truthiness of an `Optional[str]` -/
def truthyOS : Option Str → Bool
  | none => false
  | some s => !s.isEmpty

@[simp] theorem truthyOS_none : truthyOS none = false := rfl
@[simp] theorem truthyOS_some (s : Str) : truthyOS (some s) = !s.isEmpty := rfl

theorem Except.exists_of_map_ok {ε α β : Type} {r : Except ε α} {f : α → β} {b : β}
    (h : r.map f = .ok b) : ∃ a, r = .ok a ∧ f a = b := by
  cases r with
  | error x => simp [Except.map] at h
  | ok a => exact ⟨a, rfl, by simpa [Except.map] using h⟩

/-! ### the simplification set and the case-splitting loop -/

/-- unfold the combinators and primitive effects at a state, using every hypothesis as a rewrite rule -/
syntax "eff_simp" (" [" Lean.Parser.Tactic.simpLemma,* "]")? : tactic
macro_rules
  | `(tactic| eff_simp) => `(tactic| eff_simp [Eff.pure])
  | `(tactic| eff_simp [$ls,*]) => `(tactic|
      simp [Eff.ite_run, Eff.tryCatch, Eff.tryFinally, Eff.bind, Eff.pure, Eff.throw, Eff.exit, Eff.call, Eff.callEv,
        Eff.spCall, Eff.hook, Eff.dotDirExists, Eff.rewriteFiles, Eff.branchMatches, Eff.excStr, Eff.excErrno,
        Eff.ofOption, Eff.liftC, Eff.view, Eff.outcome, Except.map, Stop.isA, $ls,*, *])

/-- split on atomic conditions / discriminants until nothing is left -/
syntax "eff_auto" (" [" Lean.Parser.Tactic.simpLemma,* "]")? : tactic
macro_rules
  | `(tactic| eff_auto) => `(tactic| eff_auto [Eff.pure])
  | `(tactic| eff_auto [$ls,*]) => `(tactic|
      (repeat' (eff_step <;> try eff_simp [$ls,*])) <;> try (simp at *; done))

/-! ### loops -/

/-- a loop whose body behaves like one `add` of the model is `addAll` -/
theorem Eff.forIn_addAll (e : EffEnv) (f : Str → Eff (Option Unit))
    (h : ∀ p s, f p e s = Eff.liftC none (vcsCall e.plan (.add p) s)) (ps : List Str) (s : PState) :
    Eff.forIn ps f e s = Eff.liftC none (addAll e.plan ps s) := by
  induction ps generalizing s with
  | nil => rfl
  | cons p ps ih =>
    simp only [Eff.forIn, Eff.bind, h, addAll]
    rcases hv : vcsCall e.plan (.add p) s with ⟨s1, o⟩
    cases o <;> simp [Eff.liftC, ih]

/-- an accumulation loop that appends exactly one item per iteration is a `map` (the translator renders
    `acc = []; for x in xs: acc.append(f x)` as `[] ++ xs.flatMap (fun x => [f x])`, a comprehension as `xs.map f`) -/
@[simp] theorem List.flatMap_singleton_eq_map {α β : Type} (f : α → β) (xs : List α) :
    List.flatMap (fun x => [f x]) xs = List.map f xs := by
  induction xs with
  | nil => rfl
  | cons x xs ih => simp [List.flatMap_cons, ih]

/-- a loop whose body does not distinguish two environments does not distinguish them either -/
theorem Eff.forIn_env_congr {α ρ : Type} (f : α → Eff (Option ρ)) (e1 e2 : EffEnv)
    (h : ∀ x s, f x e1 s = f x e2 s) (xs : List α) (s : PState) :
    Eff.forIn xs f e1 s = Eff.forIn xs f e2 s := by
  induction xs generalizing s with
  | nil => rfl
  | cons x xs ih =>
    simp only [Eff.forIn, Eff.bind, h]
    rcases f x e2 s with ⟨s', r⟩
    cases r with
    | error x => rfl
    | ok v => cases v <;> simp [ih, Eff.pure]

end BV
