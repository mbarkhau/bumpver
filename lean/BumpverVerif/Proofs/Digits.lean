/-
  Proofs/Digits.lean — helper lemmas about decimal digit strings
  (`natToStr`, `strToNat`, `zfill`, `strLt`) and about `nextId` / `padBid`.
  Helper lemmas only; property theorems live in Props/.
-/
import BumpverVerif.Model.LexId
namespace BV

/-! ### single digit characters -/

theorem isDigit_iff (c : Char) : isDigit c = true ↔ 48 ≤ c.toNat ∧ c.toNat ≤ 57 := by
  simp only [isDigit, Bool.and_eq_true, decide_eq_true_eq, Char.le_def]
  exact Iff.rfl

theorem isLower_iff (c : Char) : isLower c = true ↔ 97 ≤ c.toNat ∧ c.toNat ≤ 122 := by
  simp only [isLower, Bool.and_eq_true, decide_eq_true_eq, Char.le_def]
  exact Iff.rfl

theorem isUpper_iff (c : Char) : isUpper c = true ↔ 65 ≤ c.toNat ∧ c.toNat ≤ 90 := by
  simp only [isUpper, Bool.and_eq_true, decide_eq_true_eq, Char.le_def]
  exact Iff.rfl

theorem char_lt_iff (a b : Char) : a < b ↔ a.toNat < b.toNat := by
  rw [Char.lt_def]; exact Iff.rfl

theorem digitChar_toNat (d : Nat) (h : d < 10) : (digitChar d).toNat = 48 + d := by
  have : ∀ d : Fin 10, (digitChar d.val).toNat = 48 + d.val := by decide
  exact this ⟨d, h⟩

theorem isDigit_digitChar (d : Nat) (h : d < 10) : isDigit (digitChar d) = true := by
  rw [isDigit_iff, digitChar_toNat d h]; omega

theorem digitVal_digitChar (d : Nat) (h : d < 10) : digitVal (digitChar d) = d := by
  simp only [digitVal, digitChar_toNat d h]; omega

theorem digitVal_lt (c : Char) (h : isDigit c = true) : digitVal c < 10 := by
  rw [isDigit_iff] at h; simp only [digitVal]; omega

theorem digitChar_digitVal (c : Char) (h : isDigit c = true) : digitChar (digitVal c) = c := by
  rw [isDigit_iff] at h
  apply Char.toNat_inj.mp
  rw [digitChar_toNat _ (by simp only [digitVal]; omega)]
  simp only [digitVal]; omega

theorem digit_lt_iff (a b : Char) (ha : isDigit a = true) (hb : isDigit b = true) :
    a < b ↔ digitVal a < digitVal b := by
  rw [isDigit_iff] at ha hb
  rw [char_lt_iff]; simp only [digitVal]; omega

theorem digitVal_inj (a b : Char) (ha : isDigit a = true) (hb : isDigit b = true)
    (h : digitVal a = digitVal b) : a = b := by
  rw [← digitChar_digitVal a ha, ← digitChar_digitVal b hb, h]

theorem char_eq_of_not_lt (a b : Char) (h1 : ¬ a < b) (h2 : ¬ b < a) : a = b := by
  rw [char_lt_iff] at h1 h2
  apply Char.toNat_inj.mp; omega


theorem digitChar_lt (d e : Nat) (he : e < 10) (h : d < e) : digitChar d < digitChar e := by
  rw [char_lt_iff, digitChar_toNat d (by omega), digitChar_toNat e he]; omega

/-! ### `natToStr` -/

theorem natToStrF_fuel (f : Nat) : ∀ (g n : Nat), n ≤ f → n ≤ g → natToStrF f n = natToStrF g n := by
  induction f with
  | zero =>
    intro g n hf hg
    have : n = 0 := by omega
    subst this
    cases g with
    | zero => rfl
    | succ g => simp [natToStrF]
  | succ f ih =>
    intro g n hf hg
    cases g with
    | zero =>
      have : n = 0 := by omega
      subst this
      simp [natToStrF]
    | succ g =>
      simp only [natToStrF]
      split
      · rfl
      · rw [ih g (n / 10) (by omega) (by omega)]

theorem natToStr_unfold (n : Nat) :
    natToStr n = if n < 10 then [digitChar n] else natToStr (n / 10) ++ [digitChar (n % 10)] := by
  cases n with
  | zero => simp [natToStr, natToStrF]
  | succ m =>
    simp only [natToStr, natToStrF]
    split
    · rfl
    · rw [natToStrF_fuel m ((m + 1) / 10) ((m + 1) / 10) (by omega) (Nat.le_refl _)]

theorem natToStr_lt10 (n : Nat) (h : n < 10) : natToStr n = [digitChar n] := by
  rw [natToStr_unfold, if_pos h]

theorem natToStr_ge10 (n : Nat) (h : 10 ≤ n) :
    natToStr n = natToStr (n / 10) ++ [digitChar (n % 10)] := by
  rw [natToStr_unfold, if_neg (by omega)]

theorem natToStr_ne_nil (n : Nat) : natToStr n ≠ [] := by
  rw [natToStr_unfold]; split <;> simp

theorem natToStr_length_pos (n : Nat) : 0 < (natToStr n).length := by
  have := natToStr_ne_nil n
  exact List.length_pos_iff.mpr this

theorem allDigits_natToStr (n : Nat) : allDigits (natToStr n) = true := by
  induction n using Nat.strongRecOn with
  | _ n ih =>
    rw [natToStr_unfold]
    split
    · next h => simp [allDigits, isDigit_digitChar n h]
    · next h =>
      have := ih (n / 10) (by omega)
      simp only [allDigits, List.all_append, List.all_cons, List.all_nil, Bool.and_true,
        Bool.and_eq_true] at this ⊢
      exact ⟨this, isDigit_digitChar _ (by omega)⟩

theorem isDigitStr_natToStr (n : Nat) : isDigitStr (natToStr n) = true := by
  simp only [isDigitStr, Bool.and_eq_true, Bool.not_eq_true', allDigits_natToStr, and_true]
  have := natToStr_ne_nil n
  simpa using this


/-! ### `strToNat` -/

theorem foldl_digits_acc (s : Str) : ∀ acc : Nat,
    s.foldl (fun acc c => acc * 10 + digitVal c) acc
      = acc * 10 ^ s.length + s.foldl (fun acc c => acc * 10 + digitVal c) 0 := by
  induction s with
  | nil => intro acc; simp
  | cons c cs ih =>
    intro acc
    simp only [List.foldl_cons, List.length_cons]
    rw [ih (acc * 10 + digitVal c), ih (0 * 10 + digitVal c), Nat.pow_succ]
    simp only [Nat.zero_mul, Nat.zero_add, Nat.add_mul, Nat.mul_assoc, Nat.add_assoc,
      Nat.mul_comm 10]

theorem strToNat_nil : strToNat [] = 0 := rfl

theorem strToNat_cons (c : Char) (s : Str) :
    strToNat (c :: s) = digitVal c * 10 ^ s.length + strToNat s := by
  simp only [strToNat, List.foldl_cons]
  rw [foldl_digits_acc]; simp

theorem strToNat_append (a b : Str) :
    strToNat (a ++ b) = strToNat a * 10 ^ b.length + strToNat b := by
  simp only [strToNat, List.foldl_append]
  rw [foldl_digits_acc]

theorem strToNat_snoc (a : Str) (c : Char) :
    strToNat (a ++ [c]) = strToNat a * 10 + digitVal c := by
  simp [strToNat, List.foldl_append]

theorem strToNat_replicate_zero (k : Nat) : strToNat (List.replicate k '0') = 0 := by
  induction k with
  | zero => rfl
  | succ k ih =>
    rw [List.replicate_succ, strToNat_cons, ih]
    have : digitVal '0' = 0 := by decide
    simp [this]

theorem strToNat_zfill (w : Nat) (s : Str) : strToNat (zfill w s) = strToNat s := by
  simp [zfill, strToNat_append, strToNat_replicate_zero]

theorem strToNat_natToStr (n : Nat) : strToNat (natToStr n) = n := by
  induction n using Nat.strongRecOn with
  | _ n ih =>
    rw [natToStr_unfold]
    split
    · next h =>
      rw [strToNat_cons, digitVal_digitChar n h]; simp [strToNat_nil]
    · next h =>
      rw [strToNat_snoc, ih (n / 10) (by omega), digitVal_digitChar _ (by omega)]
      omega

theorem natToStr_injective (a b : Nat) (h : natToStr a = natToStr b) : a = b := by
  rw [← strToNat_natToStr a, ← strToNat_natToStr b, h]

theorem allDigits_cons (c : Char) (s : Str) :
    allDigits (c :: s) = true ↔ isDigit c = true ∧ allDigits s = true := by
  simp [allDigits]

theorem allDigits_append (a b : Str) :
    allDigits (a ++ b) = true ↔ allDigits a = true ∧ allDigits b = true := by
  simp [allDigits]

theorem isDigitStr_iff (s : Str) : isDigitStr s = true ↔ s ≠ [] ∧ allDigits s = true := by
  simp [isDigitStr]

theorem strToNat_lt_pow (s : Str) (h : allDigits s = true) : strToNat s < 10 ^ s.length := by
  induction s with
  | nil => simp [strToNat_nil]
  | cons c cs ih =>
    rw [allDigits_cons] at h
    have h1 := digitVal_lt c h.1
    have h2 := ih h.2
    rw [strToNat_cons, List.length_cons, Nat.pow_succ]
    have : digitVal c * 10 ^ cs.length ≤ 9 * 10 ^ cs.length :=
      Nat.mul_le_mul_right _ (by omega)
    omega

/-! ### all-nines strings -/

theorem strToNat_all_nines (s : Str) (h : s.all (· == '9') = true) :
    strToNat s + 1 = 10 ^ s.length := by
  induction s with
  | nil => rfl
  | cons c cs ih =>
    simp only [List.all_cons, Bool.and_eq_true, beq_iff_eq] at h
    have h2 := ih h.2
    have h9 : digitVal '9' = 9 := by decide
    rw [strToNat_cons, h.1, h9, List.length_cons, Nat.pow_succ]
    omega

theorem strToNat_succ_lt_pow (s : Str) (hd : allDigits s = true)
    (h9 : s.all (· == '9') = false) : strToNat s + 1 < 10 ^ s.length := by
  induction s with
  | nil => simp at h9
  | cons c cs ih =>
    rw [allDigits_cons] at hd
    have hlt := strToNat_lt_pow cs hd.2
    rw [strToNat_cons, List.length_cons, Nat.pow_succ]
    by_cases hc : c = '9'
    · subst hc
      have h9' : cs.all (· == '9') = false := by simpa using h9
      have := ih hd.2 h9'
      have h9v : digitVal '9' = 9 := by decide
      rw [h9v]; omega
    · have hv : digitVal c ≤ 8 := by
        have := digitVal_lt c hd.1
        have h9v : digitVal '9' = 9 := by decide
        have : digitVal c ≠ 9 := fun h => hc (digitVal_inj c '9' hd.1 (by decide) (by rw [h, h9v]))
        omega
      have : digitVal c * 10 ^ cs.length ≤ 8 * 10 ^ cs.length := Nat.mul_le_mul_right _ hv
      omega

theorem all_nines_of_strToNat (s : Str) (hd : allDigits s = true)
    (h : strToNat s + 1 = 10 ^ s.length) : s.all (· == '9') = true := by
  cases h9 : s.all (· == '9') with
  | true => rfl
  | false => have := strToNat_succ_lt_pow s hd h9; omega

/-! ### length and leading digit of `natToStr` -/

theorem natToStr_length_le (k : Nat) : ∀ n : Nat, 1 ≤ k → n < 10 ^ k → (natToStr n).length ≤ k := by
  induction k with
  | zero => intro n hk; omega
  | succ k ih =>
    intro n _ hn
    by_cases h10 : n < 10
    · rw [natToStr_lt10 n h10]; simp
    · rw [natToStr_ge10 n (by omega)]
      have hk : 1 ≤ k := by
        cases k with
        | zero => simp at hn; omega
        | succ k => omega
      have : n / 10 < 10 ^ k := by
        rw [Nat.pow_succ] at hn
        exact Nat.div_lt_of_lt_mul (by omega)
      have := ih (n / 10) hk this
      simp only [List.length_append, List.length_cons, List.length_nil]
      omega

theorem natToStr_length_gt (k n : Nat) (h : 10 ^ k ≤ n) : k < (natToStr n).length := by
  have h1 := strToNat_lt_pow (natToStr n) (allDigits_natToStr n)
  rw [strToNat_natToStr] at h1
  have : 10 ^ k < 10 ^ (natToStr n).length := Nat.lt_of_le_of_lt h h1
  exact (Nat.pow_lt_pow_iff_right (by omega)).mp this

theorem natToStr_length_eq (k n : Nat) (hlo : 10 ^ k ≤ n) (hhi : n < 10 ^ (k + 1)) :
    (natToStr n).length = k + 1 := by
  have := natToStr_length_gt k n hlo
  have := natToStr_length_le (k + 1) n (by omega) hhi
  omega

/-- the leading digit of a digit string is determined by the value -/
theorem digitVal_head_eq (c : Char) (t : Str) (e : Nat) (hd : allDigits t = true)
    (hlo : e * 10 ^ t.length ≤ strToNat (c :: t))
    (hhi : strToNat (c :: t) < (e + 1) * 10 ^ t.length) : digitVal c = e := by
  have hlt := strToNat_lt_pow t hd
  rw [strToNat_cons] at hlo hhi
  rw [Nat.add_mul, Nat.one_mul] at hhi
  rcases Nat.lt_trichotomy (digitVal c) e with hlt' | heq | hgt
  · have : (digitVal c + 1) * 10 ^ t.length ≤ e * 10 ^ t.length := Nat.mul_le_mul_right _ hlt'
    rw [Nat.add_mul, Nat.one_mul] at this
    omega
  · exact heq
  · have : (e + 1) * 10 ^ t.length ≤ digitVal c * 10 ^ t.length := Nat.mul_le_mul_right _ hgt
    rw [Nat.add_mul, Nat.one_mul] at this
    omega

theorem head_eq_digitChar (c : Char) (t : Str) (e : Nat) (hc : isDigit c = true)
    (hd : allDigits t = true)
    (hlo : e * 10 ^ t.length ≤ strToNat (c :: t))
    (hhi : strToNat (c :: t) < (e + 1) * 10 ^ t.length) : c = digitChar e := by
  rw [← digitVal_head_eq c t e hd hlo hhi, digitChar_digitVal c hc]

/-- `str(n)` has no leading zero for `n > 0` -/
theorem natToStr_head_ne_zero (n : Nat) (hn : 0 < n) (c : Char) (t : Str)
    (h : natToStr n = c :: t) : c ≠ '0' := by
  intro hc
  subst hc
  have hd := allDigits_natToStr n
  rw [h, allDigits_cons] at hd
  have hv := strToNat_natToStr n
  rw [h, strToNat_cons] at hv
  have h0 : digitVal '0' = 0 := by decide
  rw [h0, Nat.zero_mul, Nat.zero_add] at hv
  have hlt := strToNat_lt_pow t hd.2
  rw [hv] at hlt
  cases ht : t.length with
  | zero => rw [ht] at hlt; simp at hlt; omega
  | succ k =>
    have := natToStr_length_le t.length n (by omega) hlt
    rw [h, List.length_cons] at this
    omega

/-! ### `strLt` -/

theorem strLt_cons_cons (a b : Char) (as bs : Str) :
    strLt (a :: as) (b :: bs) = if a < b then true else if b < a then false else strLt as bs := rfl

theorem strLt_of_head_lt (a b : Char) (as bs : Str) (h : a < b) :
    strLt (a :: as) (b :: bs) = true := by
  rw [strLt_cons_cons, if_pos h]

theorem strLt_cons_self (a : Char) (as bs : Str) :
    strLt (a :: as) (a :: bs) = strLt as bs := by
  rw [strLt_cons_cons, if_neg (Char.lt_irrefl a), if_neg (Char.lt_irrefl a)]

theorem strLt_irrefl (a : Str) : strLt a a = false := by
  induction a with
  | nil => rfl
  | cons c cs ih => rw [strLt_cons_self, ih]

theorem strLt_trans : ∀ (a b c : Str), strLt a b = true → strLt b c = true → strLt a c = true := by
  intro a
  induction a with
  | nil =>
    intro b c hab hbc
    cases b with
    | nil => simp [strLt] at hab
    | cons y ys =>
      cases c with
      | nil => simp [strLt] at hbc
      | cons z zs => rfl
  | cons x xs ih =>
    intro b c hab hbc
    cases b with
    | nil => simp [strLt] at hab
    | cons y ys =>
      cases c with
      | nil => simp [strLt] at hbc
      | cons z zs =>
        rw [strLt_cons_cons] at hab hbc
        by_cases hxy : x < y
        · by_cases hyz : y < z
          · exact strLt_of_head_lt _ _ _ _ (Char.lt_trans hxy hyz)
          · rw [if_neg hyz] at hbc
            by_cases hzy : z < y
            · rw [if_pos hzy] at hbc; cases hbc
            · have : y = z := char_eq_of_not_lt y z hyz hzy
              subst this
              exact strLt_of_head_lt _ _ _ _ hxy
        · rw [if_neg hxy] at hab
          by_cases hyx : y < x
          · rw [if_pos hyx] at hab; cases hab
          · rw [if_neg hyx] at hab
            have : x = y := char_eq_of_not_lt x y hxy hyx
            subst this
            by_cases hxz : x < z
            · exact strLt_of_head_lt _ _ _ _ hxz
            · rw [if_neg hxz] at hbc
              by_cases hzx : z < x
              · rw [if_pos hzx] at hbc; cases hbc
              · rw [if_neg hzx] at hbc
                have : x = z := char_eq_of_not_lt x z hxz hzx
                subst this
                rw [strLt_cons_self]
                exact ih ys zs hab hbc

/-- for digit strings of equal length the string order is the numeric order -/
theorem strLt_iff_of_length_eq : ∀ (a b : Str), allDigits a = true → allDigits b = true →
    a.length = b.length → (strLt a b = true ↔ strToNat a < strToNat b) := by
  intro a
  induction a with
  | nil =>
    intro b _ _ hl
    cases b with
    | nil => simp [strLt, strToNat_nil]
    | cons y ys => simp at hl
  | cons x xs ih =>
    intro b ha hb hl
    cases b with
    | nil => simp at hl
    | cons y ys =>
      rw [allDigits_cons] at ha hb
      simp only [List.length_cons, Nat.add_right_cancel_iff] at hl
      have hxs := strToNat_lt_pow xs ha.2
      have hys := strToNat_lt_pow ys hb.2
      rw [strToNat_cons, strToNat_cons, strLt_cons_cons, hl]
      rw [hl] at hxs
      by_cases hxy : x < y
      · rw [if_pos hxy]
        have hv := (digit_lt_iff x y ha.1 hb.1).mp hxy
        have : (digitVal x + 1) * 10 ^ ys.length ≤ digitVal y * 10 ^ ys.length :=
          Nat.mul_le_mul_right _ hv
        rw [Nat.add_mul, Nat.one_mul] at this
        simp only [true_iff]; omega
      · rw [if_neg hxy]
        by_cases hyx : y < x
        · rw [if_pos hyx]
          have hv := (digit_lt_iff y x hb.1 ha.1).mp hyx
          have : (digitVal y + 1) * 10 ^ ys.length ≤ digitVal x * 10 ^ ys.length :=
            Nat.mul_le_mul_right _ hv
          rw [Nat.add_mul, Nat.one_mul] at this
          simp only [Bool.false_eq_true, false_iff]; omega
        · rw [if_neg hyx]
          have : x = y := char_eq_of_not_lt x y hxy hyx
          subst this
          rw [ih ys ha.2 hb.2 hl]
          omega

/-! ### `zfill` -/

theorem allDigits_replicate_zero (k : Nat) : allDigits (List.replicate k '0') = true := by
  induction k with
  | zero => rfl
  | succ k ih => rw [List.replicate_succ, allDigits_cons]; exact ⟨by decide, ih⟩

theorem allDigits_zfill (w : Nat) (s : Str) (h : allDigits s = true) :
    allDigits (zfill w s) = true := by
  rw [zfill, allDigits_append]; exact ⟨allDigits_replicate_zero _, h⟩

theorem zfill_length (w : Nat) (s : Str) (h : s.length ≤ w) : (zfill w s).length = w := by
  simp only [zfill, List.length_append, List.length_replicate]; omega

/-! ### `nextId`, `padBid` -/

theorem nextId_none_iff (p : Str) : nextId p = none ↔ p.all (· == '9') = true := by
  unfold nextId
  split
  · next h => simp [h]
  · next h =>
    simp only [h]
    split <;> simp

/-- a digit string whose successor has the same width but another leading digit is `d99…9` -/
theorem head_change (c e : Char) (t u : Str) (hc : isDigit c = true) (he : isDigit e = true)
    (ht : allDigits t = true) (hu : allDigits u = true) (hl : u.length = t.length)
    (hne : c ≠ e) (hv : strToNat (e :: u) = strToNat (c :: t) + 1) :
    digitVal e = digitVal c + 1 ∧ strToNat (e :: u) = (digitVal c + 1) * 10 ^ t.length := by
  have htl := strToNat_lt_pow t ht
  have hul := strToNat_lt_pow u hu
  have hvne : digitVal c ≠ digitVal e := fun h => hne (digitVal_inj c e hc he h)
  rw [strToNat_cons, strToNat_cons, hl] at hv
  rw [hl] at hul
  rw [strToNat_cons, hl]
  rcases Nat.lt_or_gt_of_ne hvne with hlt | hgt
  · have h1 : (digitVal c + 1) * 10 ^ t.length ≤ digitVal e * 10 ^ t.length :=
      Nat.mul_le_mul_right _ hlt
    rw [Nat.add_mul, Nat.one_mul] at h1
    have h2 : digitVal e * 10 ^ t.length = (digitVal c + 1) * 10 ^ t.length := by
      rw [Nat.add_mul, Nat.one_mul]; omega
    have hP : 0 < 10 ^ t.length := Nat.pow_pos (by omega)
    refine ⟨Nat.eq_of_mul_eq_mul_right hP h2, ?_⟩
    rw [Nat.add_mul, Nat.one_mul]; omega
  · have h1 : (digitVal e + 1) * 10 ^ t.length ≤ digitVal c * 10 ^ t.length :=
      Nat.mul_le_mul_right _ hgt
    rw [Nat.add_mul, Nat.one_mul] at h1
    omega

/-- complete description of a successful `next_id` on a digit string -/
theorem nextId_spec (p b' : Str) (hp : isDigitStr p = true) (h : nextId p = some b') :
    isDigitStr b' = true ∧
    ((p.head? = b'.head? ∧ b'.length = p.length ∧ strToNat b' = strToNat p + 1) ∨
     (∃ d, d < 9 ∧ p.head? = some (digitChar d) ∧ b'.head? = some (digitChar (d + 1)) ∧
        b'.length = p.length + 1 ∧ strToNat b' = (strToNat p + 1) * 11)) := by
  rw [isDigitStr_iff] at hp
  obtain ⟨hpne, hpd⟩ := hp
  have hplen : 1 ≤ p.length := List.length_pos_iff.mpr hpne
  unfold nextId at h
  split at h
  · cases h
  · next h9 =>
    have h9' : p.all (· == '9') = false := by simpa using h9
    have hvlt := strToNat_succ_lt_pow p hpd h9'
    have hslen : (zfill p.length (natToStr (strToNat p + 1))).length = p.length :=
      zfill_length _ _ (natToStr_length_le _ _ hplen hvlt)
    have hsd : allDigits (zfill p.length (natToStr (strToNat p + 1))) = true :=
      allDigits_zfill _ _ (allDigits_natToStr _)
    have hsv : strToNat (zfill p.length (natToStr (strToNat p + 1))) = strToNat p + 1 := by
      rw [strToNat_zfill, strToNat_natToStr]
    simp only at h
    split at h
    · next hh =>
      have hh' := eq_of_beq hh
      injection h with h
      subst h
      refine ⟨?_, Or.inl ⟨hh', hslen, hsv⟩⟩
      rw [isDigitStr_iff]
      refine ⟨?_, hsd⟩
      intro hnil
      rw [hnil] at hslen
      simp at hslen; omega
    · next hh =>
      injection h with h
      subst h
      refine ⟨isDigitStr_natToStr _, Or.inr ?_⟩
      generalize hs : zfill p.length (natToStr (strToNat p + 1)) = s at *
      cases p with
      | nil => exact absurd rfl hpne
      | cons c t =>
        cases s with
        | nil => simp at hslen
        | cons e u =>
          rw [allDigits_cons] at hpd hsd
          simp only [List.length_cons, Nat.add_right_cancel_iff] at hslen
          have hne : c ≠ e := by
            intro hce; apply hh; simp [hce]
          obtain ⟨hde, hval⟩ := head_change c e t u hpd.1 hsd.1 hpd.2 hsd.2 hslen hne hsv
          have hdlt := digitVal_lt e hsd.1
          have hP : 0 < 10 ^ t.length := Nat.pow_pos (by omega)
          have hdP : digitVal c * 10 ^ t.length ≤ 8 * 10 ^ t.length :=
            Nat.mul_le_mul_right _ (by omega)
          rw [hsv] at hval
          rw [Nat.add_mul, Nat.one_mul] at hval
          have hlen : (natToStr ((strToNat (c :: t) + 1) * 11)).length = t.length + 1 + 1 := by
            apply natToStr_length_eq
            · rw [Nat.pow_succ]; omega
            · rw [Nat.pow_succ, Nat.pow_succ]; omega
          refine ⟨digitVal c, by omega, ?_, ?_, ?_, strToNat_natToStr _⟩
          · simp [digitChar_digitVal c hpd.1]
          · have hbd := allDigits_natToStr ((strToNat (c :: t) + 1) * 11)
            have hbv := strToNat_natToStr ((strToNat (c :: t) + 1) * 11)
            generalize natToStr ((strToNat (c :: t) + 1) * 11) = r at *
            cases r with
            | nil => simp at hlen
            | cons x xs =>
              rw [allDigits_cons] at hbd
              simp only [List.length_cons, Nat.add_right_cancel_iff] at hlen
              have hmul : (digitVal c + 1) * 10 ^ xs.length
                  = 10 * (digitVal c * 10 ^ t.length) + 10 * 10 ^ t.length := by
                rw [hlen, Nat.pow_succ, Nat.add_mul, Nat.one_mul]; 
                rw [← Nat.mul_assoc, Nat.mul_comm (digitVal c * 10 ^ t.length) 10]; omega
              have hx := head_eq_digitChar x xs (digitVal c + 1) hbd.1 hbd.2
                (by rw [hbv, hmul]; omega)
                (by rw [hbv, Nat.add_mul (digitVal c + 1) 1, Nat.one_mul, hmul, hlen, Nat.pow_succ]; omega)
              simp [hx]
          · rw [hlen]; simp

theorem padBid_of_ge (b : Str) (h : 1000 ≤ strToNat b) : padBid b = b := by
  rw [padBid, if_neg (by omega)]

theorem padBid_of_lt (b : Str) (h : strToNat b < 1000) :
    padBid b = natToStr (strToNat b + 1000) := by
  rw [padBid, if_pos h]

theorem isDigitStr_padBid (b : Str) (hb : isDigitStr b = true) : isDigitStr (padBid b) = true := by
  unfold padBid; split
  · exact isDigitStr_natToStr _
  · exact hb

theorem strToNat_padBid_ge (b : Str) :
    strToNat b ≤ strToNat (padBid b) ∧ 1000 ≤ strToNat (padBid b) := by
  unfold padBid; split
  · rw [strToNat_natToStr]; omega
  · omega

/-- below 1000 the padded id is a four-character string starting with `'1'` -/
theorem padBid_lt_shape (b : Str) (h : strToNat b < 1000) :
    ∃ t, padBid b = '1' :: t ∧ t.length = 3 := by
  rw [padBid_of_lt b h]
  have hlen := natToStr_length_eq 3 (strToNat b + 1000) (by omega) (by omega)
  have hd := allDigits_natToStr (strToNat b + 1000)
  have hv := strToNat_natToStr (strToNat b + 1000)
  generalize natToStr (strToNat b + 1000) = r at *
  cases r with
  | nil => simp at hlen
  | cons x xs =>
    rw [allDigits_cons] at hd
    simp only [List.length_cons, Nat.add_right_cancel_iff] at hlen
    have hx := head_eq_digitChar x xs 1 hd.1 hd.2 (by rw [hv, hlen]; omega) (by rw [hv, hlen]; omega)
    exact ⟨xs, by rw [hx]; rfl, hlen⟩

/-- a digit string of at least four characters whose value is below 1000 starts with `'0'` -/
theorem head_zero_of_lt_1000 (c : Char) (t : Str) (hc : isDigit c = true) (hl : 3 ≤ t.length)
    (h : strToNat (c :: t) < 1000) : c = '0' := by
  have hp : 10 ^ 3 ≤ 10 ^ t.length := Nat.pow_le_pow_right (by omega) hl
  rw [strToNat_cons] at h
  have h0 : digitVal c = 0 := by
    rcases Nat.eq_zero_or_pos (digitVal c) with h0 | hpos
    · exact h0
    · have : 1 * 10 ^ t.length ≤ digitVal c * 10 ^ t.length := Nat.mul_le_mul_right _ hpos
      omega
  exact digitVal_inj c '0' hc (by decide) (by rw [h0]; decide)

end BV
