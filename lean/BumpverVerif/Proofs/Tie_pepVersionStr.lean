/-
  Proofs/Tie_pepVersionStr.lean — the definitions GENERATED from the Python source of `Version.__str__`, of the
  properties it reads (`epoch`, `release`, `pre`, `post`, `dev`, `local`) and of `base_version`
  (Gen/F_pepVersion*.lean) against the hand model's canonical printer `pepStr` (Model/Pep440.lean).

  * `tie_pepVersionEpoch|Release|Pre|Post|Dev` : each property = the field of the model version `o._version.abs`;
  * `tie_pepVersionLocal` : `local` = the dotted text of the local parts, `None` for an absent OR EMPTY tuple;
  * `tie_pepVersionStr`   : `str(o) = pepStr o._version.abs` for every object whose local tuple is not the empty tuple
       (hypothesis `hl`; witness of the difference: an object with `_version.local == ()` prints no `+…` in Python
       (`self._version.local` is falsy) while the model's `locStr (some [])` prints `+`.  `Version.__init__` never
       builds such an object: `re.split` returns at least one part — `objOfGroups_loc_ne_nil` discharges `hl` for every
       object the translated `__init__` returns);
  * `tie_pepVersionBaseVersion` : `base_version` = epoch and release part of the canonical form.
-/
import BumpverVerif.Gen.F_pepVersionStr
import BumpverVerif.Gen.F_pepVersionBaseVersion
import BumpverVerif.Proofs.Tie_pepVersionInit
set_option linter.unusedSimpArgs false
namespace BV
namespace TieQ

theorem join_nil_snoc (xs : List Str) (p : Str) : join [] (xs ++ [p]) = join [] xs ++ p := by
  induction xs with
  | nil => simp [join]
  | cons a as ih =>
    cases as with
    | nil => simp [join]
    | cons b bs =>
      have : (a :: b :: bs) ++ [p] = a :: b :: (bs ++ [p]) := rfl
      rw [this, join, join]
      have h2 : b :: (bs ++ [p]) = (b :: bs) ++ [p] := rfl
      rw [h2, ih]
      simp [List.append_assoc]

theorem join_nil_nil : join ([] : Str) ([] : List Str) = [] := rfl

/-- `Version.__init__` never builds an empty local tuple -/
theorem objOfGroups_loc_ne_nil (g : PepGroups) : (objOfGroups g)._version.loc ≠ some [] := by
  simp only [objOfGroups, rawOfGroups]
  cases g.loc with
  | none => simp
  | some s =>
    simp only [Option.map_some, localOf, ne_eq, Option.some.injEq, List.map_eq_nil_iff]
    exact BV.splitSeps_ne_nil s []

end TieQ

theorem tie_pepVersionEpoch (o : PepObj) : GenQ.pepVersionEpoch o = o._version.abs.epoch := rfl
theorem tie_pepVersionRelease (o : PepObj) : GenQ.pepVersionRelease o = o._version.abs.release := rfl
theorem tie_pepVersionPre (o : PepObj) : GenQ.pepVersionPre o = o._version.abs.pre := rfl

theorem tie_pepVersionPost (o : PepObj) : GenQ.pepVersionPost o = o._version.abs.post := by
  simp only [GenQ.pepVersionPost, PepRaw.abs]
  cases o._version.post <;> simp

theorem tie_pepVersionDev (o : PepObj) : GenQ.pepVersionDev o = o._version.abs.dev := by
  simp only [GenQ.pepVersionDev, PepRaw.abs]
  cases o._version.dev <;> simp

/-- the property `local`: the dotted text; `None` when the tuple is absent or empty -/
theorem tie_pepVersionLocal (o : PepObj) :
    GenQ.pepVersionLocal o =
      match o._version.abs.loc with
      | none => none
      | some [] => none
      | some (a :: l) => some (join ['.'] ((a :: l).map localSegStr)) := by
  simp only [GenQ.pepVersionLocal, PepRaw.abs]
  rcases o._version.loc with _ | ⟨_ | ⟨a, l⟩⟩
  · rfl
  · rfl
  · simp only [List.isEmpty_cons, Bool.not_false, if_true]
    exact congrArg some (congrArg (join _) (List.map_congr_left (fun x _ => by cases x <;> rfl)))

theorem tie_pepVersionStr (o : PepObj) (hl : o._version.loc ≠ some []) :
    GenQ.pepVersionStr o = pepStr o._version.abs := by
  simp only [GenQ.pepVersionStr, tie_pepVersionEpoch, tie_pepVersionRelease, tie_pepVersionPre, tie_pepVersionPost,
    tie_pepVersionDev, tie_pepVersionLocal]
  obtain ⟨⟨e, rel, dev, pre, post, loc⟩, key⟩ := o
  simp only [PepRaw.abs, pepStr, epochStr, ne_eq] at hl ⊢
  have hmap : List.map (fun x => natToStr x) rel = List.map natToStr rel := rfl
  rcases loc with _ | ⟨_ | ⟨a, l⟩⟩
  · by_cases he : e = 0 <;> rcases pre with _ | ⟨pl, pn⟩ <;> cases post <;> cases dev <;>
      simp [TieQ.join_nil_snoc, TieQ.join_nil_nil, join, preStr, postStr, devStr, locStr, he, hmap]
  · exact absurd rfl hl
  · by_cases he : e = 0 <;> rcases pre with _ | ⟨pl, pn⟩ <;> cases post <;> cases dev <;>
      simp [TieQ.join_nil_snoc, TieQ.join_nil_nil, join, preStr, postStr, devStr, locStr, he, hmap]

theorem tie_pepVersionBaseVersion (o : PepObj) :
    GenQ.pepVersionBaseVersion o = epochStr o._version.abs.epoch ++ join ['.'] (o._version.abs.release.map natToStr) := by
  simp only [GenQ.pepVersionBaseVersion, tie_pepVersionEpoch, tie_pepVersionRelease, epochStr]
  by_cases he : o._version.abs.epoch = 0 <;>
    simp [TieQ.join_nil_snoc, TieQ.join_nil_nil, join, he]

end BV
