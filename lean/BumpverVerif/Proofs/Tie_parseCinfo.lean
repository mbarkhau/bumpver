/-
  Proofs/Tie_parseCinfo.lean — the definition GENERATED from the Python source of
  `v2version.parse_field_values_to_cinfo` (harness/translate_parse.py → Gen/F_parseCinfo.lean) against the hand
  model `BV.parseCinfo` (Model/V2Version.lean).

  * Python's `field_values : Dict[str, str]` is a `PyDict Str`; the model's `FVals` has `Option Str` values
    (a `None` entry reads like a missing key): abstraction `absFV`.
  * `version.TODAY` is the parameter `today` on both sides.

  `tie_parseCinfo`: for ALL dicts and every `today` whose month is not 0

      GenF.parseCinfo fv today = if yearOutOfRange fv then .error .valueError else parseCinfo (absFV fv) today

  and `parseCinfo_yearOutOfRange_model`: in that exceptional case the model answers `.error .overflow`.
  The exception: a year_y > 9999 together with a (truthy) day of the year.  Python evaluates
  `dt.date(year_y, 1, 1)` → ValueError; the model's `dateFromDoy` has no such date and reports OverflowError.
  Witness: `parse_field_values_to_cinfo({'year_y': "10000", 'doy': "1"})` raises ValueError("year 10000 is out of
  range"), the model gives `.error .overflow`.  The version regexes only admit four-digit years, and
  `parse_version_info` maps both classes to PatternError, so no caller of the model can tell the difference
  (`tie_parseCinfo_collapse`: equal after identifying the two error classes, no hypothesis on the year).

  The hypothesis `today.2.1 ≠ 0` (the month of `version.TODAY` is not 0 — true of every `datetime.date`): when the
  calendar parts default to TODAY, Python computes the quarter only `if month:` (truthiness), the model always.
  Witness: today = (2024, 0, 1), fv = {} → Python quarter None, model quarter 1.
-/
import BumpverVerif.Gen.F_parseCinfo
import BumpverVerif.Proofs.Tie_dateFromDoy
namespace BV

/-! ### calendar facts: the month of a computed date is never 0 -/

theorem ite_fst_ne_zero {c : Prop} [Decidable c] {a b : Nat × Nat} (ha : a.1 ≠ 0) (hb : b.1 ≠ 0) :
    (if c then a else b).1 ≠ 0 := by
  split <;> assumption

theorem monthDayOfYday_month_ne_zero (l : Bool) (j : Nat) : (monthDayOfYday l j).1 ≠ 0 := by
  unfold monthDayOfYday
  repeat' (first | apply ite_fst_ne_zero | (intro h; simp at h))

theorem fromOrdinal_month_ne_zero (n : Nat) : (fromOrdinal n).2.1 ≠ 0 := by
  unfold fromOrdinal
  simp only []
  split
  · intro h; simp at h
  · exact monthDayOfYday_month_ne_zero _ _

theorem dateFromDoy_month_ne_zero {y d : Nat} {dt : Nat × Nat × Nat} (h : dateFromDoy y d = some dt) :
    dt.2.1 ≠ 0 := by
  unfold dateFromDoy at h
  simp only [] at h
  split at h
  · cases h; exact fromOrdinal_month_ne_zero _
  · cases h

theorem validDate_month_ne_zero {y m d : Nat} (h : validDate y m d = true) : m ≠ 0 := by
  simp only [validDate, Bool.and_eq_true, decide_eq_true_eq] at h
  omega

/-- `int(fvals[key]) if key in fvals else None` -/
def fvInt (fv : PyDict Str) (key : String) : Option Nat := (lookup key.toList fv).map strToNat

theorem optElim_pyGet (fv : PyDict Str) (k : String) :
    Option.elim (pyGet fv k.toList) none (fun v => some (strToNat v)) = fvInt fv k :=
  optElim_map _ _

theorem intField_absFV (fv : PyDict Str) (k : String) : intField (absFV fv) k = .ok (fvInt fv k) := by
  simp only [intField, lookup_absFV, fvInt]
  cases lookup k.toList fv <;> rfl

/-- `if x < 1000: x += 2000` under `if x is not None`, as emitted -/
theorem optElim_lift (o : Option Nat) :
    Option.elim o o (fun y => if decide (y < 1000) = true then some (y + 2000) else some y)
      = o.map (fun y => if y < 1000 then y + 2000 else y) := by
  cases o with
  | none => rfl
  | some y => simp only [Option.elim_some, Option.map_some, decide_eq_true_eq, apply_ite some]

/-! ### the tie -/

/-- `year_y` as `parse_field_values_to_cinfo` uses it: two- and three-digit years are lifted by 2000 -/
def fvYear (fv : PyDict Str) : Option Nat :=
  (fvInt fv "year_y").map (fun y => if y < 1000 then y + 2000 else y)

/-- the inputs on which Python and the model differ (in the class of the error only): a day of the year is given
    and the year is beyond `datetime.MAXYEAR` -/
def yearOutOfRange (fv : PyDict Str) : Bool :=
  pyTr (fvInt fv "doy") && decide (9999 < (fvYear fv).getD 0)

/-- THE TIE, on all inputs: the generated function is the model function, except that a year beyond 9999 next to a
    day of the year is Python's ValueError (from `dt.date(year_y, 1, 1)`).

    Both functions run in three steps, each handing its result to the rest: the date from year and day of the
    year (with it month and day), the date from year, month and day, and the fields of the result.  The proof keeps
    the rest of either side as a variable (`Kg` for the generated function, the model's join points `K`, `jp`) and
    shows step by step that the two continuations agree on what the step can produce.  The month of every date
    that reaches the last step is not 0 (there Python asks `if month:`, the model does not). -/
theorem tie_parseCinfo (fv : PyDict Str) (today : PDate) (hT : today.2.1 ≠ 0) :
    GenF.parseCinfo fv today =
      if yearOutOfRange fv then .error .valueError else parseCinfo (absFV fv) today := by
  unfold parseCinfo yearOutOfRange
  simp -zeta only [intField_absFV, bind, pure, Except.pure, throw, throwThe, MonadExceptOf.throw, exBind_ok,
    exBind_error, truthy_pyTr, Bool.and_assoc]
  extract_lets Y G K
  unfold GenF.parseCinfo
  simp only [optElim_pyGet, optElim_lift, optElim_truthy, bne_pyTr, ite_pyTr_and]
  have hY : Option.map _ (fvInt fv "year_y") = Y := rfl
  have hG : Option.map _ (fvInt fv "year_g") = G := rfl
  have hY' : fvYear fv = Y := rfl
  rw [hY, hG, hY']
  generalize hKg : (fun j : Option PDate × Option Nat × Option Nat => Except.bind _ _) = Kg
  have hK : ∀ (fd : Option PDate) (month dom : Option Nat),
      month = (match fd with | some d => some d.2.1 | none => fvInt fv "month") →
      dom = (match fd with | some d => some d.2.2 | none => fvInt fv "dom") →
      (∀ d, fd = some d → d.2.1 ≠ 0) → Kg (fd, month, dom) = K fd := by
    intro fd month' dom' hm hd hfd
    subst hKg
    simp -zeta only [K]
    extract_lets month dom q jp
    have em : month = month' := hm.symm
    have ed : dom = dom' := hd.symm
    clear_value month dom
    subst em ed
    generalize hKg : (fun j : Option PDate => Except.ok _) = Kg
    have hK : ∀ d1 : Option PDate, (∀ d, d1 = some d → d.2.1 ≠ 0) → Kg d1 = jp d1 := by
      intro d1 hd1
      subst hKg
      simp -zeta only [jp]
      extract_lets date
      -- "use of defaults is an all or nothing affair": the same date on both sides
      generalize hg : (if (_ || pyTr (fvInt fv "week_v")) = true then d1 else some today) = dg
      have e : dg = date := by
        rw [← hg]; apply ite_swap_not
        cases d1 <;> simp only [Bool.not_and, Bool.not_not, Bool.or_assoc] <;> rfl
      have hdate : ∀ d, date = some d → d.2.1 ≠ 0 := by
        intro d; simp only [date]; split
        · intro h; cases h; exact hT
        · exact hd1 d
      clear_value date
      subst e
      rcases dg with _ | ⟨y, m, d⟩
      · by_cases hmo : pyTr month = true <;> simp only [q, hmo, Option.elim_none, if_true] <;>
          cases fvInt fv "quarter" <;> rfl
      · have hm0 : pyTr (some m) = true := by
          rw [pyTr_some]; exact bne_iff_ne.mpr (hdate _ rfl)
        rcases hq : fvInt fv "quarter" with _ | q0 <;>
          simp only [calInfo, hm0, Option.elim_none, Option.elim_some, if_true, Option.getD_some]
    by_cases h2 : (pyTr Y && (pyTr month && pyTr dom)) = true
    · rw [if_pos h2, if_pos h2, pyDate]
      by_cases hv : validDate (Y.getD 0) (month.getD 0) (dom.getD 0) = true
      · rw [if_pos hv, if_pos hv]
        exact hK _ (fun d hd => by cases hd; exact validDate_month_ne_zero hv)
      · rw [if_neg hv, if_neg hv]; rfl
    · rw [if_neg h2, if_neg h2]
      exact hK fd hfd
  by_cases h1 : (pyTr Y && pyTr (fvInt fv "doy")) = true
  · have ⟨hy, hd⟩ := Bool.and_eq_true_iff.mp h1
    have hy0 := (pyTr_iff Y).mp hy
    rw [if_pos h1, if_pos h1, tie_dateFromDoy, dateFromDoyPy, hd, Bool.true_and]
    by_cases hr : Y.getD 0 ≤ 9999
    · rw [if_pos ⟨by omega, hr⟩, if_neg (by simpa using hr)]
      rcases hdd : dateFromDoy (Y.getD 0) ((fvInt fv "doy").getD 0) with _ | dt
      · rfl
      · exact hK (some dt) _ _ rfl rfl (fun d h => by cases h; exact dateFromDoy_month_ne_zero hdd)
    · rw [if_neg (by omega), if_pos (by simpa using hr)]; rfl
  · rw [if_neg h1, if_neg h1, if_neg]
    · exact hK none _ _ rfl rfl (fun d h => by cases h)
    · intro h
      have ⟨hd, hy⟩ := Bool.and_eq_true_iff.mp h
      exact h1 (Bool.and_eq_true_iff.mpr ⟨(pyTr_iff Y).mpr (by have := of_decide_eq_true hy; omega), hd⟩)

theorem parseCinfo_overflow (fv : PyDict Str) (today : PDate) (h : yearOutOfRange fv = true) :
    parseCinfo (absFV fv) today = .error .overflow := by
  unfold parseCinfo
  simp -zeta only [intField_absFV, bind, pure, Except.pure, throw, throwThe, MonadExceptOf.throw, exBind_ok,
    exBind_error, truthy_pyTr]
  extract_lets Y G K
  have ⟨hd, hy⟩ := Bool.and_eq_true_iff.mp h
  have hy : 9999 < Y.getD 0 := of_decide_eq_true hy
  have hd0 := (pyTr_iff _).mp hd
  rw [if_pos (Bool.and_eq_true_iff.mpr ⟨(pyTr_iff Y).mpr (by omega), hd⟩),
    dateFromDoy_big_year _ _ (by omega) (by omega)]

theorem tie_parseCinfo_cases (fv : PyDict Str) (today : PDate) (hT : today.2.1 ≠ 0) :
    (yearOutOfRange fv = false ∧ GenF.parseCinfo fv today = parseCinfo (absFV fv) today) ∨
    (yearOutOfRange fv = true ∧ GenF.parseCinfo fv today = .error .valueError ∧
      parseCinfo (absFV fv) today = .error .overflow) := by
  have e := tie_parseCinfo fv today hT
  cases h : yearOutOfRange fv
  · exact .inl ⟨rfl, by rw [e, h]; rfl⟩
  · exact .inr ⟨rfl, by rw [e, h]; rfl, parseCinfo_overflow fv today h⟩

/-- on those inputs the model reports the other error class -/
theorem parseCinfo_yearOutOfRange_model (fv : PyDict Str) (today : PDate) (hT : today.2.1 ≠ 0)
    (h : yearOutOfRange fv = true) : parseCinfo (absFV fv) today = .error .overflow := by
  rcases tie_parseCinfo_cases fv today hT with ⟨h', _⟩ | ⟨_, _, e⟩
  · simp [h] at h'
  · exact e

/-- away from them the generated function IS the model function -/
theorem tie_parseCinfo_model (fv : PyDict Str) (today : PDate) (hT : today.2.1 ≠ 0)
    (hY : yearOutOfRange fv = false) : GenF.parseCinfo fv today = parseCinfo (absFV fv) today := by
  rw [tie_parseCinfo fv today hT, hY]; rfl

/-- ValueError and OverflowError identified (as `parse_version_info` does): equal on ALL dicts -/
def collapseErr : PErr → PErr
  | .overflow => .valueError
  | e => e

def collapseVO {α : Type} : Except PErr α → Except PErr α
  | .error e => .error (collapseErr e)
  | .ok a => .ok a

theorem tie_parseCinfo_collapse (fv : PyDict Str) (today : PDate) (hT : today.2.1 ≠ 0) :
    collapseVO (GenF.parseCinfo fv today) = collapseVO (parseCinfo (absFV fv) today) := by
  rcases tie_parseCinfo_cases fv today hT with ⟨_, e⟩ | ⟨_, e1, e2⟩
  · rw [e]
  · rw [e1, e2]; rfl

/-! ### non-vacuity (evaluated by the kernel) and the witnesses of the two hypotheses -/

example : GenF.parseCinfo [("year_y".toList, "2021".toList), ("week_w".toList, "02".toList)] (2024, 5, 17) =
    .ok { yearY := some 2021, yearG := none, quarter := none, month := none, dom := none, doy := none,
          weekW := some 2, weekU := none, weekV := none } := by decide
example : GenF.parseCinfo [("year_y".toList, "18".toList), ("month".toList, "11".toList)] (2024, 5, 17) =
    .ok { yearY := some 2018, yearG := none, quarter := some 4, month := some 11, dom := none, doy := none,
          weekW := none, weekU := none, weekV := none } := by decide
example : GenF.parseCinfo [("year_y".toList, "10000".toList), ("doy".toList, "1".toList)] (2024, 5, 17)
      = .error .valueError
    ∧ parseCinfo (absFV [("year_y".toList, "10000".toList), ("doy".toList, "1".toList)]) (2024, 5, 17)
      = .error .overflow := by decide
example : (GenF.parseCinfo [] (2024, 0, 1)).map (·.quarter) = .ok none
    ∧ (parseCinfo (absFV []) (2024, 0, 1)).map (·.quarter) = .ok (some 1) := by decide

end BV
