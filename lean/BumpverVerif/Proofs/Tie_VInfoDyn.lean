/-
  Proofs/Tie_VInfoDyn.lean — the run-time views of `version.V2VersionInfo` GENERATED from the class
  definition (Gen/F_VInfoDyn.lean: `getattrVInfo`, `asdictVInfo`, `ofdictVInfo`) agree with the hand
  model's `VInfo.get` / `VInfo.setNat`, and the dict primitives of Gen/F_PyPrelude.lean behave like
  Python dicts where the ties need it.
-/
import BumpverVerif.Gen.F_VInfoDyn
import BumpverVerif.Proofs.V2Lemmas
import BumpverVerif.Proofs.VcsLemmas
namespace BV

/-! ### `getattr(v, f)` with a run-time name: all three views look `f` up in the table `v._asdict()` -/

theorem getattrVInfo_eq_lookup (v : VInfo) (f : Str) :
    GenF.getattrVInfo v f = (lookup f (GenF.asdictVInfo v)).elim (.error .unsupported) .ok := by
  simp only [GenF.getattrVInfo, GenF.asdictVInfo, lookup,
    apply_ite (Option.elim · (Except.error PErr.unsupported) Except.ok), Option.elim_some, Option.elim_none]

theorem VInfo.get_eq_lookup (v : VInfo) (f : Str) : v.get f = (lookup f (GenF.asdictVInfo v)).getD .none := by
  simp only [VInfo.get, GenF.asdictVInfo, lookup, ofList_beq, decide_eq_true_eq, apply_ite (Option.getD · FV.none),
    Option.getD_some, Option.getD_none]
  rfl

theorem mem_keys_iff {α : Type} (k : Str) (d : List (Str × α)) :
    k ∈ d.map (·.1) ↔ (lookup k d).isSome = true := by
  induction d with
  | nil => simp [lookup]
  | cons e rest ih =>
    by_cases h : k = e.1
    · simp [lookup, h]
    · simp [lookup, h, ih]

/-- the generated `getattr` is the model's `VInfo.get` on the twenty field names of the class and
    AttributeError on every other name (where `VInfo.get` answers `.none`) -/
theorem tie_getattrVInfo (v : VInfo) (f : Str) :
    GenF.getattrVInfo v f =
      if f ∈ GenF.fieldNamesVInfo then .ok (v.get f) else .error .unsupported := by
  have hm : f ∈ GenF.fieldNamesVInfo ↔ _ := mem_keys_iff f (GenF.asdictVInfo v)
  rw [getattrVInfo_eq_lookup, VInfo.get_eq_lookup]
  cases h : lookup f (GenF.asdictVInfo v) with
  | none => rw [if_neg (fun hf => by rw [hm, h] at hf; cases hf)]; rfl
  | some x => rw [if_pos (hm.mpr (by rw [h]; rfl))]; rfl

namespace TieA

theorem getattrVInfo_of_mem (v : VInfo) (f : Str) (h : f ∈ GenF.fieldNamesVInfo) :
    GenF.getattrVInfo v f = .ok (v.get f) := by
  rw [tie_getattrVInfo, if_pos h]

/-- every key of the generated `V2_FIELD_INITIAL_VALUES` is a field of the class -/
theorem init_key_mem_fieldNames (f init : Str) (h : lookup f Gen.fieldInitialValues = some init) :
    f ∈ GenF.fieldNamesVInfo := by
  rcases lookup_init_cases f init h with ⟨e, _⟩ | ⟨e, _⟩ | ⟨e, _⟩ | ⟨e, _⟩ | ⟨e, _⟩ | ⟨e, _⟩ <;>
    (subst e; decide)

/-! ### dicts as association lists (Gen/F_PyPrelude.lean) -/

theorem lookup_dictSet {α : Type} (k k' : Str) (v : α) (d : List (Str × α)) :
    lookup k (GenF.dictSet k' v d) = if k = k' then some v else lookup k d := by
  induction d with
  | nil => simp [GenF.dictSet, lookup]
  | cons e rest ih =>
    obtain ⟨k'', v''⟩ := e
    by_cases h1 : k' = k''
    · subst h1
      by_cases h2 : k = k' <;> simp [GenF.dictSet, lookup, h2]
    · by_cases h2 : k = k''
      · subst h2
        have : ¬ k = k' := fun e => h1 e.symm
        simp [GenF.dictSet, lookup, h1, this]
      · simp [GenF.dictSet, lookup, h1, h2, ih]

theorem mem_dictSet {α : Type} (k : Str) (v : α) (d : List (Str × α)) (e : Str × α)
    (h : e ∈ GenF.dictSet k v d) : e = (k, v) ∨ e ∈ d := by
  induction d with
  | nil => simp [GenF.dictSet] at h; exact .inl h
  | cons x rest ih =>
    obtain ⟨k', v'⟩ := x
    by_cases hk : k = k'
    · subst hk
      simp only [GenF.dictSet, if_true, List.mem_cons] at h
      rcases h with h | h
      · exact .inl h
      · exact .inr (List.mem_cons_of_mem _ h)
    · simp only [GenF.dictSet, if_neg hk, List.mem_cons] at h
      rcases h with h | h
      · exact .inr (h ▸ List.mem_cons_self)
      · rcases ih h with h' | h'
        · exact .inl h'
        · exact .inr (List.mem_cons_of_mem _ h')

theorem mem_foldl_dictSet {α : Type} (xs : List (Str × α)) (d0 : List (Str × α)) (e : Str × α)
    (h : e ∈ xs.foldl (fun d kv => GenF.dictSet kv.1 kv.2 d) d0) : e ∈ d0 ∨ e ∈ xs := by
  induction xs generalizing d0 with
  | nil => exact .inl h
  | cons x rest ih =>
    rcases ih _ h with h' | h'
    · rcases mem_dictSet _ _ _ _ h' with h'' | h''
      · exact .inr (h'' ▸ List.mem_cons_self)
      · exact .inl h''
    · exact .inr (List.mem_cons_of_mem _ h')

/-- every entry of `dict(pairs)` is one of the pairs -/
theorem mem_dictOfList {α : Type} (xs : List (Str × α)) (e : Str × α) (h : e ∈ GenF.dictOfList xs) :
    e ∈ xs := by
  rcases mem_foldl_dictSet xs [] e h with h' | h'
  · cases h'
  · exact h'

theorem lookup_isSome_eq_any {α : Type} (k : Str) (d : List (Str × α)) :
    (lookup k d).isSome = d.any (fun kv => kv.1 == k) := by
  induction d with
  | nil => rfl
  | cons e rest ih =>
    obtain ⟨k', v'⟩ := e
    by_cases h : k = k'
    · subst h; simp [lookup]
    · have : (k' == k) = false := by simpa using fun e => h e.symm
      simp [lookup, h, ih, this]

theorem dictHas_foldl_dictSet {α : Type} (k : Str) (xs : List (Str × α)) (d0 : List (Str × α)) :
    GenF.dictHas k (xs.foldl (fun d kv => GenF.dictSet kv.1 kv.2 d) d0) =
      (GenF.dictHas k d0 || xs.any (fun kv => kv.1 == k)) := by
  induction xs generalizing d0 with
  | nil => simp
  | cons x rest ih =>
    simp only [List.foldl_cons, List.any_cons, ih]
    simp only [GenF.dictHas, lookup_dictSet]
    by_cases h : k = x.1
    · subst h; simp
    · have : (x.1 == k) = false := by simpa using fun e => h e.symm
      simp [h, this]

/-- `k in dict(pairs)` iff some pair has the key `k` -/
theorem dictHas_dictOfList {α : Type} (k : Str) (xs : List (Str × α)) :
    GenF.dictHas k (GenF.dictOfList xs) = xs.any (fun kv => kv.1 == k) := by
  unfold GenF.dictOfList
  rw [dictHas_foldl_dictSet]
  simp [GenF.dictHas, lookup]

theorem any_key_dictOfList {α : Type} (k : Str) (xs : List (Str × α)) :
    (GenF.dictOfList xs).any (fun kv => kv.1 == k) = xs.any (fun kv => kv.1 == k) := by
  rw [← lookup_isSome_eq_any, ← dictHas_dictOfList]; rfl

/-! ### `_asdict()` / `V2VersionInfo(**d)` -/

theorem asOptNat_optNat (o : Option Nat) : GenF.asOptNatVInfo (optNat o) = .ok o := by
  cases o <;> rfl

/-- `V2VersionInfo(**v._asdict())` is `v` -/
theorem ofdict_asdict (v : VInfo) : GenF.ofdictVInfo (GenF.asdictVInfo v) = .ok v := by
  -- the twenty keys are compared once (they are distinct, and all are field names); each keyword is then found by its
  -- position in `_asdict()`, where `rfl` evaluates neither keys nor values
  have hnd : ((GenF.asdictVInfo v).map Prod.fst).Nodup := (by decide : GenF.fieldNamesVInfo.Nodup)
  have hall : (GenF.asdictVInfo v).all (fun kv => GenF.fieldNamesVInfo.elem kv.1) = true :=
    (by decide : GenF.fieldNamesVInfo.all (fun k => GenF.fieldNamesVInfo.elem k) = true)
  have L := fun (i : Nat) k x (h : (GenF.asdictVInfo v)[i]? = some (k, x)) => lookup_getElem hnd h
  unfold GenF.ofdictVInfo
  simp only [hall, Bool.not_true, Bool.false_eq_true, if_false, GenF.kwargVInfo,
    L 0 _ _ rfl, L 1 _ _ rfl, L 2 _ _ rfl, L 3 _ _ rfl, L 4 _ _ rfl, L 5 _ _ rfl, L 6 _ _ rfl, L 7 _ _ rfl, L 8 _ _ rfl,
    L 9 _ _ rfl, L 10 _ _ rfl, L 11 _ _ rfl, L 12 _ _ rfl, L 13 _ _ rfl, L 14 _ _ rfl, L 15 _ _ rfl, L 16 _ _ rfl,
    L 17 _ _ rfl, L 18 _ _ rfl, L 19 _ _ rfl, Except.bind, asOptNat_optNat, GenF.asNatVInfo, GenF.asStrVInfo,
    GenF.asConstVInfo, if_true]

/-- `d[f] = n` on `v._asdict()` for one of the six resettable fields is `_asdict()` of the model's
    `v.setNat f n` -/
theorem dictSet_asdict (v : VInfo) (f init : Str) (n : Nat)
    (h : lookup f Gen.fieldInitialValues = some init) :
    GenF.dictSet f (FV.nat n) (GenF.asdictVInfo v) = GenF.asdictVInfo (v.setNat f n) := by
  rcases lookup_init_cases f init h with ⟨e, _⟩ | ⟨e, _⟩ | ⟨e, _⟩ | ⟨e, _⟩ | ⟨e, _⟩ | ⟨e, _⟩ <;>
    (subst e; rfl)

theorem isDigitStr_init (f init : Str) (h : lookup f Gen.fieldInitialValues = some init) :
    isDigitStr init = true := by
  rcases lookup_init_cases f init h with ⟨_, e⟩ | ⟨_, e⟩ | ⟨_, e⟩ | ⟨_, e⟩ | ⟨_, e⟩ | ⟨_, e⟩ <;>
    (subst e; decide)

/-- a `VInfo` is determined by what `getattr` sees -/
theorem VInfo.ext_get (v w : VInfo) (h : ∀ f, v.get f = w.get f) : v = w := by
  have c1 : optNat v.cal.yearY = optNat w.cal.yearY := h "year_y".toList
  have c2 : optNat v.cal.yearG = optNat w.cal.yearG := h "year_g".toList
  have c3 : optNat v.cal.quarter = optNat w.cal.quarter := h "quarter".toList
  have c4 : optNat v.cal.month = optNat w.cal.month := h "month".toList
  have c5 : optNat v.cal.dom = optNat w.cal.dom := h "dom".toList
  have c6 : optNat v.cal.doy = optNat w.cal.doy := h "doy".toList
  have c7 : optNat v.cal.weekW = optNat w.cal.weekW := h "week_w".toList
  have c8 : optNat v.cal.weekU = optNat w.cal.weekU := h "week_u".toList
  have c9 : optNat v.cal.weekV = optNat w.cal.weekV := h "week_v".toList
  have f1 : FV.nat v.major = FV.nat w.major := h "major".toList
  have f2 : FV.nat v.minor = FV.nat w.minor := h "minor".toList
  have f3 : FV.nat v.patch = FV.nat w.patch := h "patch".toList
  have f4 : FV.str v.bid = FV.str w.bid := h "bid".toList
  have f5 : FV.str v.tag = FV.str w.tag := h "tag".toList
  have f6 : FV.str v.pytag = FV.str w.pytag := h "pytag".toList
  have f7 : FV.nat v.num = FV.nat w.num := h "num".toList
  have f8 : FV.nat v.inc0 = FV.nat w.inc0 := h "inc0".toList
  have f9 : FV.nat v.inc1 = FV.nat w.inc1 := h "inc1".toList
  obtain ⟨⟨a1, a2, a3, a4, a5, a6, a7, a8, a9⟩, b1, b2, b3, b4, b5, b6, b7, b8, b9⟩ := v
  obtain ⟨⟨a1', a2', a3', a4', a5', a6', a7', a8', a9'⟩, b1', b2', b3', b4', b5', b6', b7', b8', b9'⟩ := w
  simp only at c1 c2 c3 c4 c5 c6 c7 c8 c9 f1 f2 f3 f4 f5 f6 f7 f8 f9
  have := optNat_inj c1; have := optNat_inj c2; have := optNat_inj c3
  have := optNat_inj c4; have := optNat_inj c5; have := optNat_inj c6
  have := optNat_inj c7; have := optNat_inj c8; have := optNat_inj c9
  injection f1; injection f2; injection f3; injection f4; injection f5; injection f6
  injection f7; injection f8; injection f9
  subst_vars
  rfl

/-- the loop `for field, value in reset_fields.items(): cur_kwargs[field] = int(value)` over pairs of the
    initial-value table, started from `v._asdict()`, is `_asdict()` of the model's `applyItems` -/
theorem foldl_kwargs (g : List (Str × FV) → Str × Str → List (Str × FV))
    (hg : ∀ d it, isDigitStr it.2 = true → g d it = GenF.dictSet it.1 (FV.nat (strToNat it.2)) d)
    (its : List (Str × Str)) (hP : ∀ it ∈ its, lookup it.1 Gen.fieldInitialValues = some it.2) (v : VInfo) :
    its.foldl g (GenF.asdictVInfo v) = GenF.asdictVInfo (applyItems its v) := by
  induction its generalizing v with
  | nil => rfl
  | cons it rest ih =>
    have hit := hP it List.mem_cons_self
    simp only [List.foldl_cons]
    rw [hg _ it (isDigitStr_init _ _ hit), dictSet_asdict v it.1 it.2 _ hit,
      ih (fun x hx => hP x (List.mem_cons_of_mem _ hx))]
    rfl

/-- `dict(items)` instead of `items` makes no difference to the model's `applyItems` when every item is a
    row of the initial-value table (duplicates carry the same value) -/
theorem applyItems_dictOfList (items : List (Str × Str))
    (hP : ∀ it ∈ items, lookup it.1 Gen.fieldInitialValues = some it.2) (v : VInfo) :
    applyItems (GenF.dictOfList items) v = applyItems items v := by
  apply VInfo.ext_get
  intro f
  rw [applyItems_get f _ v (fun it h => hP it (mem_dictOfList items it h)), applyItems_get f _ v hP,
    any_key_dictOfList]

end TieA
end BV
