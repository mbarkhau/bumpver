/-
  Proofs/Tie_diffFold.lean — what the ties of `v2rewrite.diff` (Tie_diff) and `v1rewrite.diff` (Tie_v1Diff)
  share: after the existence check both functions run the same loop over the files sorted by path — read the
  file, compute (old_lines, new_lines), append `"\n".join(diff_lines(rfd)) + "\n"` — and differ only in the
  per-file computation, whose model is the parameter `d` here (`diffFile` / `v1DiffFile`).
-/
import BumpverVerif.Proofs.Tie_iterRewritten
namespace BV.TieM

open GenF (Pattern RewrittenFileData)

variable (d : FS → Str → List CPat → Except RwErr (List Str × List Str))
  (diff_lines : RewrittenFileData → List Str)

/-- one file of the dry path: the text appended to the diff so far -/
def diffStepWith (fs : FS) (it : Str × List Pattern) (acc : Str) : Except RwErr Str :=
  match lookup it.1 fs with
  | none => .error .missingFile
  | some c =>
    match d fs it.1 (it.2.map Pattern.abs) with
    | .error e => .error e
    | .ok r => .ok (acc ++ (join "\n".toList (diff_lines (rfdOf it.1 c r.2)) ++ "\n".toList))

/-- all files, in the given order -/
def diffFoldWith (fs : FS) : List (Str × List Pattern) → Str → Except RwErr Str
  | [], acc => .ok acc
  | it :: rest, acc =>
    match diffStepWith d diff_lines fs it acc with
    | .error e => .error e
    | .ok acc' => diffFoldWith fs rest acc'

theorem pyForFS_eq_diffFoldWith (Ok : Str × List Pattern → Prop)
    (body : Str × List Pattern → Str → FS → FS × Except RwErr Str)
    (hb : ∀ it acc fs, Ok it → body it acc fs = (fs, diffStepWith d diff_lines fs it acc))
    (l : List (Str × List Pattern)) (hl : ∀ it ∈ l, Ok it) (acc : Str) (fs : FS) :
    GenF.pyForFS l body acc fs = (fs, diffFoldWith d diff_lines fs l acc) := by
  induction l generalizing acc with
  | nil => rfl
  | cons it l ih =>
    rw [GenF.pyForFS_cons, hb it acc fs (hl it List.mem_cons_self)]
    simp only [diffFoldWith]
    cases diffStepWith d diff_lines fs it acc with
    | error e => rfl
    | ok acc' => exact ih (fun x hx => hl x (List.mem_cons_of_mem _ hx)) acc'

/-- success, or the error, of the per-file fold is success, or the error, of the model's loop `dAll` over
    the same list of files -/
theorem diffFoldWith_outcome (fs : FS)
    (hmiss : ∀ path pats, lookup path fs = none → d fs path pats = .error .missingFile)
    (dAll : List (Str × List CPat) → Except RwErr (List (Str × List Str × List Str)))
    (hnil : dAll [] = .ok [])
    (hcons : ∀ path pats rest, dAll ((path, pats) :: rest) =
      match d fs path pats with
      | .error e => .error e
      | .ok r =>
        match dAll rest with
        | .error e => .error e
        | .ok rs => .ok ((path, r) :: rs))
    (l : List (Str × List Pattern)) (acc : Str) :
    (diffFoldWith d diff_lines fs l acc).map (fun _ => ()) =
      (dAll (GenF.absFilePatterns l)).map (fun _ => ()) := by
  induction l generalizing acc with
  | nil => rw [show GenF.absFilePatterns [] = [] from rfl, hnil]; rfl
  | cons it l ih =>
    rw [show GenF.absFilePatterns (it :: l) = (it.1, it.2.map Pattern.abs) :: GenF.absFilePatterns l from rfl,
      hcons]
    simp only [diffFoldWith, diffStepWith]
    cases hl : lookup it.1 fs with
    | none => rw [hmiss _ _ hl]; rfl
    | some c =>
      simp only []
      cases d fs it.1 (it.2.map Pattern.abs) with
      | error e => rfl
      | ok r =>
        simp only []
        rw [ih]
        cases dAll (GenF.absFilePatterns l) <;> rfl

end BV.TieM
