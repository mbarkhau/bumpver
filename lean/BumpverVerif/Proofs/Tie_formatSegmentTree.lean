/-
  Proofs/Tie_formatSegmentTree.lean — the definition GENERATED from the Python source of
  `v2version._format_segment_tree` (Gen/F_formatSegmentTree.lean: `pre` / `loop` / `post`, the loop by structural
  recursion over the nested list, the recursive call inside the loop) equals the hand model
  (`formatSeg` / `formatSegs`, a mutual RIGHT fold that returns the pair (is_zero, joined text)).

  Python: a LEFT fold with the accumulators `result_parts` (joined after the loop) and `is_zero`; the root of the
  tree is told apart by the parameter `is_root`.  Model: `formatVersion` takes `.2` of `formatSegs` for the root.

  HYPOTHESIS `hne` (no empty part name): inherited from `tie_formatSegment`, see there for the witness.
-/
import BumpverVerif.Gen.F_formatSegmentTree
import BumpverVerif.Proofs.Tie_formatSegment
namespace BV.TieF
open GenF GenF.FP
set_option linter.unusedSectionVars false
set_option linter.unusedSimpArgs false

/-- the rendered text of every item of a list (model side) -/
def segOuts (pvs : List (Str × Str)) (items : List Seg) : List Str :=
  items.map (fun s => (formatSeg pvs s).result)

theorem join_nil_eq_flatten : ∀ (l : List Str), join [] l = l.flatten
  | [] => rfl
  | [p] => by simp [join]
  | p :: q :: ps => by
    have ih := join_nil_eq_flatten (q :: ps)
    simp only [join, List.append_nil, ih, List.flatten_cons]

theorem formatSegs_snd (pvs : List (Str × Str)) : ∀ (items : List Seg),
    (formatSegs pvs items).2 = join [] (segOuts pvs items)
  | [] => by simp [formatSegs, segOuts, join]
  | s :: rest => by
    have ih := formatSegs_snd pvs rest
    simp only [formatSegs, ih, segOuts, join_nil_eq_flatten, List.map_cons, List.flatten_cons]

theorem formatSegs_fst_cons (pvs : List (Str × Str)) (s : Seg) (rest : List Seg) :
    (formatSegs pvs (s :: rest)).1 =
      (if (formatSeg pvs s).isLiteral then (formatSegs pvs rest).1
       else ((formatSeg pvs s).isZero && (formatSegs pvs rest).1)) := by
  simp only [formatSegs]

/-- what `post` makes of the state `loop` computes, in the model's terms -/
def treeResult (pvs : List (Str × Str)) (items : List Seg) (isRoot : Bool) : FSeg :=
  { isLiteral := false, isZero := (formatSegs pvs items).1,
    result := if (formatSegs pvs items).1 && !isRoot then [] else (formatSegs pvs items).2 }

theorem treeResult_false (pvs : List (Str × Str)) (items : List Seg) :
    treeResult pvs items false = formatSeg pvs (.grp items) := by
  simp only [treeResult, formatSeg, Bool.not_false, Bool.and_true]

section
variable (pvs : List (Str × Str))

/-- what the loop body makes of one item before it updates the accumulators -/
def genSeg : Seg → FSeg
  | .grp sub => GenF.formatSegmentTree sub pvs false
  | .lit t => GenF.formatSegment t pvs

/-- one iteration (state = (result_parts, is_zero)) -/
theorem formatSegmentTree_loop_cons (root : Bool) (parts : List Str) (z : Bool) (seg : Seg) (rest : List Seg) :
    GenF.formatSegmentTree.loop pvs root (parts, z) (seg :: rest) =
      GenF.formatSegmentTree.loop pvs root
        (parts ++ [(genSeg pvs seg).result], if (genSeg pvs seg).isLiteral then z else z && (genSeg pvs seg).isZero)
        rest := by
  -- `Bool.and_comm`: the source may write the conjunction `is_zero and formatted_seg.is_zero` either way round
  cases seg <;> rw [GenF.formatSegmentTree.loop] <;>
    refine congrArg (fun st => GenF.formatSegmentTree.loop pvs root st rest) ?_ <;>
    simp only [genSeg, GenF.formatSegmentTree, Bool.cond_eq_ite] <;> split <;> simp [*, Bool.and_comm]

theorem post_loop (items : List Seg) (root : Bool)
    (hl : GenF.formatSegmentTree.loop pvs root ([], true) items = (segOuts pvs items, (formatSegs pvs items).1)) :
    GenF.formatSegmentTree items pvs root = treeResult pvs items root := by
  simp only [GenF.formatSegmentTree, GenF.formatSegmentTree.pre, hl, GenF.formatSegmentTree.post,
    treeResult, formatSegs_snd]
  cases (formatSegs pvs items).1 <;> cases root <;> simp

variable (hne : ∀ pv ∈ pvs, pv.1 ≠ [])
include hne

mutual
  theorem genSeg_eq : (seg : Seg) → genSeg pvs seg = formatSeg pvs seg
    | .lit t => tie_formatSegment t pvs hne
    | .grp sub =>
      (post_loop pvs sub false (by simpa using formatSegmentTree_loop false sub [] true)).trans
        (treeResult_false pvs sub)
  /-- the loop: the accumulators after all items -/
  theorem formatSegmentTree_loop (root : Bool) : (items : List Seg) → (parts : List Str) → (z : Bool) →
      GenF.formatSegmentTree.loop pvs root (parts, z) items =
        (parts ++ segOuts pvs items, z && (formatSegs pvs items).1)
    | [], parts, z => by simp [GenF.formatSegmentTree.loop, segOuts, formatSegs]
    | seg :: rest, parts, z => by
      rw [formatSegmentTree_loop_cons, genSeg_eq seg, formatSegmentTree_loop root rest, formatSegs_fst_cons]
      cases (formatSeg pvs seg).isLiteral <;> simp [segOuts, Bool.and_assoc]
end

end


/-- `_format_segment_tree(segtree, part_values, is_root)` for ALL trees, part values and both flag values -/
theorem _root_.BV.tie_formatSegmentTree (items : List Seg) (pvs : List (Str × Str)) (isRoot : Bool)
    (hne : ∀ pv ∈ pvs, pv.1 ≠ []) :
    GenF.formatSegmentTree items pvs isRoot =
      { isLiteral := false, isZero := (formatSegs pvs items).1,
        result := if (formatSegs pvs items).1 && !isRoot then [] else (formatSegs pvs items).2 } :=
  post_loop pvs items isRoot (by simpa using formatSegmentTree_loop pvs hne isRoot items [] true)

/-- an optional group (`is_root=False`, the default): the model's `formatSeg` on the group -/
theorem _root_.BV.tie_formatSegmentTree_group (items : List Seg) (pvs : List (Str × Str)) (hne : ∀ pv ∈ pvs, pv.1 ≠ []) :
    GenF.formatSegmentTree items pvs false = formatSeg pvs (.grp items) := by
  rw [tie_formatSegmentTree items pvs false hne]; exact treeResult_false pvs items

/-- the root (`is_root=True`): rendered even when all its parts are zero — `formatVersion`'s `.2` -/
theorem _root_.BV.tie_formatSegmentTree_root (items : List Seg) (pvs : List (Str × Str)) (hne : ∀ pv ∈ pvs, pv.1 ≠ []) :
    (GenF.formatSegmentTree items pvs true).result = (formatSegs pvs items).2 := by
  rw [tie_formatSegmentTree items pvs true hne]; simp

end BV.TieF
