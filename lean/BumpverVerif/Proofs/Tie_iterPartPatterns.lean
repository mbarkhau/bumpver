/-
  Proofs/Tie_iterPartPatterns.lean — the definition GENERATED from the Python source of
  `v2patterns._iter_part_patterns` (Gen/F_iterPartPatterns.lean: a generator with a `for` over
  `PART_PATTERNS.items()` and a `while True` / `pattern.find(part_name, end_idx)` loop with explicit fuel)
  against the hand model `BV.iterPartPatterns` (Model/V2Patterns.lean: `findAllFrom` + two folds).

  `tie_iterPartPatterns`: for every fuel ≥ len(pattern) + 1 the generated function returns `some` of the
  model's list under the abstraction `PosPart.toPair` (sort key `(-end_idx, -len(part_name))`, positioned
  part `(start_idx, end_idx, named_part_pattern)`), i.e. the Python loops terminate and yield exactly the
  model's items in the model's order.  Hypotheses (both decidable, both true of the generated tables):
    * `hkeys`: every key of PART_PATTERNS is a key of PATTERN_PART_FIELDS (otherwise Python raises KeyError
      where the model uses the field name "");
    * `hne`  : no part name is the empty string (Python's `find("", end_idx)` loop would never terminate;
      the model yields nothing for it).
-/
import BumpverVerif.Gen.F_iterPartPatterns
import BumpverVerif.Proofs.Tie_patternsPrims
namespace BV
open PyP

/-- what `_iter_part_patterns` yields for the model's `PosPart`:
    `((-end_idx, -len(part_name)), (start_idx, end_idx, named_part_pattern))` -/
def PosPart.toPair (pp : PosPart) : (Int × Int) × (Int × Int × Str) :=
  ((-(pp.stop : Int), -(pp.name.length : Int)), ((pp.start : Int), (pp.stop : Int), pp.text))

/-- the `while True` / `find` loop against `findAllFrom` + `foldl`, for an abstract loop body that
    behaves as specified (`hbody`); two independent fuels, both sufficient -/
theorem whileTrue_findAll (p name : Str) (hne : name ≠ [])
    (mstep : List PosPart × List Str → Nat → List PosPart × List Str)
    (body : (List ((Int × Int) × (Int × Int × Str)) × List Str × Int) →
      Option (Step (List ((Int × Int) × (Int × Int × Str)) × List Str × Int)))
    (hbody : ∀ (ys : List PosPart) (used : List Str) (e : Nat),
      body (ys.map PosPart.toPair, used, (e : Int)) =
        match findIdx name (p.drop e) with
        | none => some (.brk (ys.map PosPart.toPair, used, (e : Int)))
        | some i => some (.next ((mstep (ys, used) (e + i)).1.map PosPart.toPair, (mstep (ys, used) (e + i)).2,
                                  ((e + i + name.length : Nat) : Int)))) :
    ∀ (fM fG e : Nat) (ys : List PosPart) (used : List Str),
      (p.drop e).length + 1 ≤ fM → (p.drop e).length + 1 ≤ fG →
      ∃ e' : Int, whileTrue body fG (ys.map PosPart.toPair, used, (e : Int)) =
        some ((((findAllFrom name fM e (p.drop e)).foldl mstep (ys, used)).1.map PosPart.toPair),
              ((findAllFrom name fM e (p.drop e)).foldl mstep (ys, used)).2, e') := by
  intro fM
  induction fM with
  | zero => intro fG e ys used h; omega
  | succ fM ih =>
    intro fG e ys used hM hG
    cases fG with
    | zero => omega
    | succ fG =>
      simp only [whileTrue, hbody, findAllFrom]
      cases hf : findIdx name (p.drop e) with
      | none => exact ⟨_, rfl⟩
      | some i =>
        have hnE : name.isEmpty = false := by cases name with
          | nil => exact absurd rfl hne
          | cons _ _ => rfl
        have hb := findIdx_add_le hf
        have hpos : 0 < name.length := by cases name with
          | nil => exact absurd rfl hne
          | cons _ _ => simp
        simp only [hnE, Bool.false_eq_true, if_false, List.foldl_cons, List.drop_drop]
        have hlen : (p.drop (e + (i + name.length))).length + 1 ≤ fM := by
          simp only [List.length_drop] at hb hM ⊢; omega
        have hlenG : (p.drop (e + (i + name.length))).length + 1 ≤ fG := by
          simp only [List.length_drop] at hb hG ⊢; omega
        have := ih fG (e + (i + name.length)) (mstep (ys, used) (e + i)).1 (mstep (ys, used) (e + i)).2 hlen hlenG
        simpa only [Nat.add_assoc] using this

/-- state of the generated `for` loop (yielded, used_fields) for a model state -/
def iterAbs (t : List PosPart × List Str) : List ((Int × Int) × (Int × Int × Str)) × List Str :=
  (t.1.map PosPart.toPair, t.2)

theorem tie_iterPartPatterns (partPatterns partFields : List (Str × Str)) (fuel : Nat) (pattern : Str)
    (hkeys : ∀ pp ∈ partPatterns, (lookup pp.1 partFields).isSome = true)
    (hne : ∀ pp ∈ partPatterns, pp.1 ≠ [])
    (hfuel : pattern.length + 1 ≤ fuel) :
    GenF.iterPartPatterns partPatterns partFields fuel pattern =
      some ((iterPartPatterns partPatterns partFields pattern).map PosPart.toPair) := by
  rw [iterPartPatterns_eq_fold]
  have hloop : ∀ B : (List ((Int × Int) × (Int × Int × Str)) × List Str) → (Str × Str) →
        Option (List ((Int × Int) × (Int × Int × Str)) × List Str),
      (∀ pp ∈ partPatterns, ∀ t, B (iterAbs t) pp = some (iterAbs (iterOuter partFields pattern t pp))) →
      forM B partPatterns ([], []) =
        some (iterAbs (partPatterns.foldl (iterOuter partFields pattern) ([], []))) :=
    fun B hB => forM_abs B _ iterAbs partPatterns hB ([], [])
  simp only [GenF.iterPartPatterns]
  rw [hloop _ ?_]
  · rfl
  · intro pp hpp t
    obtain ⟨field, hfield⟩ := Option.isSome_iff_exists.mp (hkeys pp hpp)
    simp only [iterAbs]
    have hin : ∀ B : (List ((Int × Int) × (Int × Int × Str)) × List Str × Int) →
          Option (Step (List ((Int × Int) × (Int × Int × Str)) × List Str × Int)),
        (∀ (ys : List PosPart) (used : List Str) (e : Nat),
          B (ys.map PosPart.toPair, used, (e : Int)) =
            match findIdx pp.1 (pattern.drop e) with
            | none => some (.brk (ys.map PosPart.toPair, used, (e : Int)))
            | some i => some (.next ((iterInner pp.1 pp.2 field (ys, used) (e + i)).1.map PosPart.toPair,
                                      (iterInner pp.1 pp.2 field (ys, used) (e + i)).2,
                                      ((e + i + pp.1.length : Nat) : Int)))) →
        (match whileTrue B fuel (List.map PosPart.toPair t.1, t.2, ((0 : Nat) : Int)) with
          | none => none
          | some st => some (st.1, st.2.1)) =
        some (List.map PosPart.toPair (iterOuter partFields pattern t pp).1, (iterOuter partFields pattern t pp).2) := by
      intro B hB
      obtain ⟨e', he'⟩ := whileTrue_findAll pattern pp.1 (hne pp hpp) (iterInner pp.1 pp.2 field) B hB
        (pattern.length + 1) fuel 0 t.1 t.2 (by simp) (by simpa using hfuel)
      rw [he']
      simp only [iterOuter, hfield, Option.getD_some, List.drop_zero]
    refine hin _ ?_
    intro ys used e
    cases hf : findIdx pp.1 (pattern.drop e) with
    | none =>
      simp only [find_natCast_none pattern pp.1 e hf]
      rfl
    | some i =>
      have hlt : ¬ (((e + i : Nat) : Int) < 0) := by omega
      simp only [find_natCast_some pattern pp.1 e i (hne pp hpp) hf, hlt, decide_false, Bool.false_eq_true,
        if_false, hfield]
      simp only [iterInner, memStr, setAdd, List.map_append, List.map_cons, List.map_nil, PosPart.toPair,
        Int.ofNat_eq_natCast, List.elem_eq_contains, Int.natCast_add]
      by_cases hm : field ∈ used <;> simp [hm, List.append_assoc]

/-! ### the generated tables satisfy the two hypotheses -/

theorem genPartPatterns_keys : ∀ pp ∈ Gen.partPatterns, (lookup pp.1 Gen.partFields).isSome = true := by
  decide +kernel

theorem genPartPatterns_ne : ∀ pp ∈ Gen.partPatterns, pp.1 ≠ [] := by decide +kernel

/-- the tie over the GENERATED tables (`PART_PATTERNS`, `PATTERN_PART_FIELDS`) -/
theorem tie_iterPartPatterns_gen (fuel : Nat) (pattern : Str) (hfuel : pattern.length + 1 ≤ fuel) :
    GenF.iterPartPatterns Gen.partPatterns Gen.partFields fuel pattern =
      some ((iterPartPatterns Gen.partPatterns Gen.partFields pattern).map PosPart.toPair) :=
  tie_iterPartPatterns _ _ fuel pattern genPartPatterns_keys genPartPatterns_ne hfuel

/-- the hypothesis `hkeys` is needed: for a part without an entry in PATTERN_PART_FIELDS Python raises
    KeyError (`none`), the model goes on with the field name "" -/
example : GenF.iterPartPatterns [("QQ".toList, "x".toList)] [] 50 "aQQ".toList = none := by decide +kernel
example : (iterPartPatterns [("QQ".toList, "x".toList)] [] "aQQ".toList).map PosPart.toPair =
    [((-3, -2), (1, 3, "(?P<>x)".toList))] := by decide +kernel

/-- the hypothesis `hne` is needed: with a part named "" the Python loop never terminates (the generated
    definition runs out of any fuel) while the model yields nothing -/
example : GenF.iterPartPatterns [("".toList, "x".toList)] [("".toList, "f".toList)] 50 "ab".toList = none := by
  decide +kernel
example : iterPartPatterns [("".toList, "x".toList)] [("".toList, "f".toList)] "ab".toList = [] := by decide +kernel

end BV
