/-
  Proofs/TieQ_Source.lean — theorems of C16 / C15 restated for the definitions GENERATED from the Python source of
  `setuptools_v65_version.py` / `version.py` (harness/translate_pepversion.py, namespace BV.GenQ), by composing the
  ties (Proofs/Tie_pep*.lean) with the theorems of Props/C16.lean.  Nothing here is a new property; each theorem shows
  how the ties carry a model-level theorem to the translated code.

  `regex_search` (the matcher of `Version._regex`) and `legacy_split` (`_legacy_version_component_re.split`) are the
  two trusted primitives; `TieQ.SearchOk` / `TieQ.SplitOk` (Proofs/Tie_pepParse.lean) are what the hand model assumes
  about them.
-/
import BumpverVerif.Proofs.Tie_pepParse
import BumpverVerif.Proofs.TieD_Source
import BumpverVerif.Props.C16
namespace BV
open TieQ

/-- C16 (d) at source level, on the RAW tuples, for ALL inputs and ALL behaviours of the two regex primitives: the
    first item of the `_key` of every object the translated `LegacyVersion.__init__` builds is `-1`, the first item of
    the `_key` of every object the translated `Version.__init__` builds is a natural number (the epoch) — Python's
    tuple comparison is decided at position 0. -/
theorem C16_sourceQ_legacy_key_below (regex_search : Str → Option PepGroups) (legacy_split : Str → List Str)
    (s t : Str) (o : PepObj) (_h : GenQ.pepVersionInit regex_search t = .ok o) :
    (GenQ.pepLegacyInit legacy_split s)._key.1 < Int.ofNat o._key.1 := by
  have : (GenQ.pepLegacyInit legacy_split s)._key.1 = -1 := rfl
  rw [this]
  exact Int.lt_of_lt_of_le (by decide) (Int.natCast_nonneg _)

/-- C16 (d): under the model's reading of the keys, the object `parse` returns for a text the regex does not match
    sorts strictly below the object it returns for a text the regex matches — for EVERY matcher. -/
theorem C16_sourceQ_legacy_below (regex_search : Str → Option PepGroups) (s t : Str)
    (hs : regex_search s = none) (ht : (regex_search t).isSome = true) :
    cmpKey (keyPy (pyOf regex_search s)) (keyPy (pyOf regex_search t)) = .lt := by
  cases hm : regex_search t with
  | none => rw [hm] at ht; cases ht
  | some g =>
    simp only [pyOf, hs, hm, keyPy]
    have hk : absKey (objOfGroups g)._key = pepKey (rawOfGroups g).abs := absKey_cmpkey_raw (rawOfGroups g)
    rw [hk]
    rfl

/-- C16 (a)/(b) at source level: the comparison of the `_key`s of the two objects `parse_version` returns is the
    model's `verLe` on the two strings (which Props/C16.lean proves to be a total preorder that agrees with PEP 440). -/
theorem C16_sourceQ_le (regex_search : Str → Option PepGroups) (legacy_split : Str → List Str) (s t : Str)
    (a b : PyVersion) (hsp : SplitOk legacy_split) (hr : SearchOk regex_search)
    (ha : GenQ.pepParseVersion regex_search legacy_split s = .ok a)
    (hb : GenQ.pepParseVersion regex_search legacy_split t = .ok b) :
    (cmpKey (keyPy a) (keyPy b) != .gt) = verLe (parseVersion s) (parseVersion t) := by
  rw [tie_pepParseVersion _ _ _ hsp] at ha hb
  injection ha with ha
  injection hb with hb
  subst ha hb
  rw [tie_pepParse_key _ _ hr, tie_pepParse_key _ _ hr]
  rfl

/-- C16 (c) at source level: for ALL groups that denote a well-formed version, the text the generated `__str__`
    prints for the object the generated `__init__` builds re-parses (under the model's parser) to the same version,
    hence to the same key as the object's own `_key`. -/
theorem C16_sourceQ_str_reparses (regex_search : Str → Option PepGroups) (version : Str) (g : PepGroups) (o : PepObj)
    (hm : regex_search version = some g) (h : GenQ.pepVersionInit regex_search version = .ok o)
    (hwf : wfPep (ofGroups g) = true) :
    parseVersion (GenQ.pepVersionStr o) = .pep (ofGroups g) ∧
    keyOf (parseVersion (GenQ.pepVersionStr o)) = absKey o._key := by
  have hk := tie_pepVersionInit_key regex_search version g o hm h
  have ha := tie_pepVersionInit_abs regex_search version g o hm h
  rw [tie_pepVersionInit, hm] at h
  injection h with h
  subst h
  rw [tie_pepVersionStr _ (objOfGroups_loc_ne_nil g), ha]
  have hc := C16_str_canonical (ofGroups g) hwf
  simp only [verStr] at hc
  exact ⟨hc, by rw [hc, hk]; rfl⟩

/-- C15 at source level: the translated `version.to_pep440` is the model's `to_pep440` (`pyToPep440`, Model/CliPrims.lean: the
    function the ties of the commands use for the callee), and never raises. -/
theorem C15_sourceQ_to_pep440 (regex_search : Str → Option PepGroups) (legacy_split : Str → List Str) (s : Str)
    (hsp : SplitOk legacy_split) (hr : SearchOk regex_search) :
    GenQ.pepToPep440 regex_search legacy_split s = .ok (pyToPep440 s) :=
  tie_pepToPep440_model regex_search legacy_split s hsp hr

/-- C16 (c) at source level: `to_pep440` is idempotent on ALL strings. -/
theorem C16_sourceQ_to_pep440_idempotent (regex_search : Str → Option PepGroups) (legacy_split : Str → List Str)
    (s out : Str) (hsp : SplitOk legacy_split) (hr : SearchOk regex_search)
    (h : GenQ.pepToPep440 regex_search legacy_split s = .ok out) :
    GenQ.pepToPep440 regex_search legacy_split out = .ok out := by
  rw [tie_pepToPep440_model _ _ _ hsp hr] at h ⊢
  injection h with h
  subst h
  rw [(C16_str_idempotent s).2]

end BV
