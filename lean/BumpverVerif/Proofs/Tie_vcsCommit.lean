/-
  Proofs/Tie_vcsCommit.lean — `vcs.commit(cfg, vcs_api, filepaths, new_version, commit_message,
  tag_message)` and the `VCSAPI` methods it calls (`add`, `commit`, `tag`, `push_tag`, `push`), all
  GENERATED from the Python AST (Gen/F_vcsCommit.lean, F_apiAdd, F_apiCommit, F_apiTag, F_apiPushTag,
  F_apiPush), against the hand model `BV.commitPhase` (Model/Plan.lean), which decides property C10.

    tie_vcsCommit          cfg.commit = true  →  (state, ok/failed) of the generated `commit`
                                                  = commitPhase e (absCfgE tag_message cfg) s
    tie_vcsCommit_off      cfg.commit = false →  nothing happens
    vcsCommit_shows        both, and the only ways it stops (`vcsCommit_stop_kinds`), phase by phase against
                           `commitPhase_steps`
  for EVERY configuration, list of files, failure position `failAt`, hook result and remote situation.

  Hypotheses (each is the explicit statement of something the hand model abstracts):
  * `RemoteCoherent e`, `api.name = kind.name`  — see Tie_apiGetRemote.lean;
  * `hold`, `hnew` : the hooks get `cfg.current_version` / `new_version`; the model's events carry
    `startVersion` / `announced`;
  * `notTracked` : ONLY for Mercurial (`kind = hg`): the failing command's OWN stderr does not contain
    "already tracked!" — exactly the case `VCSAPI.add` is meant to ignore
    (`vcsCommit_hg_already_tracked_ignored`: then the failing `add` is swallowed, by design, and the run goes on;
    the hand model has no such case).  For git there is NO hypothesis about any text (`tie_apiAdd_git`,
    `vcsCommit_git_stderr_irrelevant`): a failing `git add` always propagates.  What the test looks at is
    `self.name == 'hg' and … in (ex.stderr or b"")`, NOT `str(ex)`: `apiAdd_independent_of_excText` /
    `vcsCommit_independent_of_excText` prove that the text of the exception (it contains the argv, hence every
    configured PATH) does not matter.  (A test `"already tracked!" in str(ex)` would let a path containing these
    words make a failing add disappear, for git and hg.)
-/
import BumpverVerif.Gen.F_vcsCommit
import BumpverVerif.Proofs.Tie_apiGetRemote
set_option linter.unusedSimpArgs false
namespace BV
open GenE

/-- the text `VCSAPI.add` looks for in the stderr of the failing command -/
def alreadyTracked : Str := ['a', 'l', 'r', 'e', 'a', 'd', 'y', ' ', 't', 'r', 'a', 'c', 'k', 'e', 'd', '!']

/-- `VCSAPI.add` in general: a failing invocation is swallowed iff the VCS is Mercurial AND its stderr says
    "already tracked!" -/
theorem apiAdd_spec (e : EffEnv) (s : PState) (api : VcsApi) (p : Str) :
    apiAdd api p e s =
      (match vcsCall e.plan (.add p) s with
       | (s', .ok) => (s', .ok ())
       | (s', .failed) =>
         if (api.name == ['h', 'g'] && isInfix alreadyTracked e.excStderr) then (s', .ok ())
         else (s', .error .called)) := by
  -- `ex.stderr or b""` of a run that captured nothing
  have hnil : isInfix alreadyTracked [] = false := by decide
  -- the name test in both orientations (`self.name == 'hg'` / `'hg' == self.name`)
  have hname : (['h', 'g'] = api.name) = (api.name = ['h', 'g']) := propext ⟨Eq.symm, Eq.symm⟩
  have hadd : Eff.callEv "add_path" [("path", p)] = .add p := rfl
  simp only [apiAdd, Eff.bind_pure_unit, Eff.tryCatch, Eff.bind_pure_liftC (Eff.call_run ..), hadd]
  rcases vcsCall e.plan (.add p) s with ⟨s', o⟩
  cases o
  · rfl
  · -- the handler: decide the two tests first, so that it does not matter how the Python arranges them
    by_cases hn : api.name = ['h', 'g'] <;> cases hi : isInfix alreadyTracked e.excStderr <;>
      cases hs : e.excStderr <;> simp only [hs] at hi <;>
      first
      | exact absurd (hnil.symm.trans hi) Bool.false_ne_true
      | simp [Eff.liftC, Eff.bind, Eff.excStderr, Eff.ite_run, Eff.pure, Eff.throw, Stop.isA, hs, hname, hn, hi,
          ← alreadyTracked.eq_1]

theorem tie_apiAdd (e : EffEnv) (s : PState) (api : VcsApi) (p : Str)
    (hx : (api.name == ['h', 'g'] && isInfix alreadyTracked e.excStderr) = false) :
    apiAdd api p e s = Eff.liftC () (vcsCall e.plan (.add p) s) := by
  rw [apiAdd_spec, hx]
  rcases vcsCall e.plan (.add p) s with ⟨s', o⟩
  cases o <;> rfl

/-- for git NO text plays a role: a failing `git add` always propagates -/
theorem tie_apiAdd_git (e : EffEnv) (s : PState) (api : VcsApi) (p : Str) (hk : api.name = ['g', 'i', 't']) :
    apiAdd api p e s = Eff.liftC () (vcsCall e.plan (.add p) s) :=
  tie_apiAdd e s api p (by rw [hk]; rfl)

/-- the text of the exception (`str(ex)`: "Command '[argv]' returned non-zero exit status N", i.e. the
    configured path) plays no role, for either VCS -/
theorem apiAdd_independent_of_excText (e : EffEnv) (s : PState) (api : VcsApi) (p t : Str) :
    apiAdd api p { e with excText := t } s = apiAdd api p e s := by
  rw [apiAdd_spec, apiAdd_spec]

theorem tie_apiCommit (e : EffEnv) (s : PState) (api : VcsApi) (m : Str) :
    apiCommit api m e s = Eff.liftC () (vcsCall e.plan (.cmd "commit") s) := by
  simp only [apiCommit, Eff.bind_pure_unit, Eff.tryFinally_pure, Eff.ite_run]
  split <;> exact Eff.bind_pure_liftC (Eff.call_run ..)

/-- annotated tag when there is a tag message, lightweight tag otherwise -/
theorem tie_apiTag (e : EffEnv) (s : PState) (api : VcsApi) (t m : Str) :
    apiTag api t m e s = Eff.liftC () (vcsCall e.plan (.cmd (if m.isEmpty then "tag_light" else "tag")) s) := by
  cases hm : m.isEmpty <;>
    simp only [apiTag, Eff.bind_pure_unit, hm, Bool.not_true, Bool.not_false, if_true, if_false, Bool.false_eq_true] <;>
    exact Eff.bind_pure_liftC (Eff.call_run ..)

/-! `push_tag` / `push`: look up the remote, push only when there is one -/

theorem apiPushTag_spec (e : EffEnv) (s : PState) (api : VcsApi) (t : Str) :
    apiPushTag api t e s = thenIfRemote e "push_tag" (apiGetRemote api e s) := by
  simp only [apiPushTag, Eff.bind_pure_unit]
  refine bind_getRemote e s api fun r s' => ?_
  rcases r with _ | r
  · rfl
  · cases hr : r.isEmpty <;>
      simp only [truthyOS, hr, Bool.not_true, Bool.not_false, if_true, if_false, Bool.false_eq_true]
    · exact Eff.bind_pure_liftC (Eff.call_run ..)
    · rfl

theorem apiPush_spec (e : EffEnv) (s : PState) (api : VcsApi) :
    apiPush api e s = thenIfRemote e "push" (apiGetRemote api e s) := by
  simp only [apiPush, Eff.bind_pure_unit]
  refine bind_getRemote e s api fun r s' => ?_
  rcases r with _ | r
  · rfl
  · cases hr : r.isEmpty <;>
      simp only [truthyOS, hr, Bool.not_true, Bool.not_false, if_true, if_false, Bool.false_eq_true]
    · exact Eff.bind_pure_liftC (Eff.call_run ..)
    · rfl

theorem tie_apiPushTag (e : EffEnv) (s : PState) (api : VcsApi) (t : Str) (hc : RemoteCoherent e)
    (hk : api.name = e.plan.kind.name) :
    apiPushTag api t e s = Eff.liftC () (remotePiece e.plan "push_tag" s) := by
  rw [apiPushTag_spec, thenIfRemote_coherent e s api _ hc hk]

theorem tie_apiPush (e : EffEnv) (s : PState) (api : VcsApi) (hc : RemoteCoherent e)
    (hk : api.name = e.plan.kind.name) :
    apiPush api e s = Eff.liftC () (remotePiece e.plan "push" s) := by
  rw [apiPush_spec, thenIfRemote_coherent e s api _ hc hk]

/-- what the plan model keeps of a `config.Config` in the commit phase (`scopeBranch` plays no role there) -/
def absCfgE {α : Type} (tagMsg : Str) (c : Config α) : PlanCfg :=
  { commit := c.commit, tag := c.tag, push := c.push,
    preHook := !c.pre_commit_hook.isEmpty, postHook := !c.post_commit_hook.isEmpty,
    scopeBranch := c.tag_scope == .BRANCH, tagMsgEmpty := tagMsg.isEmpty }

/-- from "the object is the environment's VCS" and "hg's own stderr does not say already tracked" -/
theorem addGuard_false (e : EffEnv) (api : VcsApi) (hk : api.name = e.plan.kind.name)
    (hx : e.plan.kind = .hg → isInfix alreadyTracked e.excStderr = false) :
    (api.name == ['h', 'g'] && isInfix alreadyTracked e.excStderr) = false := by
  rw [hk]
  cases hkind : e.plan.kind with
  | git => rfl
  | hg => simp [VcsKind.name, hx hkind]

/-- everything the commit-phase tie assumes about the environment -/
structure CommitCoherent {α : Type} (e : EffEnv) (cfg : Config α) (api : VcsApi) (new_version : Str) : Prop where
  remote : RemoteCoherent e
  kind : api.name = e.plan.kind.name
  /-- only for Mercurial: the failing command's OWN stderr does not say "already tracked!" -/
  notTracked : e.plan.kind = .hg → isInfix alreadyTracked e.excStderr = false
  old : cfg.current_version = e.plan.startVersion
  new : new_version = e.plan.announced

theorem commitPhase_steps (e : PlanEnv) (c : PlanCfg) (s : PState) :
    commitPhase e c s =
      planThen (hookStep c.preHook e.preOk (.preHook e.startVersion e.announced) s) fun s0 =>
      planThen (addAll e e.files s0) fun s1 =>
      planThen (vcsCall e (.cmd "commit") s1) fun s2 =>
      planThen (hookStep c.postHook e.postOk (.postHook e.startVersion e.announced) s2) fun s3 =>
      planThen (if c.tag then vcsCall e (.cmd (if c.tagMsgEmpty then "tag_light" else "tag")) s3 else (s3, .ok)) fun s4 =>
      if c.push then remotePiece e (if c.tag then "push_tag" else "push") s4 else (s4, .ok) := by
  simp only [planThen_hookStep]
  rfl

theorem vcsCommit_shows {α : Type} (e : EffEnv) (s : PState) (cfg : Config α) (api : VcsApi)
    (new_version cm tm : Str) (h : CommitCoherent e cfg api new_version) (hcommit : cfg.commit = true) :
    Eff.Shows Stop.vcsOrHook (vcsCommit cfg api e.plan.files new_version cm tm e s)
      (commitPhase e.plan (absCfgE tm cfg) s) := by
  obtain ⟨hc, hk, hx0, hold, hnew⟩ := h
  have hbody : ∀ p s, vcsCommit.body_1 api p e s = Eff.liftC none (vcsCall e.plan (.add p) s) :=
    fun p s => Eff.bind_pure_liftC (tie_apiAdd e s api p (addGuard_false e api hk hx0))
  rw [commitPhase_steps]
  -- with `cfg.commit` known, the monad laws leave one `bind` per phase
  simp only [vcsCommit, hcommit, if_true, if_false, Bool.true_and, Bool.and_true, Bool.not_true, Bool.false_eq_true,
    Eff.bind_assoc, Eff.pure_bind, Eff.bind_pure_unit]
  have hcalled : Stop.vcsOrHook .called := .inl rfl
  refine .bind ?pre fun _ s0 => .bind ?add fun _ s1 => .bind ?commit fun _ s2 => .bind ?post fun _ s3 =>
    .bind ?tag fun _ s4 => ?push
  case pre =>
    cases hp : cfg.pre_commit_hook.isEmpty <;>
      simp only [hp, absCfgE, hookStep, Bool.not_true, Bool.not_false, if_true, if_false, Bool.false_eq_true]
    · rw [hold, hnew]; exact .hook (.inr rfl) ..
    · exact .pure ..
  case add => rw [Eff.forIn_addAll e _ hbody]; exact .liftC hcalled ..
  case commit => rw [tie_apiCommit]; exact .liftC hcalled ..
  case post =>
    cases hp : cfg.post_commit_hook.isEmpty <;>
      simp only [hp, absCfgE, hookStep, Bool.not_true, Bool.not_false, if_true, if_false, Bool.false_eq_true]
    · rw [hold, hnew]; exact .hook (.inr rfl) ..
    · exact .pure ..
  case tag =>
    cases ht : cfg.tag <;> simp only [ht, absCfgE, if_true, if_false, Bool.false_eq_true]
    · exact .pure ..
    · rw [tie_apiTag]; exact .liftC hcalled ..
  case push =>
    cases hp : cfg.push <;> cases ht : cfg.tag <;>
      simp only [hp, ht, absCfgE, if_true, if_false, Bool.false_eq_true, Bool.and_self, Bool.and_false, Bool.and_true]
    · exact .pure ..
    · exact .pure ..
    · rw [tie_apiPush e _ api hc hk]; exact .liftC hcalled ..
    · rw [tie_apiPushTag e _ api _ hc hk]; exact .liftC hcalled ..

theorem tie_vcsCommit {α : Type} (e : EffEnv) (s : PState) (cfg : Config α) (api : VcsApi)
    (new_version cm tm : Str) (h : CommitCoherent e cfg api new_version) (hcommit : cfg.commit = true) :
    Eff.view (vcsCommit cfg api e.plan.files new_version cm tm e s) = commitPhase e.plan (absCfgE tm cfg) s :=
  (vcsCommit_shows e s cfg api new_version cm tm h hcommit).1

/-- with `commit` off, `vcs.commit` does nothing at all (no tag, no push: the guards `cfg.commit and …`) -/
theorem tie_vcsCommit_off {α : Type} (e : EffEnv) (s : PState) (cfg : Config α) (api : VcsApi)
    (files : List Str) (new_version cm tm : Str) (hcommit : cfg.commit = false) :
    vcsCommit cfg api files new_version cm tm e s = (s, .ok ()) := by
  simp only [vcsCommit, hcommit, Bool.false_and, Bool.and_false, Bool.not_false, if_true, if_false, Bool.false_eq_true,
    Eff.pure_bind]
  rfl

/-- the only ways the commit phase stops are a failing VCS invocation (CalledProcessError, turned into
    exit 1 by `_try_update`) and a failing hook (`sys.exit(1)`) -/
theorem vcsCommit_stop_kinds {α : Type} (e : EffEnv) (s : PState) (cfg : Config α) (api : VcsApi)
    (new_version cm tm : Str) (h : CommitCoherent e cfg api new_version) :
    match (vcsCommit cfg api e.plan.files new_version cm tm e s).2 with
    | .error x => x = .called ∨ x = .exit 1
    | .ok _ => True := by
  cases hcommit : cfg.commit with
  | false => rw [tie_vcsCommit_off e s cfg api _ new_version cm tm hcommit]; trivial
  | true =>
    have hx := (vcsCommit_shows e s cfg api new_version cm tm h hcommit).2
    cases hr : (vcsCommit cfg api e.plan.files new_version cm tm e s).2 with
    | ok _ => trivial
    | error x => exact hx x hr

/-! ### non-vacuity and the `already tracked!` finding -/

private def exCfg : Config Unit :=
  { current_version := ['1'], version_pattern := [], pep440_version := ['1'], commit_message := [],
    tag_message := [], tag_scope := .DEFAULT, pre_commit_hook := ['h'], post_commit_hook := [],
    commit := true, tag := true, push := true, is_new_pattern := true, file_patterns := () }
private def exPlan (k : VcsKind) (f : Option Nat) : PlanEnv :=
  ⟨k, true, f, true, false, false, true, true, true, true, true, [['a'], ['b']], ['1'], ['2']⟩
private def exEnv (k : VcsKind) (f : Option Nat) (err : Str) : EffEnv :=
  { plan := exPlan k f, output := fun _ => [],
    branchMatches := fun _ => [fun g => if g == "is_current" then some ['*'] else if g == "remote" then some ['o'] else none],
    excText := [], excStderr := err, osErrno := 0 }
private def exApi (k : VcsKind) : VcsApi := ⟨k.name⟩

example : CommitCoherent (exEnv .git (some 3) []) exCfg (exApi .git) ['2'] :=
  ⟨⟨by decide, by decide, by decide⟩, by decide, by decide, by decide, by decide⟩
/-- for git the hypotheses hold whatever the stderr says -/
example : CommitCoherent (exEnv .git (some 3) alreadyTracked) exCfg (exApi .git) ['2'] :=
  ⟨⟨by decide, by decide, by decide⟩, by decide, by decide, by decide, by decide⟩

/-- a full run: pre hook, two adds, commit, tag (lightweight: empty message), remote lookup, push_tag -/
example : (Eff.view (vcsCommit exCfg (exApi .git) (exPlan .git none).files ['2'] [] [] (exEnv .git none []) ⟨[], 0⟩)).1.evs.reverse
    = [.preHook ['1'] ['2'], .add ['a'], .add ['b'], .cmd "commit", .cmd "tag_light", .cmd "ls_branches",
       .cmd "push_tag"] := by decide

/-- the Mercurial case, BY DESIGN: when the failing `hg add` itself reports "already tracked!" on stderr, the
    failure is ignored and the run goes on to commit, tag and push.  The hand model has no such case (it stops
    at the failing `add`), hence the hypothesis `notTracked` of the tie. -/
theorem vcsCommit_hg_already_tracked_ignored :
    let e := exEnv .hg (some 0) alreadyTracked
    (Eff.view (vcsCommit exCfg (exApi .hg) e.plan.files ['2'] [] [] e ⟨[], 0⟩)).2 = .ok ∧
    (commitPhase e.plan (absCfgE [] exCfg) ⟨[], 0⟩).2 = .failed := by
  decide

/-- the same stderr under git: the failing add stops the run, as in the model (git quotes the path in its own
    messages, so its stderr must not be trusted either) -/
theorem vcsCommit_git_stderr_irrelevant :
    let e := exEnv .git (some 0) alreadyTracked
    (Eff.view (vcsCommit exCfg (exApi .git) e.plan.files ['2'] [] [] e ⟨[], 0⟩)).2 = .failed ∧
    (Eff.view (vcsCommit exCfg (exApi .git) e.plan.files ['2'] [] [] e ⟨[], 0⟩)).1.evs
      = (commitPhase e.plan (absCfgE [] exCfg) ⟨[], 0⟩).1.evs ∧
    (commitPhase e.plan (absCfgE [] exCfg) ⟨[], 0⟩).2 = .failed := by
  decide

/-- … whereas the words in the exception TEXT (a configured path named `… already tracked! …`) change nothing:
    the whole commit phase is independent of `excText` -/
theorem vcsCommit_independent_of_excText {α : Type} (e : EffEnv) (s : PState) (cfg : Config α) (api : VcsApi)
    (files : List Str) (new_version cm tm t : Str) :
    vcsCommit cfg api files new_version cm tm { e with excText := t } s
      = vcsCommit cfg api files new_version cm tm e s := by
  -- no primitive that `commit` reaches reads `excText`: each callee answers the same in both environments
  have hLoop := fun s => Eff.forIn_env_congr (vcsCommit.body_1 api) { e with excText := t } e
    (fun p s => by simp only [vcsCommit.body_1, Eff.bind, apiAdd_independent_of_excText]; rfl) files s
  have hRemote : ∀ s, apiGetRemote api { e with excText := t } s = apiGetRemote api e s := by
    intro s; unfold apiGetRemote; eff_simp <;> eff_auto
  have hCommit : ∀ m s, apiCommit api m { e with excText := t } s = apiCommit api m e s :=
    fun m s => (tie_apiCommit _ s api m).trans (tie_apiCommit e s api m).symm
  have hTag : ∀ a b s, apiTag api a b { e with excText := t } s = apiTag api a b e s :=
    fun a b s => (tie_apiTag _ s api a b).trans (tie_apiTag e s api a b).symm
  have hPushTag : ∀ a s, apiPushTag api a { e with excText := t } s = apiPushTag api a e s := by
    intro a s; rw [apiPushTag_spec, apiPushTag_spec, hRemote]; rfl
  have hPush : ∀ s, apiPush api { e with excText := t } s = apiPush api e s := by
    intro s; rw [apiPush_spec, apiPush_spec, hRemote]; rfl
  simp only [vcsCommit, Eff.bind, Eff.ite_run, hLoop, hCommit, hTag, hPushTag, hPush]
  rfl

end BV
