/-
  Proofs/Tie_diff.lean — the definition GENERATED from the Python source of `v2rewrite.diff`
  (Gen/F_diff.lean; `difflib` stays the parameter `diff_lines`) against the dry path of the hand model
  (`diffFile` / `diffFiles`, Model/Diff.lean), up to (old_lines, new_lines):

  * `tie_diff` : the file system is untouched; if a configured file is missing the result is the IOError
    (ALL files are checked first: `sorted(...)` runs `iter_path_patterns_items` to exhaustion); otherwise the
    files are processed in the order of their paths and each contributes `"\n".join(diff_lines(rfd)) + "\n"`
    where `rfd` carries exactly the (old_lines, new_lines) of the model's `diffFile` — the same `rewriteLines`
    of the same split content that `rewrite_files` writes (tie_rewriteFiles) — or fails with `diffFile`'s error;
  * `diffFold_outcome` : success / the error of that fold is success / the error of the model's `diffFiles`
    on the same (sorted) list.

  Explicit hypotheses (each is a place where Python and the model differ or where a parameter is used):
  * `hdl`  : `diff_lines rfd` is empty iff old_lines = new_lines (the model tests `old == new`, Python tests
             `len(lines) == 0` on difflib's output; difflib itself is not modelled);
  * `hfmt` : `format_version` succeeds on every raw pattern for the old and the new record (Python
             propagates the exception out of `_patterns_with_change`, the model compares `Except` values:
             `patternsWithChange_raises`).
  The model's `diffFiles` takes the files in configuration order and reports the first failing file's error; the
  Python code sorts by path and reports a missing file before any other failure.
-/
import BumpverVerif.Gen.F_diff
import BumpverVerif.Model.Diff
import BumpverVerif.Proofs.DiffLemmas
import BumpverVerif.Proofs.Tie_iterPathPatternsItems
import BumpverVerif.Proofs.Tie_patternsWithChange
import BumpverVerif.Proofs.Tie_iterRewritten
import BumpverVerif.Proofs.Tie_diffFold
namespace BV

open GenF (Pattern RewrittenFileData)

def diffFold (diff_lines : RewrittenFileData → List Str) (fs : FS) (old new : VInfo)
    (l : List (Str × List Pattern)) (acc : Str) : Except RwErr Str :=
  TieM.diffFoldWith (fun fs => diffFile fs old new) diff_lines fs l acc

/-- what the loop of `diff` needs of its files -/
def DiffReady (old new : VInfo) (it : Str × List Pattern) : Prop :=
  ∀ p ∈ it.2, p.Wf ∧ (∃ a, formatVersion old p.raw_pattern = .ok a) ∧ (∃ b, formatVersion new p.raw_pattern = .ok b)

theorem tie_diff (old_vinfo new_vinfo : VInfo) (file_patterns : List (Str × List Pattern))
    (diff_lines : RewrittenFileData → List Str) (fs : FS)
    (hdl : ∀ rfd, (diff_lines rfd).length = 0 ↔ rfd.old_lines = rfd.new_lines)
    (hready : ∀ it ∈ file_patterns, DiffReady old_vinfo new_vinfo it) :
    GenF.diff old_vinfo new_vinfo file_patterns diff_lines fs =
      (fs, if file_patterns.all (fun it => (lookup it.1 fs).isSome) then
             (diffFold diff_lines fs old_vinfo new_vinfo
               (GenF.pySortedBy (fun x => x.1) (fun a b => strLt a b) file_patterns) []).map
                 (rstripChars "\n".toList)
           else .error .missingFile) := by
  unfold GenF.diff diffFold
  simp only [tie_iterPathPatternsItems]
  by_cases hall : file_patterns.all (fun it => (lookup it.1 fs).isSome) = true
  · simp only [hall, if_true]
    rw [TieM.pyForFS_eq_diffFoldWith (fun fs => diffFile fs old_vinfo new_vinfo) diff_lines
      (DiffReady old_vinfo new_vinfo) _ ?hb _ ?hl]
    case hl =>
      intro it hit
      unfold GenF.pySortedBy at hit
      exact hready it ((GenF.mem_foldr_pyInsertBy _ it _).1 hit)
    case hb =>
      intro it acc fs' hit
      have hwf : ∀ p ∈ it.2, p.Wf := fun p hp => (hit p hp).1
      have hfmt := fun p hp => (hit p hp).2
      simp only [GenF.pyRead, TieM.diffStepWith, diffFile]
      have hl : lookup it.1 fs' = none ∨ ∃ c, lookup it.1 fs' = some c := by
        cases lookup it.1 fs' <;> simp
      rcases hl with hl | ⟨content, hl⟩
      · simp [hl]
      · simp only [hl, tie_rfdFromContent it.2 new_vinfo content _ hwf,
          tie_patternsWithChange old_vinfo new_vinfo it.2 hfmt]
        cases rewriteLines (it.2.map Pattern.abs) new_vinfo (splitOn (detectLineSep content) content) with
        | error e =>
          simp only [Except.map]
          split <;> simp_all
        | ok nl =>
          simp only [Except.map]
          have h1 := hdl (rfdOf it.1 content nl)
          by_cases heq : splitOn (detectLineSep content) content = nl
          · have hz : diff_lines (rfdOf it.1 content nl) = [] := List.length_eq_zero_iff.1 (h1.2 heq)
            subst heq
            simp only [rfdOf] at hz
            by_cases hpos : patternsWithChange old_vinfo new_vinfo (it.2.map Pattern.abs) > 0 <;>
              simp [hz, hpos, rfdOf]
          · have hz : ¬ diff_lines (rfdOf it.1 content nl) = [] :=
              fun h => heq (h1.1 (List.length_eq_zero_iff.2 h))
            simp only [rfdOf] at hz
            simp [hz, heq, rfdOf]
    rw [show ("".toList : Str) = [] from rfl]
    cases TieM.diffFoldWith (fun fs => diffFile fs old_vinfo new_vinfo) diff_lines fs
      (GenF.pySortedBy (fun x => x.1) (fun a b => strLt a b) file_patterns) [] <;> rfl
  · simp [hall]

/-- `diff` never writes: whatever the parameters, the file system comes back unchanged -/
theorem tie_diff_pure (old_vinfo new_vinfo : VInfo) (file_patterns : List (Str × List Pattern))
    (diff_lines : RewrittenFileData → List Str) (fs : FS) :
    (GenF.diff old_vinfo new_vinfo file_patterns diff_lines fs).1 = fs := by
  unfold GenF.diff
  simp only [tie_iterPathPatternsItems]
  by_cases hall : file_patterns.all (fun it => (lookup it.1 fs).isSome) = true
  · simp only [hall, if_true]
    generalize hres : GenF.pyForFS _ _ _ _ = res
    have h1 : res.1 = fs := by
      rw [← hres]
      refine GenF.pyForFS_fst _ ?_ _ _ _
      intro x st fs'
      repeat' split
      all_goals rfl
    obtain ⟨a, r⟩ := res
    simp only at h1
    subst h1
    cases r <;> rfl
  · simp [hall]
/-! ### the fold against the model's `diffFiles` -/

/-- success, or the error, of the per-file fold of `diff` is success, or the error, of the model's
    `diffFiles` on the same list of files -/
theorem diffFold_outcome (diff_lines : RewrittenFileData → List Str) (fs : FS) (old new : VInfo)
    (l : List (Str × List Pattern)) (acc : Str) :
    (diffFold diff_lines fs old new l acc).map (fun _ => ()) =
      (diffFiles fs old new (GenF.absFilePatterns l)).map (fun _ => ()) :=
  TieM.diffFoldWith_outcome _ diff_lines fs (fun path pats h => by simp only [diffFile, h])
    (diffFiles fs old new) rfl (fun _ _ _ => rfl) l acc

/-- `update --dry` succeeds exactly when the model's dry path succeeds on the files sorted by path -/
theorem tie_diff_ok_iff (old_vinfo new_vinfo : VInfo) (file_patterns : List (Str × List Pattern))
    (diff_lines : RewrittenFileData → List Str) (fs : FS)
    (hdl : ∀ rfd, (diff_lines rfd).length = 0 ↔ rfd.old_lines = rfd.new_lines)
    (hready : ∀ it ∈ file_patterns, DiffReady old_vinfo new_vinfo it) :
    (∃ text, GenF.diff old_vinfo new_vinfo file_patterns diff_lines fs = (fs, .ok text)) ↔
      (file_patterns.all (fun it => (lookup it.1 fs).isSome) = true ∧
       ∃ rs, diffFiles fs old_vinfo new_vinfo
          (GenF.absFilePatterns (GenF.pySortedBy (fun x => x.1) (fun a b => strLt a b) file_patterns)) = .ok rs) := by
  rw [tie_diff _ _ _ _ _ hdl hready]
  have ho := diffFold_outcome diff_lines fs old_vinfo new_vinfo
    (GenF.pySortedBy (fun x => x.1) (fun a b => strLt a b) file_patterns) []
  by_cases hall : file_patterns.all (fun it => (lookup it.1 fs).isSome) = true
  · simp only [hall, if_true, true_and]
    cases hf : diffFold diff_lines fs old_vinfo new_vinfo
        (GenF.pySortedBy (fun x => x.1) (fun a b => strLt a b) file_patterns) [] with
    | error e =>
      rw [hf] at ho
      cases hm : diffFiles fs old_vinfo new_vinfo
          (GenF.absFilePatterns (GenF.pySortedBy (fun x => x.1) (fun a b => strLt a b) file_patterns)) with
      | error e' => simp [Except.map]
      | ok rs => rw [hm] at ho; simp [Except.map] at ho
    | ok t =>
      rw [hf] at ho
      cases hm : diffFiles fs old_vinfo new_vinfo
          (GenF.absFilePatterns (GenF.pySortedBy (fun x => x.1) (fun a b => strLt a b) file_patterns)) with
      | error e' => rw [hm] at ho; simp [Except.map] at ho
      | ok rs => simp [Except.map]
  · simp [hall]

end BV
