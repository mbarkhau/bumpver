/-
  Proofs/Tie_iterFlatSegtree.lean — the definition GENERATED from the Python source of the GENERATOR
  `v2version._iter_flat_segtree` (Gen/F_iterFlatSegtree.lean: read as the function returning the list of the yielded
  values; `pre` / `loop` / `post`, the recursive call inside the loop, `for seg in <recursive call>: yield seg` a fold)
  equals the hand model `BV.flatSegs` on ALL trees.
-/
import BumpverVerif.Gen.F_iterFlatSegtree
namespace BV.TieF
open GenF GenF.FP

/-- `for x in xs: out.append(x)`, for any step function that appends -/
theorem foldl_append_each (f : List Str → Str → List Str) (hf : ∀ out x, f out x = out ++ [x]) :
    ∀ (xs out : List Str), List.foldl f out xs = out ++ xs
  | [], out => by simp
  | x :: xs, out => by
    rw [List.foldl_cons, hf, foldl_append_each f hf xs]
    simp

theorem flatSegs_cons (seg : Seg) (rest : List Seg) : flatSegs (seg :: rest) = flatSegs [seg] ++ flatSegs rest := by
  cases seg <;> simp [flatSegs]

mutual
  theorem iterFlatSegtree_loop_cons : (seg : Seg) → (rest : List Seg) → (out : List Str) →
      GenF.iterFlatSegtree.loop out (seg :: rest) = GenF.iterFlatSegtree.loop (out ++ flatSegs [seg]) rest
    | .lit s, rest, out => by rw [GenF.iterFlatSegtree.loop]; simp [flatSegs]
    | .grp sub, rest, out => by
      rw [GenF.iterFlatSegtree.loop]
      simp only [GenF.iterFlatSegtree.post, GenF.iterFlatSegtree.pre, iterFlatSegtree_loop sub]
      rw [foldl_append_each _ (by intro out x; rfl)]
      simp [flatSegs]
  /-- the loop: the yielded values so far, followed by the flattened rest -/
  theorem iterFlatSegtree_loop : (items : List Seg) → (out : List Str) →
      GenF.iterFlatSegtree.loop out items = out ++ flatSegs items
    | [], out => by simp [GenF.iterFlatSegtree.loop, flatSegs]
    | seg :: rest, out => by
      rw [iterFlatSegtree_loop_cons seg, iterFlatSegtree_loop rest, List.append_assoc, ← flatSegs_cons]
end

theorem _root_.BV.tie_iterFlatSegtree (items : List Seg) : GenF.iterFlatSegtree items = flatSegs items := by
  simp [GenF.iterFlatSegtree, GenF.iterFlatSegtree.post, GenF.iterFlatSegtree.pre, iterFlatSegtree_loop]

end BV.TieF
