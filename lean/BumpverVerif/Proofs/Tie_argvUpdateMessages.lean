/-
  Proofs/Tie_argvUpdateMessages.lean — source-level tie for the MESSAGE PART of `cli.update`
  (Gen/F_argvUpdateMessages.lean: the backward data-flow slice of the two message arguments of the call
  `_try_update(cfg, new_version, <commit message>, <tag message>, allow_dirty)`; property C12).

  The hand model has no function for "which template is used", so the reference definitions are written here:

    * `msgTemplateRef`   : `--commit-message` / `--tag-message` absent (None) → the configured template, verbatim;
                           given → the CLI text with the OLD / NEW shorthand rewritten (`subMsgTemplate`);
                           an EMPTY CLI text is "given" (it is not None) — so `--tag-message ""` yields an empty
                           tag message, i.e. a lightweight tag (`update_empty_cli_tag_message`);
    * `msgKwargs`        : the six documented placeholders and their values;
    * `renderMessagesRef`: `template.format(**kwargs)` for the commit message, then for the tag message
                           (the model's `pyFormat`; the first exception wins).

  `tie_argvUpdateMessages`: the generated slice = `renderMessagesRef`, for all configurations, CLI values and
  versions.  Hypothesis: the word-class agreement of `tie_argvSubMsgTemplate` for the CLI texts (see there).
  `update_message_render` composes the tie with `C12_message_render` (Props/C12.lean): a template written with
  the documented placeholders is rendered by replacing each placeholder by its value, in one pass.
-/
import BumpverVerif.Gen.F_argvUpdateMessages
import BumpverVerif.Proofs.Tie_argvSubMsgTemplate
import BumpverVerif.Props.C12
namespace BV.TieK
open BV.TieK.Gen

/-- which template: the configured one, or the CLI text with OLD / NEW rewritten -/
def msgTemplateRef (cfgTmpl : Str) (cli : Option Str) : Str :=
  match cli with
  | none => cfgTmpl
  | some m => subMsgTemplate m

/-- the keyword arguments of `template.format(**kwargs)` -/
def msgKwargs (old new : Str) : List (Str × Str) :=
  [("new_version".toList, new), ("old_version".toList, old),
   ("NEW_VERSION".toList, new), ("OLD_VERSION".toList, old),
   ("new_version_pep440".toList, pyToPep440 new), ("old_version_pep440".toList, pyToPep440 old)]

/-- the two rendered messages (commit, tag); the commit message is rendered first -/
def renderMessagesRef (cfgCommit cfgTag : Str) (cm tm : Option Str) (old new : Str) : Except FmtErr (Str × Str) :=
  match pyFormat (msgKwargs old new) (msgTemplateRef cfgCommit cm) with
  | .error e => .error e
  | .ok c =>
    match pyFormat (msgKwargs old new) (msgTemplateRef cfgTag tm) with
    | .error e => .error e
    | .ok t => .ok (c, t)

theorem msgKwargs_eq (old new : Str) :
    dictUpdate [] [(['n', 'e', 'w', '_', 'v', 'e', 'r', 's', 'i', 'o', 'n'], new),
      (['o', 'l', 'd', '_', 'v', 'e', 'r', 's', 'i', 'o', 'n'], old),
      (['N', 'E', 'W', '_', 'V', 'E', 'R', 'S', 'I', 'O', 'N'], new),
      (['O', 'L', 'D', '_', 'V', 'E', 'R', 'S', 'I', 'O', 'N'], old),
      (['n', 'e', 'w', '_', 'v', 'e', 'r', 's', 'i', 'o', 'n', '_', 'p', 'e', 'p', '4', '4', '0'], pyToPep440 new),
      (['o', 'l', 'd', '_', 'v', 'e', 'r', 's', 'i', 'o', 'n', '_', 'p', 'e', 'p', '4', '4', '0'], pyToPep440 old)]
      = msgKwargs old new := by
  unfold msgKwargs
  -- the literals are decoded by lemma: comparing the keys by evaluation would run the UTF-8 decoder on each
  repeat rw [String.toList_ofList]
  rfl

theorem Eff.bind_run_ok {α β : Type} {m : Eff α} {f : α → Eff β} {w : World} {s s' : List KEv} {a : α}
    (h : m w s = (s', .ok a)) : Eff.bind m f w s = f a w s' := by
  simp only [Eff.bind, h]

/-- formatting the two templates, commit message first -/
theorem render_run (kw : List (Str × Str)) (ct tt : Str) (w : World) (s : List KEv) :
    Eff.bind (Eff.format ct kw) (fun c => Eff.bind (Eff.format tt kw) (fun t => Eff.pure (c, t))) w s
      = (s, (match pyFormat kw ct with
          | .error e => .error e
          | .ok c => match pyFormat kw tt with
            | .error e => .error e
            | .ok t => .ok (c, t) : Except FmtErr (Str × Str)).mapError stopOfFmt) := by
  simp only [Eff.bind, Eff.format_eq]
  cases pyFormat kw ct with
  | error e => rfl
  | ok c =>
    simp only [Eff.ofExcept, Except.mapError, Eff.pure]
    cases pyFormat kw tt <;> rfl

theorem tie_argvUpdateMessages {α : Type} (cfg : Config α) (cm tm : Option Str) (old new : Str)
    (w : World) (s : List KEv)
    (hcm : ∀ m, cm = some m → ∀ c ∈ m, w.isWord c = isWordChar c)
    (htm : ∀ m, tm = some m → ∀ c ∈ m, w.isWord c = isWordChar c) :
    argvUpdateMessages cfg cm tm old new w s
      = (s, (renderMessagesRef cfg.commit_message cfg.tag_message cm tm old new).mapError stopOfFmt) := by
  unfold argvUpdateMessages renderMessagesRef
  simp only [msgKwargs_eq, Eff.bind_pure_right]
  cases cm with
  | none =>
    cases tm with
    | none => exact render_run _ _ _ w s
    | some t =>
      simp only [Eff.bind_pure_left]
      rw [Eff.bind_run_ok (tie_argvSubMsgTemplate t w s (htm t rfl))]
      exact render_run _ _ _ w s
  | some c =>
    rw [Eff.bind_run_ok (tie_argvSubMsgTemplate c w s (hcm c rfl))]
    cases tm with
    | none => exact render_run _ _ _ w s
    | some t =>
      rw [Eff.bind_run_ok (tie_argvSubMsgTemplate t w s (htm t rfl))]
      exact render_run _ _ _ w s

/-! ### what the reference says (the C12 content) -/

/-- the documented placeholders -/
def docKeys : List Str :=
  ["new_version".toList, "old_version".toList, "NEW_VERSION".toList, "OLD_VERSION".toList,
   "new_version_pep440".toList, "old_version_pep440".toList]

theorem docKeys_simple : docKeys.all simpleName = true := by
  unfold docKeys
  repeat rw [String.toList_ofList]
  decide +kernel

theorem msgKwargs_keys (old new : Str) : (msgKwargs old new).map Prod.fst = docKeys := by
  simp only [msgKwargs, docKeys, List.map_cons, List.map_nil]

theorem docKeys_ok (old new : Str) :
    ∀ k ∈ docKeys, simpleName k = true ∧ (lookup k (msgKwargs old new)).isSome = true := fun k hk =>
  ⟨List.all_eq_true.1 docKeys_simple k hk, (lookup_isSome_iff _ _).2 (msgKwargs_keys old new ▸ hk)⟩

/-- the values: `{new_version}` and `{NEW_VERSION}` are the new version, `{old_version}` / `{OLD_VERSION}` the
    version the update started from, the two `_pep440` forms their PEP 440 normalisations -/
theorem msgKwargs_values (old new : Str) :
    lookup "new_version".toList (msgKwargs old new) = some new ∧
    lookup "old_version".toList (msgKwargs old new) = some old ∧
    lookup "NEW_VERSION".toList (msgKwargs old new) = some new ∧
    lookup "OLD_VERSION".toList (msgKwargs old new) = some old ∧
    lookup "new_version_pep440".toList (msgKwargs old new) = some (pyToPep440 new) ∧
    lookup "old_version_pep440".toList (msgKwargs old new) = some (pyToPep440 old) := by
  unfold msgKwargs
  repeat rw [String.toList_ofList]
  exact ⟨rfl, rfl, rfl, rfl, rfl, rfl⟩

/-- a template written with the documented placeholders is rendered by replacing each placeholder by its value,
    in one pass, whatever the values contain (composition with `C12_message_render`) -/
theorem update_message_render (ps : List Piece) (old new : Str)
    (hps : ∀ p ∈ ps, ∀ k, p = .ph k → k ∈ docKeys) :
    pyFormat (msgKwargs old new) (ps.flatMap Piece.render) = .ok (ps.flatMap (Piece.value (msgKwargs old new))) :=
  C12_message_render ps (msgKwargs old new) (fun p hp k hk => docKeys_ok old new k (hps p hp k hk))

/-- … hence for a CONFIGURED commit template of that form and no `--commit-message`, the message handed on is
    exactly that rendering -/
theorem update_config_commit_message (cfgTag : Str) (ps : List Piece) (tm : Option Str) (old new : Str)
    (hps : ∀ p ∈ ps, ∀ k, p = .ph k → k ∈ docKeys) :
    (renderMessagesRef (ps.flatMap Piece.render) cfgTag none tm old new).map Prod.fst
      = (pyFormat (msgKwargs old new) (msgTemplateRef cfgTag tm)).map
          (fun _ => ps.flatMap (Piece.value (msgKwargs old new))) := by
  simp only [renderMessagesRef, msgTemplateRef, update_message_render ps old new hps]
  cases pyFormat (msgKwargs old new) (match tm with | none => cfgTag | some m => subMsgTemplate m) <;> rfl

/-- an EMPTY `--tag-message` is not "absent": the rendered tag message is empty (→ lightweight tag, see
    `tie_argvTag`), whatever the configuration says -/
theorem update_empty_cli_tag_message (cfgCommit cfgTag : Str) (cm : Option Str) (old new : Str) :
    (renderMessagesRef cfgCommit cfgTag cm (some []) old new).map Prod.snd
      = (pyFormat (msgKwargs old new) (msgTemplateRef cfgCommit cm)).map (fun _ => []) := by
  simp only [renderMessagesRef]
  cases pyFormat (msgKwargs old new) (msgTemplateRef cfgCommit cm) <;> rfl

/-- … while an ABSENT one means the configured tag template -/
theorem update_absent_cli_tag_message (cfgTag : Str) : msgTemplateRef cfgTag none = cfgTag := rfl

end BV.TieK
