/-
  Proofs/Tie_parseSegtree.lean — the definition GENERATED from the Python source of `v2version._parse_segtree`
  (Gen/F_parseSegtree.lean) equals the hand model `BV.parseSegtree` on ALL inputs.

  The two are structured very differently:
  * Python: index loop over `"[" + raw + "]"` with `raw[i-1]`, `raw[start:end]`, and a stack of MUTABLE list objects that
    alias each other (a new branch is appended to its parent AND pushed on the stack, later appends through the stack
    are seen by the parent); the result `internal_root[0]` is an object graph.  The translation keeps that: a heap of
    list objects (`Heap`), references, and a reification of the returned object (prelude).
  * Model : `segtreeGo`, a structural recursion over the characters with the reversed current segment, the previous
    character, and a stack of reversed IMMUTABLE item lists in which a child is added to its parent only when it closes.

  The proof is a simulation: `Inv` relates the two states after every prefix of the input (the objects on the stack
  form a chain root → … → innermost through their last items; everything else in the heap is finished and denotes, by
  the relation `D`, exactly the model's items); `D.reify` shows that the prelude's fuel-bounded reification computes
  that denotation (children always have larger object numbers than their parents, so `heap.length` is enough fuel).

  No hypothesis.  The exceptions: Python raises ValueError exactly where the model returns `.error` (which is always
  `.valueError`), and never IndexError / NotImplementedError / TypeError.
-/
import BumpverVerif.Gen.F_parseSegtree
import BumpverVerif.Proofs.V2Lemmas
namespace BV.TieF
open GenF GenF.FP
set_option linter.unusedSimpArgs false

theorem Heap.append_length (h : Heap) (r : Nat) (x : HItem) : (Heap.append h r x).length = h.length := by
  simp [Heap.append]

theorem Heap.append_getD (h : Heap) (r r' : Nat) (x : HItem) :
    (Heap.append h r x).getD r' [] = if r' = r ∧ r' < h.length then h.getD r' [] ++ [x] else h.getD r' [] := by
  simp only [Heap.append, List.getD_eq_getElem?_getD, List.getElem?_map, List.getElem?_zipIdx]
  by_cases hlt : r' < h.length
  · simp only [List.getElem?_eq_getElem hlt, Option.map_some, Option.getD_some, Nat.zero_add, hlt, and_true]
    by_cases he : r' = r <;> simp [he]
  · simp [List.getElem?_eq_none (Nat.le_of_not_lt hlt), hlt]

theorem Heap.append_getD_ne (h : Heap) {r r' : Nat} (x : HItem) (hne : r' ≠ r) :
    (Heap.append h r x).getD r' [] = h.getD r' [] := by
  rw [Heap.append_getD, if_neg (fun hc => hne hc.1)]

theorem Heap.append_getD_self (h : Heap) {r : Nat} (x : HItem) (hlt : r < h.length) :
    (Heap.append h r x).getD r [] = h.getD r [] ++ [x] := by
  rw [Heap.append_getD, if_pos ⟨rfl, hlt⟩]

theorem Heap.alloc_fst_getD (h : Heap) (r : Nat) : (Heap.alloc h).1.getD r [] = h.getD r [] := by
  simp only [Heap.alloc, List.getD_eq_getElem?_getD, List.getElem?_append]
  by_cases hlt : r < h.length
  · simp [hlt]
  · simp only [hlt, if_false, List.getElem?_eq_none (Nat.le_of_not_lt hlt), Option.getD_none]
    cases r - h.length <;> simp

theorem pyIndex_reverse_last {α : Type} (t : α) (ps : List α) : pyIndex ((t :: ps).reverse) (-1) = .ok t := by
  simp only [pyIndex, List.length_reverse, List.length_cons]
  have h1 : ((-1 : Int) < 0) := by omega
  simp only [h1, if_true]
  have h2 : ¬ ((-1 : Int) + Int.ofNat (ps.length + 1) < 0) := by simp only [Int.ofNat_eq_natCast]; omega
  simp only [h2, if_false]
  have h3 : ((-1 : Int) + Int.ofNat (ps.length + 1)).toNat = ps.length := by simp only [Int.ofNat_eq_natCast]; omega
  rw [h3]
  simp

theorem pyPop_reverse {α : Type} (t : α) (ps : List α) : pyPop ((t :: ps).reverse) = .ok (ps.reverse, t) := by
  simp [pyPop]

theorem pyIndex_pre (pre suf : Str) (hne : pre ≠ []) :
    pyIndex (pre ++ suf) ((pre.length : Int) - 1) = .ok (pre.getLast hne) := by
  have hpos : 0 < pre.length := List.length_pos_iff.mpr hne
  simp only [pyIndex]
  have h1 : ¬ ((pre.length : Int) - 1 < 0) := by omega
  simp only [h1, if_false]
  have h3 : ((pre.length : Int) - 1).toNat = pre.length - 1 := by omega
  rw [h3, List.getElem?_append_left (by omega)]
  rw [List.getLast_eq_getElem]
  simp [List.getElem?_eq_getElem (show pre.length - 1 < pre.length by omega)]

theorem pySlice_pre (pre suf : Str) (s : Nat) (hs : s ≤ pre.length) :
    pySlice (pre ++ suf) (s : Int) (pre.length : Int) = pre.drop s := by
  simp only [pySlice, pySliceBound, List.length_append]
  have h1 : ¬ ((s : Int) < 0) := by omega
  have h2 : ¬ ((pre.length : Int) < 0) := by omega
  have h3 : ¬ ((s : Int) > Int.ofNat (pre.length + suf.length)) := by simp only [Int.ofNat_eq_natCast]; omega
  have h4 : ¬ ((pre.length : Int) > Int.ofNat (pre.length + suf.length)) := by
    simp only [Int.ofNat_eq_natCast]; omega
  simp only [h1, h2, h3, h4, if_false, Int.toNat_natCast, List.take_left']

inductive D (h : Heap) (S : List Nat) : Nat → List HItem → List Seg → Prop
  | nil (lo : Nat) : D h S lo [] []
  | str {lo : Nat} {xs : List HItem} {ts : List Seg} (s : Str) :
      D h S lo xs ts → D h S lo (.str s :: xs) (.lit s :: ts)
  | ref {lo r : Nat} {xs : List HItem} {t ts : List Seg} :
      lo ≤ r → r < h.length → r ∉ S → D h S (r + 1) (h.getD r []) t → D h S lo xs ts →
      D h S lo (.ref r :: xs) (.grp t :: ts)

theorem D.append {h : Heap} {S : List Nat} {lo : Nat} {xs ys : List HItem} {ts us : List Seg}
    (h1 : D h S lo xs ts) (h2 : D h S lo ys us) : D h S lo (xs ++ ys) (ts ++ us) := by
  induction h1 with
  | nil lo => exact h2
  | str s _ ih => exact D.str s (ih h2)
  | ref a b c d _ _ ih2 => exact D.ref a b c d (ih2 h2)

theorem D.transfer {h h' : Heap} {S S' : List Nat} (hlen : h.length ≤ h'.length)
    (hkeep : ∀ r, r < h.length → r ∉ S → (r ∉ S' ∧ h'.getD r [] = h.getD r []))
    {lo : Nat} {xs : List HItem} {ts : List Seg} (hd : D h S lo xs ts) : D h' S' lo xs ts := by
  induction hd with
  | nil lo => exact D.nil lo
  | str s _ ih => exact D.str s ih
  | ref a b c _ _ ih1 ih2 =>
    have hk := hkeep _ b c
    exact D.ref a (Nat.lt_of_lt_of_le b hlen) hk.1 (hk.2 ▸ ih1) ih2

def childItems : Option Nat → List HItem
  | none => []
  | some r => [.ref r]

/-- the objects under construction (innermost first) against the model's stack of reversed item lists -/
def StackRel (h : Heap) (S : List Nat) : List Nat → List (List Seg) → Option Nat → Nat → Prop
  | [], [], _, _ => True
  | r :: ps, m :: ms, child, ub =>
      r < ub ∧ (∃ c, h.getD r [] = c ++ childItems child ∧ D h S (r + 1) c m.reverse) ∧
        StackRel h S ps ms (some r) r
  | _, _, _, _ => False

theorem StackRel.length {h : Heap} {S : List Nat} : ∀ {pst : List Nat} {ms : List (List Seg)} {child : Option Nat}
    {ub : Nat}, StackRel h S pst ms child ub → pst.length = ms.length
  | [], [], _, _, _ => rfl
  | _ :: ps, _ :: ms, _, _, hr => by
    simp only [StackRel] at hr
    simp [StackRel.length hr.2.2]
  | [], _ :: _, _, _, hr => by simp [StackRel] at hr
  | _ :: _, [], _, _, hr => by simp [StackRel] at hr

theorem StackRel.lt_ub {h : Heap} {S : List Nat} : ∀ {pst : List Nat} {ms : List (List Seg)} {child : Option Nat}
    {ub : Nat}, StackRel h S pst ms child ub → ∀ r ∈ pst, r < ub
  | [], [], _, _, _ => by simp
  | p :: ps, _ :: ms, _, ub, hr => by
    simp only [StackRel] at hr
    intro r hm
    rcases List.mem_cons.mp hm with rfl | hm
    · exact hr.1
    · exact Nat.lt_trans (StackRel.lt_ub hr.2.2 r hm) hr.1
  | [], _ :: _, _, _, hr => by simp [StackRel] at hr
  | _ :: _, [], _, _, hr => by simp [StackRel] at hr

theorem StackRel.transfer {h h' : Heap} {S S' : List Nat} (hlen : h.length ≤ h'.length)
    (hkeep : ∀ r, r < h.length → r ∉ S → (r ∉ S' ∧ h'.getD r [] = h.getD r [])) :
    ∀ {pst : List Nat} {ms : List (List Seg)} {child : Option Nat} {ub : Nat},
      (∀ r ∈ pst, h'.getD r [] = h.getD r []) → StackRel h S pst ms child ub → StackRel h' S' pst ms child ub
  | [], [], _, _, _, _ => by simp [StackRel]
  | p :: ps, m :: ms, child, ub, hsame, hr => by
    simp only [StackRel] at hr ⊢
    obtain ⟨h1, ⟨c, hc, hd⟩, h3⟩ := hr
    refine ⟨h1, ⟨c, ?_, D.transfer hlen hkeep hd⟩, StackRel.transfer hlen hkeep (fun r hm => hsame r (by simp [hm])) h3⟩
    rw [hsame p (by simp), hc]
  | [], _ :: _, _, _, _, hr => by simp [StackRel] at hr
  | _ :: _, [], _, _, _, hr => by simp [StackRel] at hr

theorem D.mono_lo {h : Heap} {S : List Nat} {lo lo' : Nat} (hle : lo' ≤ lo)
    {xs : List HItem} {ts : List Seg} (hd : D h S lo xs ts) : D h S lo' xs ts := by
  induction hd with
  | nil lo => exact D.nil _
  | str s _ ih => exact D.str s (ih hle)
  | ref a b c d _ _ ih2 => exact D.ref (Nat.le_trans hle a) b c d (ih2 hle)

/-- reification with enough fuel computes the denotation -/
theorem D.reify {h : Heap} {S : List Nat} {lo : Nat} {xs : List HItem} {ts : List Seg}
    (hd : D h S lo xs ts) : ∀ fuel, h.length ≤ fuel + lo → Heap.reifyItems h fuel xs = ts := by
  induction hd with
  | nil lo => intro fuel _; simp [Heap.reifyItems]
  | str s _ ih => intro fuel hf; simp [Heap.reifyItems, Heap.reifyItem, ih fuel hf]
  | @ref lo r xs t ts a b c _ _ ih1 ih2 =>
    intro fuel hf
    cases fuel with
    | zero => omega
    | succ f =>
      simp only [Heap.reifyItems, Heap.reifyItem, ih2 (f + 1) hf]
      rw [ih1 f (by omega)]

/-! ### the generated definition = a readable specification of the Python loop -/
@[simp] theorem bindE_ok {α β : Type} (a : α) (f : α → Except PyExc β) : bindE (.ok a) f = f a := rfl
@[simp] theorem bindE_error {α β : Type} (e : PyExc) (f : α → Except PyExc β) : bindE (.error e) f = .error e := rfl
theorem bindE_ite {α β : Type} (c : Prop) [Decidable c] (x y : Except PyExc α) (f : α → Except PyExc β) :
    bindE (if c then x else y) f = if c then bindE x f else bindE y f := by
  split <;> rfl
theorem bindE_assoc {α β γ : Type} (x : Except PyExc α) (f : α → Except PyExc β) (g : β → Except PyExc γ) :
    bindE (bindE x f) g = bindE x (fun a => bindE (f a) g) := by
  cases x <;> rfl
theorem bindE_ok_right {α : Type} (x : Except PyExc α) : bindE x (fun a => Except.ok a) = x := by
  cases x <;> rfl
theorem ite_ok_bool {ε : Type} (b : Bool) :
    (if b = true then (Except.ok true : Except ε Bool) else Except.ok false) = Except.ok b := by
  cases b <;> rfl

theorem elem_brackets (c : Char) : List.elem c "[]".toList = (c == '[' || c == ']') := by
  by_cases h1 : c = '[' <;> by_cases h2 : c = ']' <;> simp [List.elem, h1, h2]

def pyEscaped (raw : Str) (i : Nat) : Except PyExc Bool :=
  if i > 0 then bindE (pyIndex raw ((i : Int) - 1)) fun x => .ok (x == '\\') else .ok false

def pyFlush (raw : Str) (heap : Heap) (stack : List Nat) (ssi : Int) (i : Nat) : Except PyExc Heap :=
  if ssi + 1 < (i : Int) then
    bindE (pyIndex stack (-1)) fun top => .ok (Heap.append heap top (.str (pySlice raw (ssi + 1) i)))
  else .ok heap

def pyBracket (heap : Heap) (stack : List Nat) (c : Char) (i : Nat) : Except PyExc (Heap × List Nat × Int) :=
  if c == '[' then
    bindE (pyIndex stack (-1)) fun top =>
      .ok (Heap.append (Heap.alloc heap).1 top (.ref (Heap.alloc heap).2), stack ++ [(Heap.alloc heap).2], (i : Int))
  else if c == ']' then
    if stack.length == 1 then .error .valueError
    else bindE (pyPop stack) fun p => .ok (heap, p.1, (i : Int))
  else .error .notImplemented

def pyStep (raw : Str) (st : Heap × List Nat × Int) (ci : Char × Nat) : Except PyExc (Heap × List Nat × Int) :=
  bindE (pyEscaped raw ci.2) fun esc =>
    if List.elem ci.1 "[]".toList && !esc then
      bindE (pyFlush raw st.1 st.2.1 st.2.2 ci.2) fun heap' => pyBracket heap' st.2.1 ci.1 ci.2
    else .ok st

def pyFinish (st : Heap × List Nat × Int) : Except PyExc (List Seg) :=
  if st.2.1.length > 1 then .error .valueError
  else bindE (Heap.index st.1 0 0) fun x => Heap.reifyList st.1 x

theorem parseSegtree_eq_spec (raw : Str) :
    GenF.parseSegtree raw =
      bindE (foldlE (pyStep ('[' :: raw ++ [']'])) ([[]], [0], -1) (List.zipIdx ('[' :: raw ++ [']']))) pyFinish := by
  simp only [GenF.parseSegtree]
  have hf : ∀ (raw' : Str) (f : Heap × List Nat × Int → Char × Nat → Except PyExc (Heap × List Nat × Int)),
      (∀ st ci, f st ci = pyStep raw' st ci) → ∀ init l, foldlE f init l = foldlE (pyStep raw') init l := by
    intro raw' f h init l
    have : f = pyStep raw' := by funext st ci; exact h st ci
    rw [this]
  generalize hraw' : "[".toList ++ raw ++ "]".toList = raw'
  rw [hf raw']
  · have h0 : (Heap.alloc []) = ([[]], 0) := rfl
    have hr : '[' :: raw ++ [']'] = raw' := hraw'
    simp only [h0, hr, bindE_ok_right, decide_eq_true_eq]
    -- the final check as written (`if len(branch_stack) > 1: raise`), or inverted (`if len(...) <= 1: return …` first)
    first
      | rfl
      | (congr 1
         funext st
         rcases st with ⟨hp, stk, si⟩
         simp only [pyFinish]
         by_cases h1 : stk.length > 1 <;> simp [h1] <;> omega)
  · clear hf hraw'
    rintro ⟨heap, stack, ssi⟩ ⟨c, i⟩
    simp only [pyStep, pyEscaped, pyFlush, pyBracket, bindE_ite, bindE_assoc, bindE_ok, bindE_error, ite_ok_bool,
      bindE_ok_right, decide_eq_true_eq, Int.ofNat_eq_natCast, elem_brackets]
    -- a differently shaped (but equivalent) decision tree: decide the atoms, then compare leaf by leaf
    all_goals (
      by_cases hi : i > 0 <;> by_cases ho : c = '[' <;> by_cases hc : c = ']' <;>
      by_cases hl : ssi + 1 < (i : Int) <;> by_cases h1 : stack.length = 1 <;>
      rcases hx : pyIndex raw' ((i : Int) - 1) with e1 | x <;>
      rcases ht : pyIndex stack (-1) with e2 | t <;>
      rcases hp : pyPop stack with e3 | p <;>
      simp [hi, ho, hc, hl, h1, Int.add_comm] <;>
      (try (by_cases hb : x = '\\' <;> simp [hb])) <;> omega)

/-- the model's errors as Python exceptions (`parseSegtree_error` : the model only ever says `.valueError`) -/
def absE {α : Type} : Except PErr α → Except PyExc α
  | .ok a => .ok a
  | .error _ => .error .valueError

/-- what `parseSegtree` does with the result of `segtreeGo` -/
def mFinish (res : Except PErr (List (List Seg))) : Except PErr (List Seg) :=
  match res with
  | .error e => .error e
  | .ok [root] =>
    match root.reverse with
    | Seg.grp items :: _ => .ok items
    | _ => .error .valueError
  | .ok _ => .error .valueError

theorem parseSegtree_eq_mFinish (raw : Str) :
    parseSegtree raw = mFinish (segtreeGo [[]] [] none ('[' :: raw ++ [']'])) := by
  unfold parseSegtree mFinish
  rfl

def flushM (cur : Str) (top : List Seg) : List Seg := if cur.isEmpty then top else Seg.lit cur.reverse :: top

def HeadRef (h : Heap) : Prop := ∃ x rest, h.getD 0 [] = HItem.ref x :: rest

theorem HeadRef.append {h : Heap} (hr : HeadRef h) (r : Nat) (x : HItem) : HeadRef (Heap.append h r x) := by
  obtain ⟨y, rest, hy⟩ := hr
  rw [HeadRef, Heap.append_getD]
  split
  · exact ⟨y, rest ++ [x], by rw [hy]; rfl⟩
  · exact ⟨y, rest, hy⟩

theorem HeadRef.alloc {h : Heap} (hr : HeadRef h) : HeadRef (Heap.alloc h).1 := by
  obtain ⟨y, rest, hy⟩ := hr
  exact ⟨y, rest, by rw [Heap.alloc_fst_getD, hy]⟩

structure Inv (pre : Str) (h : Heap) (pst : List Nat) (ssi : Int) (ms : List (List Seg)) (cur : Str) : Prop where
  seg : ∃ s : Nat, ssi + 1 = (s : Int) ∧ s ≤ pre.length ∧ cur.reverse = pre.drop s
  rel : StackRel h pst pst ms none h.length
  bot : pst.getLast? = some 0
  headRef : HeadRef h

theorem mem_lt_of_rel {h : Heap} {S : List Nat} {ps : List Nat} {ms : List (List Seg)} {t : Nat}
    (hr : StackRel h S ps ms (some t) t) : ∀ r ∈ ps, r ≠ t :=
  fun r hm => Nat.ne_of_lt (StackRel.lt_ub hr r hm)

/-- flushing the pending text into the innermost object -/
theorem rel_flush {h : Heap} {t : Nat} {ps : List Nat} {m : List Seg} {ms : List (List Seg)} (s : Str)
    (hr : StackRel h (t :: ps) (t :: ps) (m :: ms) none h.length) :
    StackRel (Heap.append h t (.str s)) (t :: ps) (t :: ps) ((Seg.lit s :: m) :: ms) none
      (Heap.append h t (.str s)).length := by
  simp only [StackRel] at hr ⊢
  obtain ⟨h1, ⟨c, hc, hd⟩, h3⟩ := hr
  have hkeep : ∀ r, r < h.length → r ∉ (t :: ps) →
      (r ∉ (t :: ps) ∧ (Heap.append h t (.str s)).getD r [] = h.getD r []) :=
    fun r _ hn => ⟨hn, Heap.append_getD_ne h _ (fun e => hn (by simp [e]))⟩
  have hlen : h.length ≤ (Heap.append h t (.str s)).length := Nat.le_of_eq (Heap.append_length h t _).symm
  refine ⟨by rw [Heap.append_length]; exact h1, ⟨c ++ [.str s], ?_, ?_⟩, ?_⟩
  · rw [Heap.append_getD_self h _ h1, hc]
    simp only [childItems, List.append_nil]
  · rw [List.reverse_cons]
    exact D.append (D.transfer hlen hkeep hd) (D.str s (D.nil _))
  · exact StackRel.transfer hlen hkeep (fun r hm => Heap.append_getD_ne h _ (mem_lt_of_rel h3 r hm)) h3

/-- `[`: a new object, appended to the innermost one and pushed -/
theorem rel_open {h : Heap} {t : Nat} {ps : List Nat} {m : List Seg} {ms : List (List Seg)}
    (hr : StackRel h (t :: ps) (t :: ps) (m :: ms) none h.length) :
    StackRel (Heap.append (Heap.alloc h).1 t (.ref (Heap.alloc h).2)) ((Heap.alloc h).2 :: t :: ps)
      ((Heap.alloc h).2 :: t :: ps) ([] :: m :: ms) none
      (Heap.append (Heap.alloc h).1 t (.ref (Heap.alloc h).2)).length := by
  have hn : (Heap.alloc h).2 = h.length := rfl
  have hl1 : (Heap.alloc h).1.length = h.length + 1 := by simp [Heap.alloc]
  simp only [StackRel] at hr
  obtain ⟨h1, ⟨c, hc, hd⟩, h3⟩ := hr
  have hgetD : ∀ r, r ≠ t → (Heap.append (Heap.alloc h).1 t (.ref (Heap.alloc h).2)).getD r [] = h.getD r [] :=
    fun r hne => by rw [Heap.append_getD_ne _ _ hne, Heap.alloc_fst_getD]
  have hkeep : ∀ r, r < h.length → r ∉ (t :: ps) →
      (r ∉ ((Heap.alloc h).2 :: t :: ps) ∧
        (Heap.append (Heap.alloc h).1 t (.ref (Heap.alloc h).2)).getD r [] = h.getD r []) := by
    intro r hlt hnm
    refine ⟨fun hm => ?_, hgetD r (fun e => hnm (by simp [e]))⟩
    rcases List.mem_cons.mp hm with e | hm
    · rw [hn] at e; omega
    · exact hnm hm
  have hlen : h.length ≤ (Heap.append (Heap.alloc h).1 t (.ref (Heap.alloc h).2)).length := by
    rw [Heap.append_length, hl1]; omega
  simp only [StackRel]
  refine ⟨by rw [Heap.append_length, hl1, hn]; omega, ⟨[], ?_, D.nil _⟩, ?_, ⟨c, ?_, D.transfer hlen hkeep hd⟩, ?_⟩
  · rw [hgetD _ (by rw [hn]; omega), hn]
    simp [childItems]
  · rw [hn]; exact h1
  · rw [Heap.append_getD_self _ _ (by rw [hl1]; omega), Heap.alloc_fst_getD, hc]
    simp only [childItems, List.append_nil]
  · exact StackRel.transfer hlen hkeep (fun r hm => hgetD r (Nat.ne_of_lt (StackRel.lt_ub h3 r hm))) h3

/-- `]`: the innermost object is finished; it already is the last item of its parent -/
theorem rel_close {h : Heap} {t p : Nat} {ps : List Nat} {m mp : List Seg} {ms : List (List Seg)}
    (hr : StackRel h (t :: p :: ps) (t :: p :: ps) (m :: mp :: ms) none h.length) :
    StackRel h (p :: ps) (p :: ps) ((Seg.grp m.reverse :: mp) :: ms) none h.length := by
  simp only [StackRel] at hr
  obtain ⟨h1, ⟨c, hc, hd⟩, h2, ⟨cp, hcp, hdp⟩, h3⟩ := hr
  have hps : ∀ r ∈ ps, r < p := StackRel.lt_ub h3
  have hkeep : ∀ r, r < h.length → r ∉ (t :: p :: ps) → (r ∉ (p :: ps) ∧ h.getD r [] = h.getD r []) := by
    intro r _ hnm
    exact ⟨fun hm => hnm (List.mem_cons_of_mem _ hm), rfl⟩
  have htn : t ∉ (p :: ps) := by
    intro hm
    rcases List.mem_cons.mp hm with e | hm
    · omega
    · have := hps t hm; omega
  simp only [StackRel]
  refine ⟨Nat.lt_trans h2 h1, ⟨cp ++ [.ref t], ?_, ?_⟩, StackRel.transfer (Nat.le_refl _) hkeep (fun _ _ => rfl) h3⟩
  · rw [hcp]; simp [childItems]
  · rw [List.reverse_cons]
    refine D.append (D.transfer (Nat.le_refl _) hkeep hdp) (D.ref (by omega) h1 htn ?_ (D.nil _))
    have : h.getD t [] = c := by rw [hc]; simp [childItems]
    rw [this]
    exact D.transfer (Nat.le_refl _) hkeep hd

theorem foldlE_cons {σ α : Type} (f : σ → α → Except PyExc σ) (s : σ) (x : α) (xs : List α) :
    foldlE f s (x :: xs) = bindE (f s x) (fun s' => foldlE f s' xs) := by
  simp only [foldlE, bindE]

theorem pyEscaped_pre (pre suf : Str) (hne : pre ≠ []) :
    pyEscaped (pre ++ suf) pre.length = .ok (pre.getLast? == some '\\') := by
  have hpos : pre.length > 0 := List.length_pos_iff.mpr hne
  simp only [pyEscaped, hpos, if_true, pyIndex_pre pre suf hne, bindE_ok, List.getLast?_eq_some_getLast hne]
  congr 1

/-- the flush of the pending text, on both sides -/
theorem flush_ok {pre suf : Str} {h : Heap} {t : Nat} {ps : List Nat} {ssi : Int} {m : List Seg}
    {ms : List (List Seg)} {cur : Str} (hinv : Inv pre h (t :: ps) ssi (m :: ms) cur) :
    ∃ h', pyFlush (pre ++ suf) h (t :: ps).reverse ssi pre.length = .ok h' ∧
      StackRel h' (t :: ps) (t :: ps) (flushM cur m :: ms) none h'.length ∧ HeadRef h' := by
  obtain ⟨s, hs1, hs2, hs3⟩ := hinv.seg
  have hcl : cur.length = pre.length - s := by simpa using congrArg List.length hs3
  by_cases hlt : s < pre.length
  · have hne : cur.isEmpty = false := by cases cur <;> simp_all <;> omega
    refine ⟨Heap.append h t (.str cur.reverse), ?_, ?_, hinv.headRef.append _ _⟩
    · have hc' : (s : Int) < (pre.length : Int) := by omega
      simp only [pyFlush, hs1, hc', if_true, pyIndex_reverse_last, bindE_ok, pySlice_pre pre suf s hs2, hs3]
    · simp only [flushM, hne, Bool.false_eq_true, if_false]
      exact rel_flush _ hinv.rel
  · have he : cur.isEmpty = true := by cases cur <;> simp_all <;> omega
    refine ⟨h, ?_, ?_, hinv.headRef⟩
    · have hc' : ¬ ((s : Int) < (pre.length : Int)) := by omega
      simp only [pyFlush, hs1, hc', if_false]
    · simp only [flushM, he, if_true]
      exact hinv.rel

theorem inv_cases {pre : Str} {h : Heap} {pst : List Nat} {ssi : Int} {ms : List (List Seg)} {cur : Str}
    (hinv : Inv pre h pst ssi ms cur) : ∃ t ps m mr, pst = t :: ps ∧ ms = m :: mr := by
  cases pst with
  | nil => have := hinv.bot; simp at this
  | cons t ps =>
    cases ms with
    | nil => have := hinv.rel; simp [StackRel] at this
    | cons m mr => exact ⟨t, ps, m, mr, rfl, rfl⟩

theorem D.ref_inv {h : Heap} {S : List Nat} {lo r : Nat} {xs : List HItem} {ts : List Seg}
    (hd : D h S lo (.ref r :: xs) ts) :
    ∃ t ts', ts = Seg.grp t :: ts' ∧ D h S (r + 1) (h.getD r []) t := by
  cases hd with
  | ref _ _ _ d1 _ => exact ⟨_, _, rfl, d1⟩

/-- the end of the input -/
theorem sim_final {pre : Str} {h : Heap} {pst : List Nat} {ssi : Int} {ms : List (List Seg)} {cur : Str}
    (prev : Option Char) (hinv : Inv pre h pst ssi ms cur) :
    pyFinish (h, pst.reverse, ssi) = absE (mFinish (segtreeGo ms cur prev [])) := by
  obtain ⟨t, ps, m, mr, rfl, rfl⟩ := inv_cases hinv
  have hlen := StackRel.length hinv.rel
  rcases ps with _ | ⟨p, ps'⟩ <;> rcases mr with _ | ⟨mp, mr'⟩ <;> try (simp at hlen)
  · have ht : t = 0 := by simpa using hinv.bot
    subst ht
    obtain ⟨x, rest, hx⟩ := hinv.headRef
    have hrel := hinv.rel
    simp only [StackRel, childItems, List.append_nil] at hrel
    obtain ⟨_, ⟨c, hc, hd⟩, _⟩ := hrel
    rw [hx] at hc
    subst hc
    obtain ⟨tt, ts, hts, d1⟩ := D.ref_inv hd
    have hre : Heap.reify h x = tt := D.reify d1 h.length (by omega)
    obtain ⟨more, hmore⟩ : ∃ more, (flushM cur m).reverse = Seg.grp tt :: more := by
      unfold flushM
      split
      · exact ⟨ts, hts⟩
      · exact ⟨ts ++ [Seg.lit cur.reverse], by rw [List.reverse_cons, hts]; rfl⟩
    have hfl : segtreeGo [m] cur prev [] = .ok [flushM cur m] := by simp [segtreeGo, flushM]
    simp only [hfl, mFinish, hmore, absE, pyFinish, List.reverse_cons, List.reverse_nil, List.nil_append,
      List.length_singleton, Heap.index, hx, pyIndex]
    simp [Heap.reifyList, hre, bindE]
  · simp [pyFinish, segtreeGo, mFinish, absE]

theorem segtreeGo_cons (ms : List (List Seg)) (cur : Str) (prev : Option Char) (c : Char) (r : Str) :
    segtreeGo ms cur prev (c :: r) =
      if (c == '[' || c == ']') && !(prev == some '\\') then
        match ms with
        | [] => .error .valueError
        | top :: rest =>
          if c == '[' then segtreeGo ([] :: flushM cur top :: rest) [] (some c) r
          else
            match rest with
            | [] => .error .valueError
            | parent :: rest' => segtreeGo ((Seg.grp (flushM cur top).reverse :: parent) :: rest') [] (some c) r
      else segtreeGo ms (c :: cur) (some c) r := by
  simp only [segtreeGo, flushM]
  rfl

/-- the simulation: from any related pair of states, the rest of the Python loop followed by the final checks
    agrees with the rest of the model's recursion -/
theorem sim (raw' : Str) : ∀ (suf pre : Str) (h : Heap) (pst : List Nat) (ssi : Int) (ms : List (List Seg))
    (cur : Str), raw' = pre ++ suf → pre ≠ [] → Inv pre h pst ssi ms cur →
    bindE (foldlE (pyStep raw') (h, pst.reverse, ssi) (suf.zipIdx pre.length)) pyFinish =
      absE (mFinish (segtreeGo ms cur pre.getLast? suf)) := by
  intro suf
  induction suf with
  | nil =>
    intro pre h pst ssi ms cur _ _ hinv
    simp only [List.zipIdx_nil, foldlE, bindE_ok]
    exact sim_final _ hinv
  | cons c r ih =>
    intro pre h pst ssi ms cur hraw hne hinv
    have step : ∀ (h' : Heap) (pst' : List Nat) (ssi' : Int) (ms' : List (List Seg)) (cur' : Str),
        Inv (pre ++ [c]) h' pst' ssi' ms' cur' →
        bindE (foldlE (pyStep raw') (h', pst'.reverse, ssi') (r.zipIdx (pre.length + 1))) pyFinish =
          absE (mFinish (segtreeGo ms' cur' (some c) r)) := by
      intro h' pst' ssi' ms' cur' hinv'
      have := ih (pre ++ [c]) h' pst' ssi' ms' cur' (by rw [hraw]; simp) (by simp) hinv'
      rwa [List.length_append, List.length_singleton, List.getLast?_concat] at this
    -- after a bracket the pending text starts behind it
    have hseg : ∃ s : Nat, (pre.length : Int) + 1 = (s : Int) ∧ s ≤ (pre ++ [c]).length ∧
        ([] : Str).reverse = (pre ++ [c]).drop s := ⟨pre.length + 1, by omega, by simp, by simp⟩
    obtain ⟨s, hs1, hs2, hs3⟩ := hinv.seg
    rw [List.zipIdx_cons, foldlE_cons, segtreeGo_cons]
    simp only [pyStep, hraw, pyEscaped_pre pre (c :: r) hne, bindE_ok, elem_brackets]
    by_cases hb : ((c == '[' || c == ']') && !(pre.getLast? == some '\\')) = true
    · simp only [hb, if_true]
      obtain ⟨t, ps, m, mr, rfl, rfl⟩ := inv_cases hinv
      obtain ⟨h', hfl, hrel, hhr⟩ := flush_ok (suf := c :: r) hinv
      simp only [hfl, bindE_ok, pyBracket]
      by_cases ho : (c == '[') = true
      · -- open
        simp only [ho, if_true, pyIndex_reverse_last, bindE_ok]
        have hst : (t :: ps).reverse ++ [(Heap.alloc h').2] = ((Heap.alloc h').2 :: t :: ps).reverse := by simp
        rw [hst, ← hraw]
        exact step _ _ _ _ _
          { seg := hseg
            rel := rel_open hrel
            bot := by have := hinv.bot; simpa using this
            headRef := hhr.alloc.append _ _ }
      · have hc : (c == ']') = true := by
          have : (c == '[' || c == ']') = true := by
            revert hb; cases (c == '[' || c == ']') <;> simp
          simpa [ho] using this
        simp only [ho, hc, if_true, Bool.false_eq_true, if_false]
        have hlen := StackRel.length hinv.rel
        rcases ps with _ | ⟨p, ps'⟩ <;> rcases mr with _ | ⟨mp, mr'⟩ <;> try (simp at hlen)
        · simp [absE, mFinish]
        · have h1 : ((t :: p :: ps').reverse.length == 1) = false := by simp
          simp only [h1, Bool.false_eq_true, if_false, pyPop_reverse, bindE_ok]
          rw [← hraw]
          exact step _ _ _ _ _ { seg := hseg, rel := rel_close hrel, bot := by simpa using hinv.bot, headRef := hhr }
    · simp only [hb, Bool.false_eq_true, if_false, bindE_ok]
      rw [← hraw]
      exact step _ _ _ _ _
        { seg := ⟨s, hs1, by simp; omega, by rw [List.reverse_cons, hs3, List.drop_append_of_le_length hs2]⟩
          rel := hinv.rel
          bot := hinv.bot
          headRef := hinv.headRef }

/-- the first character (the `[` that `_parse_segtree` puts in front), run concretely on both sides -/
theorem first_step (raw' : Str) :
    pyStep raw' ([[]], [0], -1) ('[', 0) = .ok ([[.ref 1], []], [0, 1], 0) := by
  have h1 : pyIndex [0] (-1) = Except.ok 0 := pyIndex_reverse_last 0 []
  simp [pyStep, pyEscaped, pyFlush, pyBracket, h1, Heap.alloc, Heap.append]

theorem inv_first : Inv ['['] [[.ref 1], []] [1, 0] 0 [[], []] [] where
  seg := ⟨1, by simp, by simp, by simp⟩
  rel := by
    simp only [StackRel, childItems, List.length_cons, List.length_nil]
    exact ⟨by omega, ⟨[], by simp, D.nil _⟩, by omega, ⟨[], by simp, D.nil _⟩, trivial⟩
  bot := by simp
  headRef := ⟨1, [], by simp⟩

theorem _root_.BV.parseSegtree_error (raw : Str) (e : PErr) (h : parseSegtree raw = .error e) : e = .valueError :=
  parseSegtree_valueError raw e h

/-- `_parse_segtree(raw_pattern)` for ALL strings: the same tree, and ValueError exactly when the model fails -/
theorem _root_.BV.tie_parseSegtree (raw : Str) : GenF.parseSegtree raw = absE (parseSegtree raw) := by
  rw [parseSegtree_eq_spec, parseSegtree_eq_mFinish, List.cons_append, List.zipIdx_cons, foldlE_cons, first_step,
    bindE_ok, segtreeGo_cons]
  have hm : ((('[' == '[' || '[' == ']') && !((none : Option Char) == some '\\')) = true) := by decide
  simp only [hm, if_true, flushM, List.isEmpty_nil, beq_self_eq_true]
  exact sim ('[' :: (raw ++ [']'])) (raw ++ [']']) ['['] [[.ref 1], []] [1, 0] 0 [[], []] [] rfl (by simp) inv_first

/-- in `Except` form: success with the same tree … -/
theorem _root_.BV.tie_parseSegtree_ok (raw : Str) (t : List Seg) :
    GenF.parseSegtree raw = .ok t ↔ parseSegtree raw = .ok t := by
  rw [tie_parseSegtree]
  cases parseSegtree raw <;> simp [absE]

/-- … and failure is a ValueError on the Python side exactly when the model reports an error -/
theorem _root_.BV.tie_parseSegtree_error (raw : Str) :
    GenF.parseSegtree raw = .error .valueError ↔ ∃ e, parseSegtree raw = .error e := by
  rw [tie_parseSegtree]
  cases parseSegtree raw <;> simp [absE]

end BV.TieF
