/-
  Proofs/RewriteGeneric.lean — the lemmas about `iterMatches`, `applyMatches`, `rewriteLines`, `planWrites`
  for the rendering-parametric engine `RwEngine V` of Model/V1Rewrite.lean (any version-record type, any
  regex compiler, any renderer), and

    * `v2Engine_…` : the instance at `v2Engine` IS Model/Rewrite.lean, function by function
      (`iterMatches`, `applyMatches`, `rewriteLines`, `rewriteContent`, `planWrites`, `rewriteFiles`,
      `rewriteFilesLazy`), so every statement about the engine is a statement about v2rewrite.py;
    * the instance at `v1Engine` is the legacy path (Props/V1Rewrite.lean).
-/
import BumpverVerif.Model.V1Rewrite
import BumpverVerif.Proofs.RewriteLemmas
namespace BV

/-- one unfolding step of `iterMatchesGo`, with the recursive call and the compiled regex abstracted (the
    equation lemmas of Model/Rewrite.lean's `iterMatchesGo` cannot be generated: `whnf` runs into `compileRe`) -/
def iterBody (lines : List Str) (p : CPat) (seen : List LineSpan)
    (rec : List LineSpan → Option (List PMatch)) (o : Option Re) : Option (List PMatch) :=
  match o with
  | none => none
  | some r =>
    let ms := iterForPatternGo r p 0 lines
    let ks := ms.foldl (fun (acc : List PMatch × List LineSpan) m =>
      (if hasOverlap m.span acc.2 then acc.1 else acc.1 ++ [m], acc.2 ++ [m.span])) ([], seen)
    (rec ks.2).map (ks.1 ++ ·)

namespace RwEngine
variable {V : Type} (E : RwEngine V)

/-! ### `iterMatches` -/

theorem iterMatchesGo_nil (lines : List Str) (seen : List LineSpan) :
    E.iterMatchesGo lines [] seen = some [] := rfl

theorem iterMatchesGo_cons_body (lines : List Str) (p : CPat) (ps : List CPat) (seen : List LineSpan) :
    E.iterMatchesGo lines (p :: ps) seen =
      iterBody lines p seen (E.iterMatchesGo lines ps) (E.compile p) := rfl

theorem iterMatchesGo_cons (lines : List Str) (p : CPat) (ps : List CPat) (seen : List LineSpan) :
    E.iterMatchesGo lines (p :: ps) seen =
      match E.compile p with
      | none => none
      | some r =>
        (E.iterMatchesGo lines ps (seen ++ (iterForPatternGo r p 0 lines).map PMatch.span)).map
          (keptOf seen (iterForPatternGo r p 0 lines) ++ ·) := by
  rw [iterMatchesGo_cons_body]
  cases E.compile p with
  | none => rfl
  | some r => simp only [iterBody, foldl_kept, List.nil_append]

theorem iterMatchesGo_inv (lines : List Str) (pats : List CPat) (seen : List LineSpan)
    (ms : List PMatch) (h : E.iterMatchesGo lines pats seen = some ms) :
    ms.Pairwise Disj ∧ ∀ m ∈ ms, (∀ s ∈ seen, NoOv s m) ∧
      ∃ p ∈ pats, ∃ r, E.compile p = some r ∧ m ∈ iterForPatternGo r p 0 lines := by
  induction pats generalizing seen ms with
  | nil =>
    simp only [iterMatchesGo_nil, Option.some.injEq] at h
    subst h
    simp
  | cons p ps ih =>
    rw [iterMatchesGo_cons] at h
    split at h
    · cases h
    · rename_i r hr
      obtain ⟨rest, hrest, rfl⟩ := Option.map_eq_some_iff.1 h
      obtain ⟨ih1, ih2⟩ := ih _ _ hrest
      refine ⟨?_, ?_⟩
      · rw [List.pairwise_append]
        refine ⟨keptOf_pairwise _ _, ih1, fun a ha b hb => ?_⟩
        -- `a` was recorded as seen before the later patterns were searched
        have hal := (mem_keptOf ha).1
        have := (ih2 b hb).1 a.span
          (List.mem_append_right _ (List.mem_map.2 ⟨a, hal, rfl⟩))
        simpa [NoOv, Disj, PMatch.span] using this
      · intro m hm
        rcases List.mem_append.1 hm with hm | hm
        · exact ⟨(mem_keptOf hm).2, p, List.mem_cons_self, r, hr, (mem_keptOf hm).1⟩
        · obtain ⟨h1, p', hp', r', hr', hm'⟩ := ih2 m hm
          exact ⟨fun s hs => h1 s (List.mem_append_left _ hs), p', List.mem_cons_of_mem _ hp',
            r', hr', hm'⟩

/-- the surviving matches neither overlap nor touch, carry a configured pattern, are non-empty and lie
    inside their line — for EVERY engine -/
theorem iterMatches_facts (lines : List Str) (pats : List CPat) (ms : List PMatch)
    (h : E.iterMatches lines pats = some ms) :
    ms.Pairwise Disj ∧ ∀ m ∈ ms, m.pat ∈ pats ∧ m.start < m.stop ∧
      ∃ line, lines[m.lineno]? = some line ∧ m.stop ≤ line.length := by
  obtain ⟨h1, h2⟩ := E.iterMatchesGo_inv lines pats [] ms h
  refine ⟨h1, fun m hm => ?_⟩
  obtain ⟨-, p, hp, r, -, hmem⟩ := h2 m hm
  obtain ⟨e1, -, e3, line, e4, e5⟩ := mem_iterForPatternGo hmem
  exact ⟨e1 ▸ hp, e3, line, by simpa using e4, e5⟩

/-! ### `applyMatches`: what happens to ONE line -/

/-- the text a match is replaced with (`[]` when rendering fails; then `applyMatches` fails) -/
def replOf (v : V) (m : PMatch) : Str :=
  match E.render v m.pat with
  | .ok s => s
  | .error _ => []

theorem applyMatches_ok (v : V) (ms : List PMatch) (lines new : List Str)
    (h : E.applyMatches v ms lines = .ok new) :
    (∀ m ∈ ms, E.render v m.pat = .ok (E.replOf v m)) ∧
    new.length = lines.length ∧
    ∀ i, new[i]? = (lines[i]?).map (spliceLineG (E.replOf v) (ms.filter (fun m => m.lineno == i))) := by
  induction ms generalizing lines with
  | nil =>
    simp only [applyMatches, Except.ok.injEq] at h
    subst h
    simp [spliceLineG]
  | cons m ms ih =>
    unfold applyMatches at h
    split at h
    · cases h
    · rename_i repl hrepl
      have hr : E.replOf v m = repl := by simp [replOf, hrepl]
      obtain ⟨h1, h2, h3⟩ := ih _ h
      refine ⟨?_, ?_, ?_⟩
      · intro m' hm'
        rcases List.mem_cons.1 hm' with rfl | hm'
        · rw [hr]; exact hrepl
        · exact h1 m' hm'
      · rw [h2, setLine_eq_set, List.length_set]
      · intro i
        rw [h3 i, setLine_eq_set, List.getElem?_set]
        by_cases hi : m.lineno = i
        · subst hi
          simp only [if_true, List.filter_cons, beq_self_eq_true]
          by_cases hlt : m.lineno < lines.length
          · simp [hlt, spliceLineG, hr, List.getD_eq_getElem?_getD]
          · simp [hlt]
        · have : (m.lineno == i) = false := by simpa using hi
          simp [hi, this]

/-! ### `rewriteLines` -/

theorem rewriteLines_ok {pats : List CPat} {v : V} {old new : List Str}
    (h : E.rewriteLines pats v old = .ok new) :
    ∃ ms, E.iterMatches old pats = some ms ∧ E.applyMatches v (sortMatches ms) old = .ok new ∧
      pats.all (fun p => ms.any (fun m => m.pat == p)) = true := by
  unfold rewriteLines at h
  split at h
  · cases h
  · rename_i ms hms
    split at h
    · cases h
    · rename_i nl hnl
      split at h
      · rename_i hall
        cases h
        exact ⟨ms, hms, hnl, hall⟩
      · cases h

theorem rewriteLines_line {pats : List CPat} {v : V} {old new : List Str} {ms : List PMatch}
    (hm : E.iterMatches old pats = some ms) (h : E.rewriteLines pats v old = .ok new) :
    (∀ m ∈ ms, E.render v m.pat = .ok (E.replOf v m)) ∧
    new.length = old.length ∧
    ∀ i, new[i]? = (old[i]?).map (spliceLineG (E.replOf v) (lineMatches ms i)) := by
  obtain ⟨ms', hms', happ, -⟩ := E.rewriteLines_ok h
  rw [hm] at hms'
  cases hms'
  obtain ⟨h1, h2, h3⟩ := E.applyMatches_ok v _ _ _ happ
  exact ⟨fun m hm' => h1 m ((sortMatches_perm ms).mem_iff.2 hm'), h2, h3⟩

theorem lineMatches_sorted {lines : List Str} {pats : List CPat} {ms : List PMatch}
    (hm : E.iterMatches lines pats = some ms) (i : Nat) :
    (lineMatches ms i).Pairwise (fun a b => b.stop < a.start) := by
  obtain ⟨hd, hf⟩ := E.iterMatches_facts lines pats ms hm
  exact lineMatches_sorted_of_facts hd (fun m hmm => (hf m hmm).2.1) i

theorem lineMatches_bounds {lines : List Str} {pats : List CPat} {ms : List PMatch}
    (hm : E.iterMatches lines pats = some ms) (i : Nat) (line : Str) (hl : lines[i]? = some line) :
    ∀ m ∈ lineMatches ms i, m.start ≤ m.stop ∧ m.stop ≤ line.length := by
  intro m hmem
  obtain ⟨h1, h2⟩ := mem_lineMatches.1 hmem
  obtain ⟨-, h3, l, h4, h5⟩ := (E.iterMatches_facts lines pats ms hm).2 m h1
  rw [h2, hl] at h4
  cases h4
  omega

theorem lineMatches_single {lines : List Str} {pats : List CPat} {ms : List PMatch}
    (hm : E.iterMatches lines pats = some ms) (m : PMatch) (hmem : m ∈ ms)
    (honly : ∀ m' ∈ ms, m'.lineno = m.lineno → m' = m) : lineMatches ms m.lineno = [m] := by
  obtain ⟨hd, hf⟩ := E.iterMatches_facts lines pats ms hm
  exact lineMatches_single_of_facts hd (fun m hmm => (hf m hmm).2.1) m hmem honly

/-- EVERY OCCURRENCE, several per line included, for every engine -/
theorem rewriteLines_occ {pats : List CPat} {v : V} {old new : List Str} {ms : List PMatch}
    (hm : E.iterMatches old pats = some ms) (h : E.rewriteLines pats v old = .ok new)
    (m : PMatch) (hmem : m ∈ ms) :
    ∃ newLine, new[m.lineno]? = some newLine ∧
      (newLine.drop (Int.toNat ((m.start : Int) +
          ((ms.filter (fun m' => m'.lineno == m.lineno && decide (m'.stop < m.start))).map
            (growthG (E.replOf v))).sum))).take (E.replOf v m).length = E.replOf v m := by
  obtain ⟨-, -, line, hl, -⟩ := (E.iterMatches_facts old pats ms hm).2 m hmem
  obtain ⟨-, -, h3⟩ := E.rewriteLines_line hm h
  refine ⟨spliceLineG (E.replOf v) (lineMatches ms m.lineno) line, by rw [h3, hl]; rfl, ?_⟩
  have hocc := spliceLineG_occ (E.replOf v) (lineMatches ms m.lineno) line (E.lineMatches_sorted hm _)
    (E.lineMatches_bounds hm _ line hl) m (mem_lineMatches.2 ⟨hmem, rfl⟩)
  -- the matches to the left of `m` on its line, taken from the sorted or from the original list
  have hperm : ((lineMatches ms m.lineno).filter (fun m' => decide (m'.stop < m.start))).Perm
      (ms.filter (fun m' => m'.lineno == m.lineno && decide (m'.stop < m.start))) := by
    unfold lineMatches
    rw [List.filter_filter]
    have := (sortMatches_perm ms).filter
      (fun m' => m'.lineno == m.lineno && decide (m'.stop < m.start))
    refine List.Perm.trans (List.Perm.of_eq ?_) this
    apply List.filter_congr
    intro x _
    exact Bool.and_comm _ _
  rw [sum_map_perm (growthG (E.replOf v)) hperm] at hocc
  exact hocc

/-! ### `planWrites`, `rewriteFiles` -/

/-- one step of `planWrites` as a `match` on the file's outcome -/
theorem planWrites_cons (fs : FS) (v : V) (path : Str) (pats : List CPat) (rest : List (Str × List CPat)) :
    E.planWrites fs v ((path, pats) :: rest) =
      match lookup path fs with
      | none => .error .missingFile
      | some content =>
        match E.rewriteContent pats v content with
        | .error e => .error e
        | .ok newContent =>
          match E.planWrites fs v rest with
          | .error e => .error e
          | .ok ws => .ok ((path, newContent) :: ws) := rfl

theorem planWrites_paths (fs : FS) (v : V) (fps : List (Str × List CPat)) (ws : List (Str × Str))
    (h : E.planWrites fs v fps = .ok ws) : ws.map (·.1) = fps.map (·.1) := by
  induction fps generalizing ws with
  | nil => simp [planWrites] at h; subst h; rfl
  | cons fp rest ih =>
    obtain ⟨path, pats⟩ := fp
    rw [planWrites_cons] at h
    split at h
    · cases h
    · split at h
      · cases h
      · split at h
        · cases h
        · rename_i ws' hws'
          cases h
          simp [ih _ hws']

theorem planWrites_error_iff (fs : FS) (v : V) (fps : List (Str × List CPat)) :
    (∃ e, E.planWrites fs v fps = .error e) ↔
      ∃ fp ∈ fps, lookup fp.1 fs = none ∨
        ∃ c e, lookup fp.1 fs = some c ∧ E.rewriteContent fp.2 v c = .error e := by
  induction fps with
  | nil => simp [planWrites]
  | cons fp rest ih =>
    obtain ⟨path, pats⟩ := fp
    rw [planWrites_cons]
    cases hl : lookup path fs with
    | none => exact ⟨fun _ => ⟨_, List.mem_cons_self, .inl hl⟩, fun _ => ⟨_, rfl⟩⟩
    | some c =>
      dsimp only
      cases hr : E.rewriteContent pats v c with
      | error e => exact ⟨fun _ => ⟨_, List.mem_cons_self, .inr ⟨c, e, hl, hr⟩⟩, fun _ => ⟨e, rfl⟩⟩
      | ok nc =>
        have step : (∃ e, (match E.planWrites fs v rest with
              | .error e => .error e
              | .ok ws => .ok ((path, nc) :: ws) : Except RwErr (List (Str × Str))) = .error e) ↔
            ∃ e, E.planWrites fs v rest = .error e := by
          cases E.planWrites fs v rest <;> simp
        dsimp only
        rw [step, ih]
        constructor
        · rintro ⟨fp, hfp, h⟩
          exact ⟨fp, List.mem_cons_of_mem _ hfp, h⟩
        · rintro ⟨fp, hfp, h⟩
          rcases List.mem_cons.1 hfp with rfl | hfp
          · rcases h with h | ⟨c', e, hc, he⟩
            · cases hl.symm.trans h
            · cases hl.symm.trans hc
              cases hr.symm.trans he
          · exact ⟨fp, hfp, h⟩

theorem rewriteFiles_ok_iff (fs : FS) (v : V) (fps : List (Str × List CPat)) :
    (E.rewriteFiles fs fps v).2 = .ok () ↔ ¬ ∃ e, E.planWrites fs v fps = .error e := by
  unfold rewriteFiles
  cases E.planWrites fs v fps <;> simp

/-- the success of the write phase does not depend on the order of the files -/
theorem rewriteFiles_ok_of_mem (fs : FS) (v : V) (l1 l2 : List (Str × List CPat))
    (hsub : ∀ x ∈ l2, x ∈ l1) (h : (E.rewriteFiles fs l1 v).2 = .ok ()) : (E.rewriteFiles fs l2 v).2 = .ok () := by
  rw [rewriteFiles_ok_iff, planWrites_error_iff] at h ⊢
  rintro ⟨fp, hfp, hbad⟩
  exact h ⟨fp, hsub fp hfp, hbad⟩

end RwEngine

/-! ### Model/Rewrite.lean IS the instance at `v2Engine` -/

attribute [local irreducible] compileRe in
theorem v2Engine_compile (p : CPat) : v2Engine.compile p = compileRe p.raw := rfl

attribute [local irreducible] formatVersion normalizePattern in
theorem v2Engine_render (v : VInfo) (p : CPat) :
    v2Engine.render v p = formatVersion v (normalizePattern p.vp p.raw) := rfl

theorem iterMatchesGo_nil (lines : List Str) (seen : List LineSpan) :
    iterMatchesGo lines [] seen = some [] := rfl

attribute [local irreducible] compileRe in
theorem iterMatchesGo_cons_body (lines : List Str) (p : CPat) (ps : List CPat)
    (seen : List LineSpan) :
    iterMatchesGo lines (p :: ps) seen =
      iterBody lines p seen (iterMatchesGo lines ps) (compileRe p.raw) := rfl

theorem v2Engine_iterMatchesGo (lines : List Str) (pats : List CPat) (seen : List LineSpan) :
    v2Engine.iterMatchesGo lines pats seen = iterMatchesGo lines pats seen := by
  induction pats generalizing seen with
  | nil => rfl
  | cons p ps ih =>
    rw [RwEngine.iterMatchesGo_cons_body, iterMatchesGo_cons_body, v2Engine_compile]
    exact congrArg (fun f => iterBody lines p seen f (compileRe p.raw)) (funext ih)

theorem v2Engine_iterMatches (lines : List Str) (pats : List CPat) :
    v2Engine.iterMatches lines pats = iterMatches lines pats :=
  v2Engine_iterMatchesGo lines pats []

theorem v2Engine_applyMatches (v : VInfo) (ms : List PMatch) (lines : List Str) :
    v2Engine.applyMatches v ms lines = applyMatches v ms lines := by
  induction ms generalizing lines with
  | nil => rfl
  | cons m ms ih =>
    simp only [RwEngine.applyMatches, applyMatches]
    rw [v2Engine_render]
    generalize formatVersion v (normalizePattern m.pat.vp m.pat.raw) = o
    cases o with
    | error e => rfl
    | ok repl => exact ih _

theorem v2Engine_rewriteLines (pats : List CPat) (v : VInfo) (old : List Str) :
    v2Engine.rewriteLines pats v old = rewriteLines pats v old := by
  unfold RwEngine.rewriteLines rewriteLines
  rw [v2Engine_iterMatches]
  cases iterMatches old pats with
  | none => rfl
  | some ms =>
    simp only [v2Engine_applyMatches]
    cases applyMatches v (sortMatches ms) old <;> rfl

theorem v2Engine_rewriteContent (pats : List CPat) (v : VInfo) (content : Str) :
    v2Engine.rewriteContent pats v content = rewriteContent pats v content := by
  unfold RwEngine.rewriteContent rewriteContent
  simp only [v2Engine_rewriteLines]
  cases rewriteLines pats v (splitOn (detectLineSep content) content) <;> rfl

theorem v2Engine_planWrites (fs : FS) (v : VInfo) (fps : List (Str × List CPat)) :
    v2Engine.planWrites fs v fps = planWrites fs v fps := by
  induction fps with
  | nil => rfl
  | cons fp rest ih =>
    obtain ⟨path, pats⟩ := fp
    simp only [RwEngine.planWrites, planWrites, v2Engine_rewriteContent, ih]
    cases lookup path fs with
    | none => rfl
    | some content =>
      simp only []
      cases rewriteContent pats v content with
      | error e => rfl
      | ok nc => simp only []; cases planWrites fs v rest <;> rfl

theorem v2Engine_rewriteFiles (fs : FS) (fps : List (Str × List CPat)) (v : VInfo) :
    v2Engine.rewriteFiles fs fps v = rewriteFiles fs fps v := by
  unfold RwEngine.rewriteFiles rewriteFiles
  rw [v2Engine_planWrites]
  cases planWrites fs v fps <;> rfl

theorem v2Engine_rewriteFilesLazy (v : VInfo) (fs : FS) (fps : List (Str × List CPat)) :
    v2Engine.rewriteFilesLazy v fs fps = rewriteFilesLazy v fs fps := by
  induction fps generalizing fs with
  | nil => rfl
  | cons fp rest ih =>
    obtain ⟨path, pats⟩ := fp
    simp only [RwEngine.rewriteFilesLazy, rewriteFilesLazy, v2Engine_rewriteContent, ih]
    cases lookup path fs with
    | none => rfl
    | some content =>
      simp only []
      cases rewriteContent pats v content <;> rfl

end BV
