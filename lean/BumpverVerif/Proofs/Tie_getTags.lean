/-
  Proofs/Tie_getTags.lean — `vcs.get_tags(fetch, scope)`, `vcs.get_vcs_api()` and the `VCSAPI` members
  they use (`is_usable`, `fetch`, `ls_tags`, `ls_tags_branch`), all GENERATED from the Python AST, against
  the hand model `BV.getTags` / `BV.isUsable` (Model/Plan.lean).

    tie_apiIsUsable   the probe: no directory → False without any invocation; otherwise one invocation
                      whose failure means "not usable" (never an exception)
    tie_getVcsApi     the first usable VCS of VCS_SUBCOMMANDS_BY_NAME (in dictionary order), else OSError
    getTags_run       `get_tags` in one equation (events, outcome, the list it returns, the one way it stops);
                      the next two are read off it
    tie_getTags       (state, ok/failed) of the generated `get_tags` = getTags e fetch (scope == BRANCH) s,
                      for every failure position; `except OSError` gives the "no VCS" outcome: `[]`, ok
    getTags_value     the list it returns

  Abstraction made explicit: `Eff.dotDirExists` says that the model environment has at most ONE VCS
  directory, the one of `kind` (`PlanEnv.vcsPresent`).
-/
import BumpverVerif.Gen.F_getTags
import BumpverVerif.Proofs.Tie_apiGetRemote
set_option linter.unusedSimpArgs false
namespace BV
open GenE

/-- `VCSAPI(name).is_usable` for ANY name -/
theorem apiIsUsable_spec (e : EffEnv) (s : PState) (api : VcsApi) :
    apiIsUsable api e s =
      if (e.plan.vcsPresent && api.name == e.plan.kind.name) = true then
        (match vcsCall e.plan (.cmd "is_usable") s with
         | (s', .ok) => (s', .ok true)
         | (s', .failed) => (s', .ok false))
      else (s, .ok false) := by
  -- `sp.call` answers with a return code and never raises, so the `except OSError` handler is not reached
  cases hd : (e.plan.vcsPresent && api.name == e.plan.kind.name)
  · simp [apiIsUsable, Eff.bind, Eff.dotDirExists, Eff.pure, hd]
  · rcases hv : vcsCall e.plan (.cmd "is_usable") s with ⟨s', o⟩
    cases o <;> simp [apiIsUsable, Eff.bind, Eff.dotDirExists, Eff.tryCatch, Eff.spCall, Eff.pure, hd, hv]

theorem tie_apiIsUsable (e : EffEnv) (s : PState) (api : VcsApi) (hk : api.name = e.plan.kind.name) :
    apiIsUsable api e s = ((isUsable e.plan s).1, .ok (isUsable e.plan s).2) := by
  rw [apiIsUsable_spec, hk, isUsable]
  cases e.plan.vcsPresent
  · rfl
  · rcases vcsCall e.plan (.cmd "is_usable") s with ⟨s', o⟩
    cases o <;> simp

/-- the VCS object `get_vcs_api` returns in the model environment -/
def kindApi (e : EffEnv) : VcsApi := ⟨e.plan.kind.name⟩

theorem tie_getVcsApi (e : EffEnv) (s : PState) :
    getVcsApi e s =
      (match isUsable e.plan s with
       | (s', true) => (s', .ok (kindApi e))
       | (s', false) => (s', .error .osError)) := by
  -- at most the directory of `kind` exists, so at most one probe of the loop makes an invocation
  simp only [getVcsApi, vcsNames, Eff.forIn, getVcsApi.body_1, Eff.bind, apiIsUsable_spec, isUsable, kindApi]
  have hfo : (Outcome.failed == Outcome.ok) = false := rfl
  rcases hv : vcsCall e.plan (.cmd "is_usable") s with ⟨s', o⟩
  cases hkind : e.plan.kind <;> cases hp : e.plan.vcsPresent <;> cases o <;>
    simp [Eff.bind, apiIsUsable_spec, Eff.pure, Eff.throw, VcsKind.name, hv, hkind, hp, hfo]

theorem tie_apiFetch (e : EffEnv) (s : PState) (api : VcsApi) (hc : RemoteCoherent e)
    (hk : api.name = e.plan.kind.name) :
    apiFetch api e s = Eff.liftC () (remotePiece e.plan "fetch" s) := by
  rw [← thenIfRemote_coherent e s api _ hc hk]
  simp only [apiFetch, Eff.bind_pure_unit]
  refine bind_getRemote e s api fun r s' => ?_
  rcases r with _ | r
  · rfl
  · cases hr : r.isEmpty <;>
      simp only [truthyOS, hr, Bool.not_true, Bool.not_false, if_true, if_false, Bool.false_eq_true]
    · exact Eff.bind_pure_liftC (Eff.call_run ..)
    · rfl

/-- `[line.strip().split(" ", 1)[0] for line in output.splitlines()]` -/
def tagsOf (out : Str) : List Str := (pySplitlines out).map (fun l => pyBeforeFirstBlank (strip l))

theorem tie_apiLsTags (e : EffEnv) (s : PState) (api : VcsApi) :
    apiLsTags api e s = Eff.liftC (tagsOf (e.output "ls_tags")) (vcsCall e.plan (.cmd "ls_tags") s) := by
  simp only [apiLsTags, tagsOf, List.nil_append, List.flatMap_singleton_eq_map]
  exact Eff.bind_pure_liftC (Eff.call_run ..)

theorem tie_apiLsTagsBranch (e : EffEnv) (s : PState) (api : VcsApi) :
    apiLsTagsBranch api e s
      = Eff.liftC (tagsOf (e.output "ls_tags_branch")) (vcsCall e.plan (.cmd "ls_tags_branch") s) := by
  simp only [apiLsTagsBranch, tagsOf, List.nil_append, List.flatMap_singleton_eq_map]
  exact Eff.bind_pure_liftC (Eff.call_run ..)

theorem getTags_run (e : EffEnv) (s : PState) (fetch : Bool) (scope : TagScope) (hc : RemoteCoherent e) :
    GenE.getTags fetch scope e s =
      (match BV.getTags e.plan fetch (scope == .BRANCH) s with
       | (s', .ok) => (s', .ok (if (isUsable e.plan s).2 then
                          tagsOf (e.output (if scope == .BRANCH then "ls_tags_branch" else "ls_tags")) else []))
       | (s', .failed) => (s', .error .called)) := by
  have hmodel : BV.getTags e.plan fetch (scope == .BRANCH) s =
      if !(isUsable e.plan s).2 then ((isUsable e.plan s).1, .ok)
      else planThen (if fetch then remotePiece e.plan "fetch" (isUsable e.plan s).1 else ((isUsable e.plan s).1, .ok))
        fun s2 => vcsCall e.plan (.cmd (if scope == .BRANCH then "ls_tags_branch" else "ls_tags")) s2 := rfl
  simp only [hmodel, GenE.getTags, Eff.bind_pure_unit, Eff.bind_pure]
  rw [Eff.tryCatch_bind, tie_getVcsApi]
  rcases isUsable e.plan s with ⟨s1, u⟩
  cases u
  · rfl
  · -- fetch and listing are model steps; CalledProcessError is not an OSError, so it passes the handler
    simp only [Bool.not_true, Bool.false_eq_true, if_false, if_true]
    rw [Eff.tryCatch_liftC (Eff.bind_liftC (k := fun s2 => vcsCall e.plan (.cmd _) s2) ?fetch fun s2 => ?list)
      fun _ => rfl]
    · rcases planThen _ _ with ⟨s', o⟩
      cases o <;> rfl
    case fetch =>
      cases fetch
      · rfl
      · exact tie_apiFetch e s1 (kindApi e) hc rfl
    case list =>
      cases hb : (scope == TagScope.BRANCH) <;> simp only [hb, if_true, if_false, Bool.false_eq_true]
      · exact tie_apiLsTags ..
      · exact tie_apiLsTagsBranch ..

theorem tie_getTags (e : EffEnv) (s : PState) (fetch : Bool) (scope : TagScope) (hc : RemoteCoherent e) :
    Eff.view (GenE.getTags fetch scope e s) = BV.getTags e.plan fetch (scope == .BRANCH) s := by
  rw [getTags_run e s fetch scope hc]
  rcases BV.getTags e.plan fetch (scope == .BRANCH) s with ⟨s', o⟩
  cases o <;> rfl

/-- what `get_tags` returns: `[]` without a usable VCS (the `except OSError` branch), otherwise the parsed
    output of `ls_tags_branch` (branch scope) / `ls_tags` -/
theorem getTags_value (e : EffEnv) (s : PState) (fetch : Bool) (scope : TagScope) (hc : RemoteCoherent e) :
    match (GenE.getTags fetch scope e s).2 with
    | .ok tags => tags = if (isUsable e.plan s).2 then
                           tagsOf (e.output (if scope == .BRANCH then "ls_tags_branch" else "ls_tags"))
                         else []
    | .error _ => True := by
  rw [getTags_run e s fetch scope hc]
  rcases BV.getTags e.plan fetch (scope == .BRANCH) s with ⟨s', o⟩
  cases o <;> simp

/-- an OSError is the ONLY thing `get_tags` swallows: a failing fetch / tag listing propagates as
    CalledProcessError (the hand model's `.failed`) -/
theorem getTags_stop_kinds (e : EffEnv) (s : PState) (fetch : Bool) (scope : TagScope) (hc : RemoteCoherent e) :
    match (GenE.getTags fetch scope e s).2 with
    | .error x => x = .called
    | .ok _ => True := by
  rw [getTags_run e s fetch scope hc]
  rcases BV.getTags e.plan fetch (scope == .BRANCH) s with ⟨s', o⟩
  cases o <;> simp

end BV
