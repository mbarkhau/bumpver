/-
  Proofs/RewriteLemmas.lean — what the rewrite path needs that mentions neither a renderer nor a regex
  compiler: `splitOn`/`join`, `replaceAll` (Model/Basic.lean), the file system, `setLine`, `sortMatches`,
  splicing the matches of one line, the `seen` filter of `iter_matches`, `iterForPatternGo`.
  The lemmas about the engine itself (any renderer, any compiler) are in Proofs/RewriteGeneric.lean.
-/
import BumpverVerif.Model.Rewrite
namespace BV

/-! ### `splitOn` / `join` -/

theorem splitOnF_ne_nil (f : Nat) (sep cur s : Str) : splitOnF f sep cur s ≠ [] := by
  induction f generalizing cur s with
  | zero => simp [splitOnF]
  | succ f ih =>
    cases s with
    | nil => simp [splitOnF]
    | cons c cs =>
      unfold splitOnF
      split
      · simp
      · exact ih _ _

theorem join_cons_of_ne_nil (sep p : Str) {l : List Str} (h : l ≠ []) :
    join sep (p :: l) = p ++ sep ++ join sep l := by
  cases l with
  | nil => exact absurd rfl h
  | cons q qs => rfl

theorem join_splitOnF (sep : Str) (hsep : sep ≠ []) (f : Nat) (cur s : Str) (hf : s.length < f) :
    join sep (splitOnF f sep cur s) = cur.reverse ++ s := by
  induction f generalizing cur s with
  | zero => omega
  | succ f ih =>
    cases s with
    | nil => simp [splitOnF, join]
    | cons c cs =>
      unfold splitOnF
      split
      · rename_i hc
        simp only [Bool.and_eq_true] at hc
        have hpre : sep ++ (c :: cs).drop sep.length = c :: cs :=
          List.prefix_iff_eq_append.1 (List.isPrefixOf_iff_prefix.1 hc.2)
        have hlen : ((c :: cs).drop sep.length).length < f := by
          have h1 : sep.length ≥ 1 := by
            cases sep with
            | nil => exact absurd rfl hsep
            | cons _ _ => simp
          have h2 := congrArg List.length hpre
          simp only [List.length_append] at h2
          omega
        rw [join_cons_of_ne_nil _ _ (splitOnF_ne_nil _ _ _ _), ih _ _ hlen]
        simp only [List.reverse_nil, List.nil_append, List.append_assoc]
        rw [hpre]
      · rw [ih _ _ (by simpa using hf)]
        simp

theorem join_splitOn (sep s : Str) (h : sep ≠ []) : join sep (splitOn sep s) = s :=
  join_splitOnF sep h _ _ _ (Nat.lt_succ_self _)

theorem detectLineSep_cases (s : Str) :
    detectLineSep s = "\r\n".toList ∨ detectLineSep s = "\r".toList ∨ detectLineSep s = "\n".toList := by
  unfold detectLineSep
  split
  · exact .inl rfl
  · split
    · exact .inr (.inl rfl)
    · exact .inr (.inr rfl)

theorem join_split_detect (s : Str) : join (detectLineSep s) (splitOn (detectLineSep s) s) = s := by
  apply join_splitOn
  rcases detectLineSep_cases s with h | h | h <;> rw [h] <;> decide

/-! ### `FS.write` -/

theorem lookup_write (fs : FS) (path content q : Str) :
    lookup q (FS.write fs path content) = if q = path then some content else lookup q fs := by
  induction fs with
  | nil => simp [FS.write, lookup]
  | cons pc rest ih =>
    obtain ⟨p, c⟩ := pc
    unfold FS.write
    split
    · rename_i hp
      have hp' : p = path := by simpa using hp
      subst hp'
      simp only [lookup]
      split <;> rfl
    · rename_i hp
      have hp' : p ≠ path := by simpa using hp
      simp only [lookup, ih]
      by_cases hq : q = p
      · subst hq; simp [hp']
      · simp [hq]

theorem lookup_foldl_write (ws : List (Str × Str)) (fs : FS) (q : Str)
    (h : ∀ w ∈ ws, w.1 ≠ q) :
    lookup q (ws.foldl (fun acc w => FS.write acc w.1 w.2) fs) = lookup q fs := by
  induction ws generalizing fs with
  | nil => rfl
  | cons w ws ih =>
    simp only [List.foldl_cons]
    rw [ih _ (fun w' hw' => h w' (List.mem_cons_of_mem _ hw')), lookup_write]
    have := h w (List.mem_cons_self)
    simp [Ne.symm this]

/-- with distinct paths, every planned write is what is found afterwards -/
theorem lookup_foldl_write_mem (ws : List (Str × Str)) (fs : FS) (p c : Str)
    (hnd : (ws.map (·.1)).Nodup) (hm : (p, c) ∈ ws) :
    lookup p (ws.foldl (fun acc w => FS.write acc w.1 w.2) fs) = some c := by
  induction ws generalizing fs with
  | nil => cases hm
  | cons w ws ih =>
    simp only [List.map_cons, List.nodup_cons] at hnd
    simp only [List.foldl_cons]
    rcases List.mem_cons.1 hm with rfl | hm
    · rw [lookup_foldl_write, lookup_write]
      · simp
      · intro w' hw' heq
        exact hnd.1 (List.mem_map.2 ⟨w', hw', heq⟩)
    · exact ih _ hnd.2 hm

/-! ### `setLine`, `sortMatches` -/

theorem setLine_eq_set (ls : List Str) (n : Nat) (s : Str) : setLine ls n s = ls.set n s := by
  induction ls generalizing n with
  | nil => rfl
  | cons l ls ih => cases n <;> simp [setLine, ih]

def mle (a b : PMatch) : Prop := a.lineno < b.lineno ∨ (a.lineno = b.lineno ∧ b.start ≤ a.start)

theorem mle_trans {a b c : PMatch} (h1 : mle a b) (h2 : mle b c) : mle a c := by
  unfold mle at *; omega

theorem insertMatch_perm (x : PMatch) (ys : List PMatch) : (insertMatch x ys).Perm (x :: ys) := by
  induction ys with
  | nil => exact .refl _
  | cons y ys ih =>
    unfold insertMatch
    split
    · exact .refl _
    · exact (List.Perm.cons y ih).trans (List.Perm.swap x y ys)

theorem sortMatches_perm (ms : List PMatch) : (sortMatches ms).Perm ms := by
  induction ms with
  | nil => exact .refl _
  | cons m ms ih =>
    show (insertMatch m (sortMatches ms)).Perm (m :: ms)
    exact (insertMatch_perm _ _).trans (List.Perm.cons m ih)

theorem insertMatch_sorted (x : PMatch) (ys : List PMatch) (h : ys.Pairwise mle) :
    (insertMatch x ys).Pairwise mle := by
  induction ys with
  | nil => simp [insertMatch]
  | cons y ys ih =>
    rw [List.pairwise_cons] at h
    unfold insertMatch
    split
    · rename_i hc
      have hxy : mle x y := by
        simp only [Bool.or_eq_true, decide_eq_true_eq, Bool.and_eq_true, beq_iff_eq] at hc
        unfold mle; omega
      rw [List.pairwise_cons]
      refine ⟨fun z hz => ?_, List.pairwise_cons.2 h⟩
      rcases List.mem_cons.1 hz with rfl | hz
      · exact hxy
      · exact mle_trans hxy (h.1 z hz)
    · rename_i hc
      have hyx : mle y x := by
        simp only [Bool.or_eq_true, decide_eq_true_eq, Bool.and_eq_true, beq_iff_eq] at hc
        unfold mle; omega
      rw [List.pairwise_cons]
      refine ⟨fun z hz => ?_, ih h.2⟩
      rcases List.mem_cons.1 ((insertMatch_perm x ys).mem_iff.1 hz) with rfl | hz
      · exact hyx
      · exact h.1 z hz

theorem sortMatches_sorted (ms : List PMatch) : (sortMatches ms).Pairwise mle := by
  induction ms with
  | nil => simp [sortMatches]
  | cons m ms ih => exact insertMatch_sorted m _ ih

/-! ### several matches on one line

  `L` is the list of a line's matches in the order they are applied: right to left, each ending
  strictly before the previous one starts. -/

/-- the matches of one line spliced in list order, for ANY replacement function -/
def spliceLineG (repl : PMatch → Str) : List PMatch → Str → Str
  | [], cur => cur
  | m :: ms, cur => spliceLineG repl ms (cur.take m.start ++ repl m ++ cur.drop m.stop)

/-- growth of the line caused by replacing `m` -/
def growthG (repl : PMatch → Str) (m : PMatch) : Int :=
  ((repl m).length : Int) - ((m.stop : Int) - (m.start : Int))

theorem spliceLineG_append (repl : PMatch → Str) (L : List PMatch) (p q : Str)
    (hs : L.Pairwise (fun a b => b.stop < a.start))
    (hb : ∀ m ∈ L, m.start ≤ m.stop ∧ m.stop ≤ p.length) :
    spliceLineG repl L (p ++ q) = spliceLineG repl L p ++ q := by
  induction L generalizing p with
  | nil => rfl
  | cons m L ih =>
    rw [List.pairwise_cons] at hs
    have hm := hb m List.mem_cons_self
    simp only [spliceLineG]
    rw [List.take_append_of_le_length (by omega), List.drop_append_of_le_length (by omega),
      ← List.append_assoc]
    apply ih _ hs.2
    intro m' hm'
    have h1 := hs.1 m' hm'
    have h2 := hb m' (List.mem_cons_of_mem _ hm')
    simp only [List.length_append, List.length_take, List.length_drop]
    omega

theorem spliceLineG_length (repl : PMatch → Str) (L : List PMatch) (line : Str)
    (hs : L.Pairwise (fun a b => b.stop < a.start))
    (hb : ∀ m ∈ L, m.start ≤ m.stop ∧ m.stop ≤ line.length) :
    ((spliceLineG repl L line).length : Int) = (line.length : Int) + (L.map (growthG repl)).sum := by
  induction L generalizing line with
  | nil => simp [spliceLineG]
  | cons m L ih =>
    rw [List.pairwise_cons] at hs
    have hm := hb m List.mem_cons_self
    simp only [spliceLineG, List.map_cons, List.sum_cons]
    rw [ih _ hs.2]
    · simp only [List.length_append, List.length_take, List.length_drop, growthG]
      omega
    · intro m' hm'
      have h1 := hs.1 m' hm'
      have h2 := hb m' (List.mem_cons_of_mem _ hm')
      simp only [List.length_append, List.length_take, List.length_drop]
      omega

theorem take_drop_append {α} (X Y r : List α) (k n : Nat) (h : (X.drop k).take n = r)
    (hn : r.length = n) : ((X ++ Y).drop k).take n = r := by
  have hl := congrArg List.length h
  simp only [List.length_take, List.length_drop] at hl
  rw [List.drop_append, List.take_append]
  have : n - (X.drop k).length = 0 := by simp only [List.length_drop]; omega
  rw [this, h]; simp

/-- in the spliced line the replacement of `m` stands at `m.start`, shifted by the growth of the
    replacements to its left -/
theorem spliceLineG_occ (repl : PMatch → Str) (L : List PMatch) (line : Str)
    (hs : L.Pairwise (fun a b => b.stop < a.start))
    (hb : ∀ m ∈ L, m.start ≤ m.stop ∧ m.stop ≤ line.length)
    (m : PMatch) (hm : m ∈ L) :
    ((spliceLineG repl L line).drop
        (Int.toNat ((m.start : Int) +
          ((L.filter (fun m' => decide (m'.stop < m.start))).map (growthG repl)).sum))).take
      (repl m).length = repl m := by
  induction L generalizing line with
  | nil => cases hm
  | cons a rest ih =>
    rw [List.pairwise_cons] at hs
    have ha := hb a List.mem_cons_self
    have hlt : (line.take a.start).length = a.start := by simp only [List.length_take]; omega
    have hb' : ∀ m' ∈ rest, m'.start ≤ m'.stop ∧ m'.stop ≤ (line.take a.start).length := by
      intro m' hm'
      have h1 := hs.1 m' hm'
      have h2 := hb m' (List.mem_cons_of_mem _ hm')
      omega
    -- the head `a` is the rightmost match: the others are spliced into the text before it
    have hsplit : spliceLineG repl (a :: rest) line =
        spliceLineG repl rest (line.take a.start) ++ (repl a ++ line.drop a.stop) := by
      simp only [spliceLineG]
      rw [List.append_assoc, spliceLineG_append repl rest _ _ hs.2 hb']
    rw [hsplit]
    rcases List.mem_cons.1 hm with rfl | hm'
    · have hf : (m :: rest).filter (fun m' => decide (m'.stop < m.start)) = rest := by
        rw [List.filter_cons]
        have : decide (m.stop < m.start) = false := by simp; omega
        simp only [this, Bool.false_eq_true, if_false]
        exact List.filter_eq_self.2 (fun b hb => by simpa using hs.1 b hb)
      have hlen := spliceLineG_length repl rest (line.take m.start) hs.2 hb'
      rw [hlt] at hlen
      rw [hf, ← hlen, Int.toNat_natCast, List.drop_left, List.take_left]
    · have h1 := hs.1 m hm'
      have h2 := hb m (List.mem_cons_of_mem _ hm')
      have hf : (a :: rest).filter (fun m' => decide (m'.stop < m.start)) =
          rest.filter (fun m' => decide (m'.stop < m.start)) := by
        rw [List.filter_cons]
        have : decide (a.stop < m.start) = false := by simp; omega
        simp [this]
      rw [hf]
      exact take_drop_append _ _ _ _ _ (ih _ hs.2 hb' hm') rfl

/-! ### the `seen` filter of `iter_matches` -/

/-- span `s` neither overlaps nor touches match `m` -/
def NoOv (s : LineSpan) (m : PMatch) : Prop :=
  s.lineno ≠ m.lineno ∨ s.stop < m.start ∨ m.stop < s.start

/-- two matches neither overlap nor touch -/
def Disj (a b : PMatch) : Prop := a.lineno ≠ b.lineno ∨ a.stop < b.start ∨ b.stop < a.start

theorem Disj.symm {a b : PMatch} (h : Disj a b) : Disj b a := by unfold Disj at *; omega

theorem hasOverlap_false_iff (m : PMatch) (seen : List LineSpan) :
    hasOverlap m.span seen = false ↔ ∀ s ∈ seen, NoOv s m := by
  unfold hasOverlap
  rw [List.any_eq_false]
  constructor
  · intro h s hs
    have := h s hs
    simp [PMatch.span] at this
    unfold NoOv
    by_cases h1 : s.lineno = m.lineno
    · by_cases h2 : m.start ≤ s.stop
      · have := this h1 (decide_eq_true h2); omega
      · omega
    · exact .inl h1
  · intro h s hs
    have := h s hs
    simp [PMatch.span]
    intro h1 h2
    have h2' := of_decide_eq_true h2
    unfold NoOv at this; omega

/-- the matches of one pattern that survive the `seen` filter -/
def keptOf : List LineSpan → List PMatch → List PMatch
  | _, [] => []
  | seen, m :: l => (if hasOverlap m.span seen then [] else [m]) ++ keptOf (seen ++ [m.span]) l

theorem foldl_kept (l : List PMatch) (k : List PMatch) (seen : List LineSpan) :
    l.foldl (fun (acc : List PMatch × List LineSpan) m =>
        (if hasOverlap m.span acc.2 then acc.1 else acc.1 ++ [m], acc.2 ++ [m.span])) (k, seen)
      = (k ++ keptOf seen l, seen ++ l.map PMatch.span) := by
  induction l generalizing k seen with
  | nil => simp [keptOf]
  | cons m l ih =>
    simp only [List.foldl_cons, ih, keptOf]
    split <;> simp

theorem mem_keptOf {seen : List LineSpan} {l : List PMatch} {m : PMatch} (h : m ∈ keptOf seen l) :
    m ∈ l ∧ ∀ s ∈ seen, NoOv s m := by
  induction l generalizing seen with
  | nil => cases h
  | cons x l ih =>
    simp only [keptOf, List.mem_append] at h
    rcases h with h | h
    · split at h
      · cases h
      · rename_i hov
        simp only [List.mem_singleton] at h
        subst h
        exact ⟨List.mem_cons_self, (hasOverlap_false_iff _ _).1 (by simpa using hov)⟩
    · obtain ⟨h1, h2⟩ := ih h
      exact ⟨List.mem_cons_of_mem _ h1, fun s hs => h2 s (List.mem_append_left _ hs)⟩

theorem keptOf_pairwise (seen : List LineSpan) (l : List PMatch) : (keptOf seen l).Pairwise Disj := by
  induction l generalizing seen with
  | nil => simp [keptOf]
  | cons x l ih =>
    simp only [keptOf]
    rw [List.pairwise_append]
    refine ⟨by split <;> simp, ih _, fun a ha b hb => ?_⟩
    split at ha
    · cases ha
    · simp only [List.mem_singleton] at ha
      subst ha
      have := (mem_keptOf hb).2 a.span (by simp)
      simpa [NoOv, Disj, PMatch.span] using this

theorem searchGo_bounds (r : Re) (idx : Nat) (s : Str) (mm : Match)
    (h : searchGo r idx s = some mm) :
    idx ≤ mm.start ∧ mm.start ≤ mm.stop ∧ mm.stop ≤ idx + s.length := by
  induction s generalizing idx with
  | nil =>
    unfold searchGo at h
    split at h
    · cases h; simp
    · cases h
  | cons c cs ih =>
    unfold searchGo at h
    split at h
    · cases h
      simp only [List.length_cons]
      omega
    · have := ih _ h
      simp only [List.length_cons]
      omega

theorem mem_iterForPatternGo {r : Re} {p : CPat} {n : Nat} {lines : List Str} {m : PMatch}
    (h : m ∈ iterForPatternGo r p n lines) :
    m.pat = p ∧ n ≤ m.lineno ∧ m.start < m.stop ∧
      ∃ line, lines[m.lineno - n]? = some line ∧ m.stop ≤ line.length := by
  induction lines generalizing n with
  | nil => cases h
  | cons line rest ih =>
    have hrec : m ∈ iterForPatternGo r p (n + 1) rest →
        m.pat = p ∧ n ≤ m.lineno ∧ m.start < m.stop ∧
          ∃ l, (line :: rest)[m.lineno - n]? = some l ∧ m.stop ≤ l.length := by
      intro h'
      obtain ⟨h1, h2, h3, l, h4, h5⟩ := ih h'
      refine ⟨h1, by omega, h3, l, ?_, h5⟩
      have : m.lineno - n = (m.lineno - (n + 1)) + 1 := by omega
      rw [this, List.getElem?_cons_succ]
      exact h4
    unfold iterForPatternGo at h
    split at h
    · rename_i mm hmm
      split at h
      · rename_i hlt
        rcases List.mem_cons.1 h with rfl | h
        · have := searchGo_bounds r 0 line mm hmm
          refine ⟨rfl, Nat.le_refl _, hlt, line, by simp, ?_⟩
          simp only
          omega
        · exact hrec h
      · exact hrec h
    · exact hrec h

/-! ### the matches of one line, from the facts about the match list alone -/

/-- the matches of line `i`, in the order `applyMatches` processes them -/
def lineMatches (ms : List PMatch) (i : Nat) : List PMatch :=
  (sortMatches ms).filter (fun m => m.lineno == i)

theorem mem_lineMatches {ms : List PMatch} {i : Nat} {m : PMatch} :
    m ∈ lineMatches ms i ↔ m ∈ ms ∧ m.lineno = i := by
  simp [lineMatches, (sortMatches_perm ms).mem_iff]

theorem lineMatches_sorted_of_facts {ms : List PMatch} (hd : ms.Pairwise Disj)
    (hf : ∀ m ∈ ms, m.start < m.stop) (i : Nat) :
    (lineMatches ms i).Pairwise (fun a b => b.stop < a.start) := by
  have hd' : (sortMatches ms).Pairwise Disj :=
    (sortMatches_perm ms).symm.pairwise hd (fun h => h.symm)
  have hboth : (sortMatches ms).Pairwise (fun a b => mle a b ∧ Disj a b) :=
    List.pairwise_and_iff.2 ⟨sortMatches_sorted ms, hd'⟩
  have := hboth.filter (fun m => m.lineno == i)
  refine List.Pairwise.imp_of_mem ?_ this
  intro a b ha hb ⟨h1, h2⟩
  have ha' := mem_lineMatches.1 ha
  have hb' := mem_lineMatches.1 hb
  have := hf a ha'.1
  have := hf b hb'.1
  unfold mle at h1; unfold Disj at h2
  omega

theorem lineMatches_single_of_facts {ms : List PMatch} (hd : ms.Pairwise Disj)
    (hf : ∀ m ∈ ms, m.start < m.stop) (m : PMatch) (hmem : m ∈ ms)
    (honly : ∀ m' ∈ ms, m'.lineno = m.lineno → m' = m) : lineMatches ms m.lineno = [m] := by
  have hs := lineMatches_sorted_of_facts hd hf m.lineno
  have hin : m ∈ lineMatches ms m.lineno := mem_lineMatches.2 ⟨hmem, rfl⟩
  have hall : ∀ x ∈ lineMatches ms m.lineno, x = m := fun x hx =>
    honly x (mem_lineMatches.1 hx).1 (mem_lineMatches.1 hx).2
  have hlt := hf m hmem
  generalize lineMatches ms m.lineno = L at *
  match L, hs, hin, hall with
  | [], _, hin, _ => cases hin
  | [a], _, _, hall => rw [hall a List.mem_cons_self]
  | a :: b :: rest, hs, _, hall =>
    -- two copies of `m` in a list whose elements end strictly before their predecessors start
    have ha := hall a List.mem_cons_self
    have hb := hall b (List.mem_cons_of_mem _ List.mem_cons_self)
    have := (List.pairwise_cons.1 hs).1 b List.mem_cons_self
    rw [ha, hb] at this
    omega

theorem sum_map_perm {α} (f : α → Int) {l1 l2 : List α} (h : l1.Perm l2) :
    (l1.map f).sum = (l2.map f).sum := by
  induction h with
  | nil => rfl
  | cons x _ ih => simp [ih]
  | swap x y l => simp only [List.map_cons, List.sum_cons]; omega
  | trans _ _ ih1 ih2 => exact ih1.trans ih2

/-! ### `replaceAll` on the pattern itself -/

theorem replaceAllF_nil (f : Nat) (pat rep : Str) : replaceAllF f pat rep [] = [] := by
  cases f <;> rfl

theorem replaceAll_self (p rep : Str) (h : p ≠ []) : replaceAll p rep p = rep := by
  cases p with
  | nil => exact absurd rfl h
  | cons c cs =>
    have hpre : (c :: cs).isPrefixOf (c :: cs) = true :=
      List.isPrefixOf_iff_prefix.2 (List.prefix_refl _)
    unfold replaceAll
    show replaceAllF ((c :: cs).length + 1) (c :: cs) rep (c :: cs) = rep
    rw [replaceAllF]
    simp only [List.isEmpty_cons, Bool.false_eq_true, if_false, hpre, if_true, List.drop_length,
      replaceAllF_nil, List.append_nil]

end BV
