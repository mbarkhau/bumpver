/-
  Proofs/TokTie_Iter.lean — `_iter_part_patterns`.
  * `findIdx` (`str.find`) and `findAllFrom` (the `while True: pattern.find(name, end)` loop): soundness, strict
    monotonicity, and completeness for occurrences that no earlier occurrence overlaps;
  * `_iter_part_patterns` as ONE pass over the list of all found occurrences (`iterPartPatterns_eq`), the shape of
    its items (`goParts_shape`), and when an occurrence gets the plain group name (no `_N` suffix): when no earlier
    occurrence has the same field (`goParts_plain`).
-/
import BumpverVerif.Proofs.PatternLemmas
namespace BV

theorem findIdx_some_min {t s : Str} {i : Nat} (h : findIdx t s = some i) :
    ∀ j, j < i → t.isPrefixOf (s.drop j) = false := by
  induction s generalizing i with
  | nil =>
    simp only [findIdx] at h
    split at h
    · cases h; intro j hj; omega
    · cases h
  | cons x xs ih =>
    simp only [findIdx] at h
    split at h
    · cases h; intro j hj; omega
    · rename_i hp
      cases hf : findIdx t xs with
      | none => simp [hf] at h
      | some k =>
        simp only [hf, Option.map_some, Option.some.injEq] at h
        subst h
        intro j hj
        cases j with
        | zero => simpa using (Bool.not_eq_true _).mp hp
        | succ j' => simpa using ih hf j' (by omega)

theorem prefix_drop_lt {t s : Str} {j : Nat} (ht : t ≠ []) (h : t.isPrefixOf (s.drop j) = true) :
    j + t.length ≤ s.length := by
  have := isPrefixOf_length_le h
  simp only [List.length_drop] at this
  have h0 : 0 < t.length := List.length_pos_iff.mpr ht
  omega

theorem findAllFrom_sound (name : Str) (fuel off : Nat) (s : Str) :
    ∀ i ∈ findAllFrom name fuel off s, off ≤ i ∧ name.isPrefixOf (s.drop (i - off)) = true := by
  induction fuel generalizing off s with
  | zero => intro i hi; simp [findAllFrom] at hi
  | succ f ih =>
    intro i hi
    simp only [findAllFrom] at hi
    cases hf : findIdx name s with
    | none => simp [hf] at hi
    | some k =>
      simp only [hf] at hi
      split at hi
      · cases hi
      · rcases List.mem_cons.mp hi with e | e
        · subst e
          refine ⟨by omega, ?_⟩
          have : off + k - off = k := by omega
          rw [this]
          exact findIdx_some_prefix hf
        · obtain ⟨h1, h2⟩ := ih _ _ i e
          refine ⟨by omega, ?_⟩
          rw [List.drop_drop] at h2
          have : k + name.length + (i - (off + k + name.length)) = i - off := by omega
          rw [this] at h2
          exact h2

theorem findAllFrom_lb (name : Str) (fuel off : Nat) (s : Str) :
    ∀ i ∈ findAllFrom name fuel off s, off ≤ i := fun i hi => (findAllFrom_sound name fuel off s i hi).1

theorem findAllFrom_increasing (name : Str) (fuel off : Nat) (s : Str) :
    (findAllFrom name fuel off s).Pairwise (· < ·) := by
  induction fuel generalizing off s with
  | zero => simp [findAllFrom]
  | succ f ih =>
    simp only [findAllFrom]
    cases hf : findIdx name s with
    | none => simp
    | some k =>
      simp only
      split
      · simp
      · rename_i hne
        refine List.pairwise_cons.mpr ⟨fun j hj => ?_, ih _ _⟩
        have := findAllFrom_lb _ _ _ _ j hj
        have h0 : 0 < name.length := by
          cases name with
          | nil => simp at hne
          | cons _ _ => simp
        omega

theorem findAllFrom_nodup (name : Str) (fuel off : Nat) (s : Str) : (findAllFrom name fuel off s).Nodup :=
  (findAllFrom_increasing name fuel off s).imp (fun h => Nat.ne_of_lt h)

/-- an occurrence at `j` that no earlier occurrence overlaps is found -/
theorem findAllFrom_complete (name : Str) (hne : name ≠ []) (fuel off : Nat) (s : Str) (j : Nat)
    (hf : s.length < fuel) (hj : name.isPrefixOf (s.drop j) = true)
    (hov : ∀ j', j' < j → name.isPrefixOf (s.drop j') = true → j' + name.length ≤ j) :
    off + j ∈ findAllFrom name fuel off s := by
  induction fuel generalizing off s j with
  | zero => omega
  | succ f ih =>
    simp only [findAllFrom]
    have hemp : name.isEmpty = false := by
      cases name with
      | nil => exact absurd rfl hne
      | cons _ _ => rfl
    cases hk : findIdx name s with
    | none => rw [findIdx_none_all hk j] at hj; cases hj
    | some k =>
      simp only [hemp, Bool.false_eq_true, if_false]
      have hkp := findIdx_some_prefix hk
      have hkj : k ≤ j := by
        apply Classical.byContradiction
        intro hlt
        have := findIdx_some_min hk j (by omega)
        rw [this] at hj; cases hj
      by_cases e : k = j
      · subst e; simp
      · have hlt : k < j := by omega
        have h1 := hov k hlt hkp
        have hlen := prefix_drop_lt hne hkp
        have h0 : 0 < name.length := List.length_pos_iff.mpr hne
        apply List.mem_cons_of_mem
        have := ih (off + k + name.length) (s.drop (k + name.length)) (j - (k + name.length))
          (by simp only [List.length_drop]; omega)
          (by rw [List.drop_drop]
              have : k + name.length + (j - (k + name.length)) = j := by omega
              rw [this]; exact hj)
          (by intro j' hj' hp
              rw [List.drop_drop] at hp
              have := hov (k + name.length + j') (by omega) hp
              omega)
        have e2 : off + k + name.length + (j - (k + name.length)) = off + j := by omega
        rw [e2] at this
        exact this

/-- an occurrence: part name, its regex, start index -/
abbrev Occ := Str × Str × Nat

def occField (pf : List (Str × Str)) (o : Occ) : Str := (lookup o.1 pf).getD []

/-- one step of the inner loop of `_iter_part_patterns` -/
def mkPart (pf : List (Str × Str)) (used : List Str) (o : Occ) : PosPart × List Str :=
  let field := occField pf o
  let gname := if memStr field used then field ++ ['_'] ++ natToStr used.length else field
  ({ start := o.2.2, stop := o.2.2 + o.1.length, name := o.1,
     text := "(?P<".toList ++ gname ++ ">".toList ++ o.2.1 ++ ")".toList },
   if memStr field used then used else used ++ [field])

def goParts (pf : List (Str × Str)) : List Str → List Occ → List PosPart × List Str
  | used, [] => ([], used)
  | used, o :: os =>
    let r := goParts pf (mkPart pf used o).2 os
    ((mkPart pf used o).1 :: r.1, r.2)

/-- the item of an occurrence with the plain group name -/
def plainOf (pf : List (Str × Str)) (o : Occ) : PosPart :=
  { start := o.2.2, stop := o.2.2 + o.1.length, name := o.1,
    text := "(?P<".toList ++ occField pf o ++ ">".toList ++ o.2.1 ++ ")".toList }

def occsOfEntry (G : Str) (e : Str × Str) : List Occ :=
  (findAllFrom e.1 (G.length + 1) 0 G).map (fun st => (e.1, e.2, st))

/-- all occurrences in iteration order: table order, then left to right -/
def occsOf (pp : List (Str × Str)) (G : Str) : List Occ := pp.flatMap (occsOfEntry G)

theorem goParts_append (pf : List (Str × Str)) (used : List Str) (A B : List Occ) :
    goParts pf used (A ++ B) =
      ((goParts pf used A).1 ++ (goParts pf (goParts pf used A).2 B).1, (goParts pf (goParts pf used A).2 B).2) := by
  induction A generalizing used with
  | nil => simp [goParts]
  | cons o A ih => simp [goParts, ih]

/-- the inner `foldl` (over the starts of one part name) -/
theorem inner_fold (pf : List (Str × Str)) (name rx : Str) (starts : List Nat) (acc : List PosPart) (used : List Str) :
    starts.foldl (fun (acc : List PosPart × List Str) start =>
        let used := acc.2
        let field := (lookup name pf).getD []
        let gname := if memStr field used then field ++ ['_'] ++ natToStr used.length else field
        let text := "(?P<".toList ++ gname ++ ">".toList ++ rx ++ ")".toList
        let used' := if memStr field used then used else used ++ [field]
        (acc.1 ++ [{ start := start, stop := start + name.length, name := name, text := text }], used')) (acc, used)
      = (acc ++ (goParts pf used (starts.map (fun st => (name, rx, st)))).1,
         (goParts pf used (starts.map (fun st => (name, rx, st)))).2) := by
  induction starts generalizing acc used with
  | nil => simp [goParts]
  | cons st starts ih =>
    rw [List.foldl_cons, List.map_cons]
    simp only [goParts]
    rw [ih]
    simp [mkPart, occField]
    exact ⟨rfl, rfl⟩

theorem iterPartPatterns_eq (pp pf : List (Str × Str)) (G : Str) :
    iterPartPatterns pp pf G = (goParts pf [] (occsOf pp G)).1 := by
  unfold iterPartPatterns
  suffices H : ∀ (l : List (Str × Str)) (acc : List PosPart) (used : List Str),
      l.foldl (fun (acc : List PosPart × List Str) (pp : Str × Str) =>
        (findAllFrom pp.1 (G.length + 1) 0 G).foldl (fun (acc : List PosPart × List Str) start =>
          let used := acc.2
          let field := (lookup pp.1 pf).getD []
          let gname := if memStr field used then field ++ ['_'] ++ natToStr used.length else field
          let text := "(?P<".toList ++ gname ++ ">".toList ++ pp.2 ++ ")".toList
          let used' := if memStr field used then used else used ++ [field]
          (acc.1 ++ [{ start := start, stop := start + pp.1.length, name := pp.1, text := text }], used')) acc)
        (acc, used) = (acc ++ (goParts pf used (occsOf l G)).1, (goParts pf used (occsOf l G)).2) by
    have := H pp [] []
    simp only [List.nil_append] at this
    exact congrArg Prod.fst this
  intro l
  induction l with
  | nil => intro acc used; simp [occsOf, goParts]
  | cons e l ih =>
    intro acc used
    rw [List.foldl_cons]
    have hin := inner_fold pf e.1 e.2 (findAllFrom e.1 (G.length + 1) 0 G) acc used
    rw [hin, ih]
    have : occsOf (e :: l) G = occsOfEntry G e ++ occsOf l G := by simp [occsOf]
    rw [this, goParts_append]
    simp [occsOfEntry, List.append_assoc]

/-! ### shape and keys of the items -/

theorem goParts_keys (pf : List (Str × Str)) (used : List Str) (occs : List Occ) :
    (goParts pf used occs).1.map (fun x => (x.name, x.start)) = occs.map (fun o => (o.1, o.2.2)) := by
  induction occs generalizing used with
  | nil => rfl
  | cons o os ih => simp [goParts, ih, mkPart]

theorem goParts_shape (pf : List (Str × Str)) (used : List Str) (occs : List Occ) :
    ∀ x ∈ (goParts pf used occs).1, ∃ o ∈ occs, x.start = o.2.2 ∧ x.stop = o.2.2 + o.1.length ∧ x.name = o.1 := by
  induction occs generalizing used with
  | nil => intro x hx; cases hx
  | cons o os ih =>
    intro x hx
    simp only [goParts] at hx
    rcases List.mem_cons.mp hx with e | e
    · subst e
      exact ⟨o, List.mem_cons_self, rfl, rfl, rfl⟩
    · obtain ⟨o', ho', h⟩ := ih _ x e
      exact ⟨o', List.mem_cons_of_mem _ ho', h⟩

theorem memStr_iff (x : Str) (l : List Str) : memStr x l = true ↔ x ∈ l := by
  simp [memStr]

/-- the `used_fields` after a run: the old ones and the fields of the processed occurrences -/
theorem goParts_used (pf : List (Str × Str)) (used : List Str) (occs : List Occ) (f : Str) :
    f ∈ (goParts pf used occs).2 ↔ f ∈ used ∨ f ∈ occs.map (occField pf) := by
  induction occs generalizing used with
  | nil => simp [goParts]
  | cons o os ih =>
    simp only [goParts, ih, mkPart, List.map_cons, List.mem_cons]
    by_cases hm : memStr (occField pf o) used = true
    · simp only [hm, if_true]
      rw [memStr_iff] at hm
      constructor
      · rintro (h | h)
        · exact Or.inl h
        · exact Or.inr (Or.inr h)
      · rintro (h | h | h)
        · exact Or.inl h
        · subst h; exact Or.inl hm
        · exact Or.inr h
    · simp only [hm, Bool.false_eq_true, if_false, List.mem_append, List.mem_singleton]
      constructor
      · rintro ((h | h) | h)
        · exact Or.inl h
        · exact Or.inr (Or.inl h)
        · exact Or.inr (Or.inr h)
      · rintro (h | h | h)
        · exact Or.inl (Or.inl h)
        · exact Or.inl (Or.inr h)
        · exact Or.inr h

/-- an occurrence whose field no earlier occurrence has gets the plain group name -/
theorem goParts_plain (pf : List (Str × Str)) (A B : List Occ) (o : Occ)
    (h : ∀ o' ∈ A, occField pf o' ≠ occField pf o) :
    plainOf pf o ∈ (goParts pf [] (A ++ o :: B)).1 := by
  rw [goParts_append]
  apply List.mem_append_right
  simp only [goParts]
  apply List.mem_cons.mpr
  left
  have hnot : memStr (occField pf o) (goParts pf [] A).2 = false := by
    cases hm : memStr (occField pf o) (goParts pf [] A).2 with
    | false => rfl
    | true =>
      rw [memStr_iff, goParts_used] at hm
      rcases hm with hm | hm
      · cases hm
      · obtain ⟨o', ho', e⟩ := List.mem_map.mp hm
        exact absurd e (h o' ho')
  simp [mkPart, plainOf, hnot]

/-- membership in the occurrence list -/
theorem mem_occsOf {pp : List (Str × Str)} {G : Str} {o : Occ} (h : o ∈ occsOf pp G) :
    ∃ e ∈ pp, o.1 = e.1 ∧ o.2.1 = e.2 ∧ o.2.2 ∈ findAllFrom e.1 (G.length + 1) 0 G := by
  simp only [occsOf, List.mem_flatMap, occsOfEntry, List.mem_map] at h
  obtain ⟨e, he, st, hst, rfl⟩ := h
  exact ⟨e, he, rfl, rfl, hst⟩

/-- splitting the occurrence list at a given occurrence of a given table entry -/
theorem occsOf_split (pp1 pp2 : List (Str × Str)) (e : Str × Str) (G : Str) (st : Nat)
    (hst : st ∈ findAllFrom e.1 (G.length + 1) 0 G) :
    ∃ S1 S2 : List Nat, (∀ s ∈ S1, s ∈ findAllFrom e.1 (G.length + 1) 0 G ∧ s ≠ st) ∧
      occsOf (pp1 ++ e :: pp2) G =
        (occsOf pp1 G ++ S1.map (fun s => (e.1, e.2, s))) ++ (e.1, e.2, st) ::
          (S2.map (fun s => (e.1, e.2, s)) ++ occsOf pp2 G) := by
  obtain ⟨S1, S2, hS⟩ := List.append_of_mem hst
  have hnd := findAllFrom_nodup e.1 (G.length + 1) 0 G
  refine ⟨S1, S2, ?_, ?_⟩
  · intro s hs
    refine ⟨by rw [hS]; simp [hs], ?_⟩
    rw [hS] at hnd
    have := List.nodup_append.mp hnd
    intro e'
    subst e'
    exact this.2.2 s hs s List.mem_cons_self rfl
  · simp only [occsOf, List.flatMap_append, List.flatMap_cons, occsOfEntry]
    rw [hS]
    simp [List.append_assoc]

end BV
