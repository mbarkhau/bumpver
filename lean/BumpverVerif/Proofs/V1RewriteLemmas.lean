/-
  Proofs/V1RewriteLemmas.lean — helper lemmas about the legacy rewrite model (Model/V1Rewrite.lean):

  * `v1FormatVersion_errors`, `v1ErrToPErr_faithful` : the legacy renderer only ends in KeyError / TypeError /
    ValueError / "outside the model", and on these the embedding `v1ErrToPErr` of the legacy exceptions into
    the error type of the rewrite model loses nothing;
  * the dry path `v1DiffFile` / `v1DiffFiles` / `v1DiffAll` versus the write path `v1PlanWrites`;
  * `sortByPath` is a permutation.
  The engine-independent lemmas are those of Proofs/RewriteGeneric.lean at `v1Engine`.
-/
import BumpverVerif.Model.V1Rewrite
import BumpverVerif.Proofs.RewriteGeneric
namespace BV

/-! ### the two fields of `v1Engine` (stated once, with the big functions kept folded) -/

attribute [local irreducible] v1RegexOf in
theorem v1Engine_compile (p : CPat) : v1Engine.compile p = v1RegexOf p := rfl

attribute [local irreducible] v1Render in
theorem v1Engine_render (v : V1Info) (p : CPat) : v1Engine.render v p = v1Render v p := rfl

/-! ### the exceptions of `v1version.format_version` -/

/-- the exceptions `v1version.format_version` can end with -/
def V1Err.ofRender (e : V1Err) : Prop :=
  e = .keyError ∨ e = .typeError ∨ e = .valueError ∨ e = .unsupported

theorem v1Kwargs_errors (v : V1Info) (e : V1Err) (h : v1Kwargs v = .error e) : e.ofRender := by
  unfold v1Kwargs at h
  simp only [bind, Except.bind, pure, Except.pure, throw, throwThe, MonadExceptOf.throw] at h
  repeat' split at h
  all_goals first | (cases h; done) | (cases h; simp [V1Err.ofRender])

theorem v1RenderField_errors (kw : List (Str × FV)) (f : Str) (e : V1Err)
    (h : v1RenderField kw f = .error e) : e.ofRender := by
  unfold v1RenderField at h
  simp only [] at h
  repeat' split at h
  all_goals first | (cases h; done) | (cases h; simp [V1Err.ofRender])

theorem v1PyFormatGo_errors (kw : List (Str × FV)) (n : Nat) (s : Str) (e : V1Err)
    (h : v1PyFormatGo kw n s = .error e) : e.ofRender := by
  induction n generalizing s e with
  | zero => simp only [v1PyFormatGo] at h; cases h; simp [V1Err.ofRender]
  | succ n ih =>
    cases s with
    | nil => simp only [v1PyFormatGo] at h; cases h
    | cons c r =>
      simp only [v1PyFormatGo] at h
      have hmap : ∀ (g : Str → Str) (t : Str), Except.map g (v1PyFormatGo kw n t) = .error e → e.ofRender := by
        intro g t ht
        cases hr : v1PyFormatGo kw n t with
        | error e' => rw [hr] at ht; simp only [Except.map] at ht; cases ht; exact ih _ _ hr
        | ok x => rw [hr] at ht; simp only [Except.map] at ht; cases ht
      repeat' split at h
      all_goals first
        | exact hmap _ _ h
        | (cases h; done)
        | (cases h; simp [V1Err.ofRender]; done)
        | (rename_i hf; cases h; exact v1RenderField_errors _ _ _ hf)

/-- `format_version` of the legacy engine ends in a value, a KeyError (unknown `{name}` / unknown tag), a
    TypeError (`{month:02}` of `None`), a ValueError (malformed format string) or outside the model -/
theorem v1FormatVersion_errors (v : V1Info) (raw : Str) (e : V1Err)
    (h : v1FormatVersion v raw = .error e) : e.ofRender := by
  unfold v1FormatVersion at h
  simp only [bind, Except.bind] at h
  split at h
  · rename_i e' hk; cases h; exact v1Kwargs_errors v _ hk
  · exact v1PyFormatGo_errors _ _ _ _ h

/-- on the exceptions the renderer can end with, the embedding into `PErr` is injective and keeps
    "outside the model" apart from the real exceptions -/
theorem v1ErrToPErr_faithful (a b : V1Err) (ha : a.ofRender) (hb : b.ofRender)
    (h : v1ErrToPErr a = v1ErrToPErr b) : a = b := by
  rcases ha with rfl | rfl | rfl | rfl <;> rcases hb with rfl | rfl | rfl | rfl <;>
    first | rfl | (simp [v1ErrToPErr] at h)

/-- the replacement of a match, read back: an error of `v1Render` IS the legacy exception -/
theorem v1Render_error (v : V1Info) (p : CPat) (e : PErr) (h : v1Render v p = .error e) :
    ∃ e1, v1FormatVersion v p.raw = .error e1 ∧ e1.ofRender ∧ e = v1ErrToPErr e1 := by
  unfold v1Render at h
  split at h
  · cases h
  · rename_i e1 he1
    cases h
    exact ⟨e1, he1, v1FormatVersion_errors _ _ _ he1, rfl⟩

theorem v1Render_ok (v : V1Info) (p : CPat) (s : Str) : v1Render v p = .ok s ↔ v1FormatVersion v p.raw = .ok s := by
  unfold v1Render
  constructor
  · intro h
    split at h
    · cases h; assumption
    · cases h
  · intro h
    simp only [h]

/-! ### the dry path versus the write path -/

theorem v1DiffFile_ok {fs : FS} {old new : V1Info} {path : Str} {pats : List CPat}
    {ol nl : List Str} (h : v1DiffFile fs old new path pats = .ok (ol, nl)) :
    ∃ content, lookup path fs = some content ∧ ol = splitOn (detectLineSep content) content ∧
      v1RewriteLines pats new (splitOn (detectLineSep content) content) = .ok nl := by
  unfold v1DiffFile at h
  split at h
  · cases h
  · rename_i content hc
    refine ⟨content, hc, ?_⟩
    split at h
    · cases h
    · simp only at h
      split at h
      · cases h
      · rename_i newLines hn
        split at h
        · cases h
        · cases h
          exact ⟨rfl, hn⟩

theorem v1DiffFile_rewriteContent {fs : FS} {old new : V1Info} {path : Str} {pats : List CPat}
    {ol nl : List Str} (h : v1DiffFile fs old new path pats = .ok (ol, nl)) :
    ∃ content, lookup path fs = some content ∧ ol = splitOn (detectLineSep content) content ∧
      v1RewriteContent pats new content = .ok (join (detectLineSep content) nl) := by
  obtain ⟨content, h1, h2, h3⟩ := v1DiffFile_ok h
  refine ⟨content, h1, h2, ?_⟩
  unfold v1RewriteLines at h3
  unfold v1RewriteContent RwEngine.rewriteContent
  simp only [h3]

theorem v1DiffFiles_cons_ok {fs : FS} {old new : V1Info} {path : Str} {pats : List CPat}
    {rest : List (Str × List CPat)} {rs : List (Str × List Str × List Str)}
    (h : v1DiffFiles fs old new ((path, pats) :: rest) = .ok rs) :
    ∃ r rs', v1DiffFile fs old new path pats = .ok r ∧ v1DiffFiles fs old new rest = .ok rs' ∧
      rs = (path, r) :: rs' := by
  unfold v1DiffFiles at h
  split at h
  · cases h
  · rename_i r hr
    split at h
    · cases h
    · rename_i rs' hrs'
      cases h
      exact ⟨r, rs', hr, hrs', rfl⟩

/-- a successful legacy dry run ⇒ the read-and-validate phase of the real run succeeds and plans, for
    every diffed file, the join of the diffed new lines -/
theorem v1PlanWrites_of_diffFiles (fs : FS) (old new : V1Info) (fps : List (Str × List CPat))
    (rs : List (Str × List Str × List Str)) (h : v1DiffFiles fs old new fps = .ok rs) :
    ∃ ws, v1PlanWrites fs new fps = .ok ws ∧
      ∀ r ∈ rs, ∃ content, lookup r.1 fs = some content ∧
        (r.1, join (detectLineSep content) r.2.2) ∈ ws := by
  induction fps generalizing rs with
  | nil =>
    simp only [v1DiffFiles, Except.ok.injEq] at h
    subst h
    exact ⟨[], rfl, by simp⟩
  | cons fp rest ih =>
    obtain ⟨path, pats⟩ := fp
    obtain ⟨⟨ol, nl⟩, rs', hr, hrs', rfl⟩ := v1DiffFiles_cons_ok h
    obtain ⟨ws, hws, hall⟩ := ih rs' hrs'
    obtain ⟨content, hc, -, hrc⟩ := v1DiffFile_rewriteContent hr
    refine ⟨(path, join (detectLineSep content) nl) :: ws, ?_, ?_⟩
    · unfold v1PlanWrites at hws ⊢
      unfold v1RewriteContent at hrc
      rw [RwEngine.planWrites_cons]
      simp only [hc, hrc, hws]
    · intro r hrm
      rcases List.mem_cons.1 hrm with rfl | hrm
      · exact ⟨content, hc, List.mem_cons_self⟩
      · obtain ⟨c, h1, h2⟩ := hall r hrm
        exact ⟨c, h1, List.mem_cons_of_mem _ h2⟩

/-! ### `sortByPath` -/

theorem insertByPath_perm {α : Type} (x : Str × α) (ys : List (Str × α)) : (insertByPath x ys).Perm (x :: ys) := by
  induction ys with
  | nil => exact .refl _
  | cons y ys ih =>
    unfold insertByPath
    split
    · exact (List.Perm.cons y ih).trans (List.Perm.swap x y ys)
    · exact .refl _

theorem sortByPath_perm {α : Type} (l : List (Str × α)) : (sortByPath l).Perm l := by
  induction l with
  | nil => exact .refl _
  | cons x l ih =>
    show (insertByPath x (sortByPath l)).Perm (x :: l)
    exact (insertByPath_perm _ _).trans (List.Perm.cons x ih)

theorem mem_sortByPath {α : Type} (l : List (Str × α)) (x : Str × α) : x ∈ sortByPath l ↔ x ∈ l :=
  (sortByPath_perm l).mem_iff

end BV
