/-
  Proofs/CmdLemmas.lean — lemmas and proof automation shared by the command ties
  (Proofs/Tie_cmd*.lean; generated definitions of harness/translate_commands.py, namespace BV.GenL).

  A generated definition is a term built from `Cmd.bind / pure / tryCatch / throw / exit`, the lifts
  `Cmd.liftExc / liftEff / ofOption`, the primitive effects `Cmd.echo / printDiff / format` and calls of
  other generated definitions.  A tie unfolds it, rewrites the calls of other generated definitions with
  THEIR ties (equations for all environments and states), and then case-splits on what the callees answer.
-/
import BumpverVerif.Model.Cmd
import BumpverVerif.Proofs.EffLemmas
import BumpverVerif.Proofs.TieCliLemmas
-- `cmd_simp` passes one fixed list of lemmas to `simp`; no single call uses all of them
set_option linter.unusedSimpArgs false
namespace BV
namespace TieL

/-- an error of the new-style engine, as the command monad sees it -/
def ofV2 {α : Type} : Except PErr α → Except CStop α
  | .ok a => .ok a
  | .error e => .error (.exc (.v2 e))

/-- an error of the legacy engine -/
def ofV1 {α : Type} : Except V1Err α → Except CStop α
  | .ok a => .ok a
  | .error e => .error (.exc (.v1 e))

/-- an `Except Exc` result -/
def ofExc {α : Type} : Except Exc α → Except CStop α
  | .ok a => .ok a
  | .error e => .error (.exc e)

@[simp] theorem ofV2_ok {α : Type} (a : α) : ofV2 (.ok a : Except PErr α) = .ok a := rfl
@[simp] theorem ofV2_error {α : Type} (e : PErr) : ofV2 (.error e : Except PErr α) = .error (.exc (.v2 e)) := rfl
@[simp] theorem ofV1_ok {α : Type} (a : α) : ofV1 (.ok a : Except V1Err α) = .ok a := rfl
@[simp] theorem ofV1_error {α : Type} (e : V1Err) : ofV1 (.error e : Except V1Err α) = .error (.exc (.v1 e)) := rfl
@[simp] theorem ofExc_ok {α : Type} (a : α) : ofExc (.ok a : Except Exc α) = .ok a := rfl
@[simp] theorem ofExc_error {α : Type} (e : Exc) : ofExc (.error e : Except Exc α) = .error (.exc e) := rfl

theorem ofExc_liftV2 {α : Type} (r : Except PErr α) : ofExc (liftV2 r) = ofV2 r := by cases r <;> rfl
theorem ofExc_liftV1 {α : Type} (r : Except V1Err α) : ofExc (liftV1 r) = ofV1 r := by cases r <;> rfl

end TieL
open TieL

/-! ### running the combinators -/

theorem Cmd.ite_run {α : Type} (c : Prop) [Decidable c] (m n : Cmd α) (e : CmdEnv) (s : CState) :
    (if c then m else n) e s = if c then m e s else n e s := by split <;> rfl

theorem Cmd.liftExc_run {α : Type} (r : Except Exc α) (e : CmdEnv) (s : CState) :
    Cmd.liftExc r e s = (s, TieL.ofExc r) := by cases r <;> rfl

theorem Cmd.bind_liftExc {α β : Type} (r : Except Exc α) (f : α → Cmd β) (e : CmdEnv) (s : CState) :
    Cmd.bind (Cmd.liftExc r) f e s =
      (match r with
       | .ok a => f a e s
       | .error x => (s, .error (.exc x))) := by
  cases r <;> rfl

theorem Cmd.bind_pure {α β : Type} (a : α) (f : α → Cmd β) (e : CmdEnv) (s : CState) :
    Cmd.bind (Cmd.pure a) f e s = f a e s := rfl

theorem Cmd.pure_bind {α β : Type} (a : α) (f : α → Cmd β) : Cmd.bind (Cmd.pure a) f = f a := rfl

theorem Cmd.tryCatch_pure {α : Type} (a : α) (h : CStop → Cmd α) : Cmd.tryCatch (Cmd.pure a) h = Cmd.pure a := rfl

theorem Cmd.bind_of_run {α β : Type} {m : Cmd α} {K : α → Cmd β} {ce : CmdEnv} {s s' : CState} {r : Except CStop α}
    (hm : m ce s = (s', r)) :
    Cmd.bind m K ce s =
      (match (generalizing := false) r with
       | .ok a => K a ce s'
       | .error x => (s', .error x)) := by
  unfold Cmd.bind
  rw [hm]
  cases r <;> rfl

theorem Cmd.bind_pure_right {α : Type} (m : Cmd α) : Cmd.bind m (fun a => Cmd.pure a) = m := by
  funext e s
  unfold Cmd.bind Cmd.pure
  rcases m e s with ⟨s', r⟩
  cases r <;> rfl

theorem Cmd.bind_pure_unit (m : Cmd Unit) : Cmd.bind m (fun _ => Cmd.pure ()) = m := Cmd.bind_pure_right m

@[simp] theorem CStop.isA_v2_pattern (c : CClass) :
    (CStop.exc (.v2 .pattern)).isA c = (c == .baseException || c == .exception || c == .patternError) := by
  cases c <;> rfl
@[simp] theorem CStop.isA_v1_pattern (c : CClass) :
    (CStop.exc (.v1 .pattern)).isA c = (c == .baseException || c == .exception || c == .patternError) := by
  cases c <;> rfl

theorem CStop.isA_v2_patternError (e : PErr) : (CStop.exc (.v2 e)).isA .patternError = (e == .pattern) := by
  cases e <;> rfl
theorem CStop.isA_v1_patternError (e : V1Err) : (CStop.exc (.v1 e)).isA .patternError = (e == .pattern) := by
  cases e <;> rfl
@[simp] theorem CStop.isA_eff_patternError (x : Stop) : (CStop.eff x).isA .patternError = false := rfl
@[simp] theorem CStop.isA_eff_valueError (x : Stop) : (CStop.eff x).isA .valueError = x.isA .valueError := rfl
@[simp] theorem CStop.isA_exc_valueError (x : Exc) :
    (CStop.exc x).isA .valueError = x.isValueError := by
  cases x <;> rfl

/-- unfold the combinators and primitive effects at a state, using every hypothesis as a rewrite rule -/
syntax "cmd_simp" (" [" Lean.Parser.Tactic.simpLemma,* "]")? : tactic
macro_rules
  | `(tactic| cmd_simp) => `(tactic| cmd_simp [Cmd.pure])
  | `(tactic| cmd_simp [$ls,*]) => `(tactic|
      simp [Cmd.ite_run, Cmd.tryCatch, Cmd.bind, Cmd.pure, Cmd.throw, Cmd.exit, Cmd.liftEff, Cmd.liftExc,
        Cmd.ofOption, Cmd.echo, Cmd.printDiff, Cmd.format, Except.map, $ls,*, *])

theorem TieL.isInfix_lbrace' (s : Str) : isInfix ['{'] s = s.contains '{' := isInfix_singleton '{' s
theorem TieL.isInfix_rbrace' (s : Str) : isInfix ['}'] s = s.contains '}' := isInfix_singleton '}' s

/-- `"{" not in p and "}" not in p` as the generated text spells it (explicit character lists) -/
theorem TieL.isNewPattern_gen' (pat : Str) :
    ((!isInfix ['{'] pat) && (!isInfix ['}'] pat)) = isNewPattern pat := by
  rw [isInfix_lbrace', isInfix_rbrace']; rfl

/-- the same test written `not ("{" in p or "}" in p)` -/
theorem TieL.isNewPattern_gen'o (pat : Str) :
    (!((isInfix ['{'] pat) || (isInfix ['}'] pat))) = isNewPattern pat := by
  rw [Bool.not_or]; exact TieL.isNewPattern_gen' pat

theorem TieL.isNewPattern_gen'oc (pat : Str) :
    (!((isInfix ['}'] pat) || (isInfix ['{'] pat))) = isNewPattern pat := by
  rw [Bool.or_comm]; exact TieL.isNewPattern_gen'o pat

/-- the NEGATED test `"{" in p or "}" in p` (a variable `is_old_pattern` with the branches exchanged) -/
theorem TieL.isOldPattern_gen (pat : Str) :
    ((isInfix ['{'] pat) || (isInfix ['}'] pat)) = !isNewPattern pat := by
  rw [← TieL.isNewPattern_gen'o, Bool.not_not]

theorem TieL.isOldPattern_genc (pat : Str) :
    ((isInfix ['}'] pat) || (isInfix ['{'] pat)) = !isNewPattern pat := by
  rw [Bool.or_comm]; exact TieL.isOldPattern_gen pat

/-- the same with the conjuncts commuted (a behaviour-preserving rewrite of the Python) -/
theorem TieL.isNewPattern_gen'c (pat : Str) :
    ((!isInfix ['}'] pat) && (!isInfix ['{'] pat)) = isNewPattern pat := by
  rw [Bool.and_comm]; exact isNewPattern_gen' pat

end BV
