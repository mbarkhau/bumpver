/-
  Proofs/Tie_pepParseLocalVersion.lean — the definition GENERATED from the Python source of
  `setuptools_v65_version._parse_local_version` (Gen/F_pepParseLocalVersion.lean, harness/translate_pepversion.py)
  against the reference `localOf` of Model/PepGroups.lean and against the way the hand model
  (Model/Pep440.lean, `localSeg`) reads a local version.

  * `tie_pepParseLocalVersion`       : for EVERY optional text, generated = `Option.map localOf`
       (`localOf s = (splitSeps [] s).map localPartOf`: split at `.`, `_`, `-`; a part that is a non-empty digit
       string becomes its number, any other part is lower-cased);
  * `tie_pepParseLocalVersion_model` : on a text the model's `localSeg` accepts (after `+`, already lower-cased —
       the model lower-cases the whole version first), the generated function returns exactly the model's parts.
  The character class of `_local_version_separators` is read from the source (`splitAny ['.', '_', '-']`);
  `splitAny_seps` proves that it is the model's `splitSeps`.
-/
import BumpverVerif.Gen.F_pepParseLocalVersion
import BumpverVerif.Model.PepGroups
import BumpverVerif.Proofs.Pep440Lemmas
namespace BV
namespace TieQ

/-- closes `∀ c, seps.elem c = isSep c` for a literal list `seps` (the three separators in any order, with repetitions) -/
macro "seps_elem" : tactic =>
  `(tactic| (intro c; simp only [List.elem, isSep];
             cases h1 : c == '.' <;> cases h2 : c == '_' <;> cases h3 : c == '-' <;> rfl))

theorem elem_seps : ∀ c : Char, (['.', '_', '-'] : List Char).elem c = isSep c := by seps_elem

theorem splitAnyGo_seps (seps : List Char) (h : ∀ c, seps.elem c = isSep c) (cur s : Str) :
    splitAnyGo seps cur s = splitSeps cur s := by
  induction s generalizing cur with
  | nil => rfl
  | cons c cs ih => simp only [splitAnyGo, splitSeps, h, ih]

/-- the separators read from the Python regex literal are the model's `isSep` -/
theorem splitAny_seps (s : Str) : splitAny ['.', '_', '-'] s = splitSeps [] s :=
  splitAnyGo_seps _ elem_seps [] s

theorem lowerStr_of_localChars (p : Str) (h : p.all isLocalChar = true) : lowerStr p = p := by
  apply lowerStr_of_canon
  rw [List.all_eq_true] at h ⊢
  intro c hc
  exact isCanon_of_localChar c (h c hc)

end TieQ

/-- generated `_parse_local_version` = the reference, for every argument -/
theorem tie_pepParseLocalVersion (loc : Option Str) :
    GenQ.pepParseLocalVersion loc = loc.map localOf := by
  cases loc with
  | none => rfl
  | some s =>
    simp only [GenQ.pepParseLocalVersion, Option.map_some, localOf, Option.some.injEq]
    -- the character class is whatever the source says; it must denote the model's three separators
    rw [show splitAny _ s = splitSeps [] s from TieQ.splitAnyGo_seps _ (by seps_elem) [] s]
    apply List.map_congr_left
    intro p _
    -- the generated part test is written as the reference writes it, or as an `if` on `isDigitStr`
    first
      | (simp only [localPartOf]; done)
      | (simp only [localPartOf]; cases isDigitStr p <;> rfl)

/-- a part of lower-case text: the reference's part is the model's part -/
theorem TieQ.localPartOf_lower (p : Str) (h : lowerStr p = p) : localPartOf p = parseLocalPart p := by
  simp only [localPartOf, parseLocalPart, h]

/-- On a text the model's `localSeg` accepts after `+` (lower-case letters and digits between the separators: the
    model lower-cases the whole version before anything else) the generated function returns the model's parts. -/
theorem tie_pepParseLocalVersion_model (text : Str) (parts : List LocalSeg)
    (h : localSeg ('+' :: text) = some (some parts)) :
    GenQ.pepParseLocalVersion (some text) = some parts := by
  rw [tie_pepParseLocalVersion]
  simp only [localSeg] at h
  split at h
  · next hall =>
    simp only [Option.some.injEq] at h
    subst h
    simp only [Option.map_some, localOf, Option.some.injEq]
    apply List.map_congr_left
    intro p hp
    apply TieQ.localPartOf_lower
    rw [List.all_eq_true] at hall
    have := hall p hp
    simp only [Bool.and_eq_true] at this
    exact TieQ.lowerStr_of_localChars p this.2
  · cases h

/-- non-vacuity -/
example : GenQ.pepParseLocalVersion (some "Ubuntu-01_x".toList) = some [.str "ubuntu".toList, .num 1, .str "x".toList] := by
  decide

end BV
