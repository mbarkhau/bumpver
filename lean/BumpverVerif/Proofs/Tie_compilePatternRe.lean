/-
  Proofs/Tie_compilePatternRe.lean — the definition GENERATED from the Python source of
  `v2patterns._compile_pattern_re` (Gen/F_compilePatternRe.lean: the escape loop over
  `RE_PATTERN_ESCAPES` with the `"[]\\"` exemption, `_replace_pattern_parts`, `re.compile` WITHOUT flags)
  against the hand model `BV.compileRe` = `parseRe ∘ compileStr` (Model/V2Patterns.lean).

  `re.compile(pattern_str)` is translated to the model's `parseRe`, which has no flags: a flags argument
  in the source is UNTRANSLATABLE, so this tie cannot compile then.

  Hypothesis `hesc` (decidable, true of the generated table): Python tests `char in "[]\\"` (SUBSTRING),
  the model tests "every character of `char` is one of `[`, `]`, backslash".  They differ for a table key
  such as "][" or "[[" (all characters semantic, not a substring of `[]\`): Python would `replace` it, the
  model skips it.  `RE_PATTERN_ESCAPES` only has one-character keys.
-/
import BumpverVerif.Gen.F_compilePatternRe
import BumpverVerif.Proofs.Tie_replacePatternParts
namespace BV
open PyP

theorem isInfix_nil (s : Str) : isInfix [] s = true := by
  cases s <;> simp [isInfix, findIdx]

/-- a substring of `[]\` consists of semantic characters only -/
theorem all_semantic_of_isInfix (name : Str) (h : isInfix name "[]\\".toList = true) :
    name.all (fun c => "[]\\".toList.contains c) = true := by
  simp only [isInfix, Option.isSome_iff_exists] at h
  obtain ⟨i, hi⟩ := h
  have := findIdx_some_subset hi
  simp only [List.all_eq_true]
  intro c hc
  simpa using this c hc

/-- the step of the escape loop: Python's substring test against the model's character test -/
theorem escape_step (ce : Str × Str) (acc : Str)
    (hesc : ce.1.all (fun c => "[]\\".toList.contains c) = true → isInfix ce.1 "[]\\".toList = true) :
    (if isInfix ce.1 "[]\\".toList then acc else PyP.replace ce.1 ce.2 acc) =
    (if ce.1.all (fun c => "[]\\".toList.contains c) && !ce.1.isEmpty then acc else replaceAll ce.1 ce.2 acc) := by
  by_cases hn : ce.1 = []
  · simp [hn, isInfix_nil, replaceAll_nil]
  · have hne : ce.1.isEmpty = false := by cases h : ce.1 with
      | nil => exact absurd h hn
      | cons _ _ => rfl
    by_cases hall : ce.1.all (fun c => "[]\\".toList.contains c) = true
    · simp only [hesc hall, if_true, hall, hne, Bool.not_false, Bool.and_self]
    · have hni : ¬ isInfix ce.1 "[]\\".toList = true := fun h => hall (all_semantic_of_isInfix _ h)
      simp only [hni, hall, Bool.false_and, Bool.false_eq_true, if_false, replace_of_ne _ _ _ hn]

theorem tie_compilePatternRe (escapes partPatterns partFields : List (Str × Str)) (fuel : Nat) (normalized : Str)
    (hesc : ∀ ce ∈ escapes, ce.1.all (fun c => "[]\\".toList.contains c) = true → isInfix ce.1 "[]\\".toList = true)
    (hkeys : ∀ pp ∈ partPatterns, (lookup pp.1 partFields).isSome = true)
    (hne : ∀ pp ∈ partPatterns, pp.1 ≠ [])
    (hfuel : replaceFuel (escapePattern escapes normalized) ≤ fuel) :
    GenF.compilePatternRe escapes partPatterns partFields fuel normalized =
      parseRe (compileStrWith escapes partPatterns partFields normalized) := by
  have hescape : ∀ G : Str → Str × Str → Str,
      (∀ ce ∈ escapes, ∀ acc, G acc ce =
        if isInfix ce.1 "[]\\".toList then acc else PyP.replace ce.1 ce.2 acc) →
      escapes.foldl G normalized = escapePattern escapes normalized := by
    intro G hG
    unfold escapePattern
    exact foldl_congr_mem _ _ _ (fun ce hce acc => by rw [hG ce hce acc, escape_step ce acc (hesc ce hce)]) _
  simp only [GenF.compilePatternRe]
  -- the exemption as written (`if not is_semantic_char:`), with `continue`, or with the test inlined and negated
  rw [hescape _ (fun ce _ acc => by first | rfl | (split <;> rfl) | (split <;> simp_all))]
  simp only [tie_replacePatternParts partPatterns partFields fuel _ hkeys hne hfuel, compileStrWith]
  cases parseRe (replacePatternParts partPatterns partFields (escapePattern escapes normalized)) <;> rfl

theorem genEscapes_ok : ∀ ce ∈ Gen.rePatternEscapes,
    ce.1.all (fun c => "[]\\".toList.contains c) = true → isInfix ce.1 "[]\\".toList = true := by
  decide +kernel

/-- fuel that suffices for `_compile_pattern_re(normalized)` -/
def compileFuel (normalized : Str) : Nat := replaceFuel (escapePattern Gen.rePatternEscapes normalized)

/-- `_compile_pattern_re` (generated from the source, over the generated tables) IS the model's
    `compileRe`: for every sufficiently large fuel the Python loops terminate and `re.compile` is handed
    exactly the regex source the model parses -/
theorem tie_compilePatternRe_gen (fuel : Nat) (normalized : Str) (hfuel : compileFuel normalized ≤ fuel) :
    GenF.compilePatternRe Gen.rePatternEscapes Gen.partPatterns Gen.partFields fuel normalized =
      compileRe normalized :=
  tie_compilePatternRe _ _ _ fuel normalized genEscapes_ok genPartPatterns_keys genPartPatterns_ne hfuel

/-- a closed bound: three times the length of the ESCAPED pattern, plus one -/
theorem compileFuel_le (normalized : Str) :
    compileFuel normalized ≤ 3 * (escapePattern Gen.rePatternEscapes normalized).length + 1 :=
  replaceFuel_le _

/-- fuel-free reading: the Python function terminates and returns what the model says -/
theorem tie_compilePatternRe_terminates (normalized : Str) :
    ∃ N, ∀ fuel, N ≤ fuel →
      GenF.compilePatternRe Gen.rePatternEscapes Gen.partPatterns Gen.partFields fuel normalized =
        compileRe normalized :=
  ⟨compileFuel normalized, fun fuel h => tie_compilePatternRe_gen fuel normalized h⟩

/-- `hesc` is needed: for the table key `][` Python replaces, the model skips -/
example : (if isInfix "][".toList "[]\\".toList then "a][b".toList else PyP.replace "][".toList "X".toList "a][b".toList)
    = "aXb".toList := by decide
example : escapePattern [("][".toList, "X".toList)] "a][b".toList = "a][b".toList := by decide

end BV
