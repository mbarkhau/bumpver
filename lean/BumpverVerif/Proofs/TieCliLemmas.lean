/-
  Proofs/TieCliLemmas.lean — small lemmas shared by the ties of the definitions generated by
  harness/translate_cli.py (Proofs/Tie_<name>.lean).
-/
import BumpverVerif.Model.CliPrims
import BumpverVerif.Proofs.CliLemmas
import BumpverVerif.Proofs.Basics
namespace BV

/- whnf must not run into the regex compiler: the engines' entry points are opaque here -/
attribute [local irreducible] isValid parseVersionInfo incr v1IsValid v1ParseVersionInfo v1Incr

theorem v1ParseVersionTags_nil (pat : Str) : v1ParseVersionTags pat [] = .ok [] := rfl

theorem v1ParseVersionTags_cons (pat : Str) (t : Str) (ts : List Str) :
    v1ParseVersionTags pat (t :: ts) =
      match v1IsValid t pat with
      | .error e => .error e
      | .ok b =>
        match v1ParseVersionTags pat ts with
        | .error e => .error e
        | .ok rest => .ok (if b then t :: rest else rest) := rfl

theorem isInfix_lbrace (s : Str) : isInfix "{".toList s = s.contains '{' := isInfix_singleton '{' s
theorem isInfix_rbrace (s : Str) : isInfix "}".toList s = s.contains '}' := isInfix_singleton '}' s

end BV

namespace BV

attribute [local irreducible] isValid parseVersionInfo incr v1IsValid v1ParseVersionInfo v1Incr

theorem pyFilterM_congr {α ε : Type} {p q : α → Except ε Bool} (h : ∀ x, p x = q x) (xs : List α) :
    pyFilterM p xs = pyFilterM q xs := by
  have : p = q := funext h
  rw [this]

/-- the comprehension of `_parse_version_tags` over the new-style `is_valid` is the model's recursion -/
theorem pyFilterM_v2 (today : Date) (pat : Str) (tags : List Str) :
    pyFilterM (fun t => pyV2IsValid today t pat) tags = liftV2 (parseVersionTags pat today tags) := by
  induction tags with
  | nil => simp only [pyFilterM, parseVersionTags_nil, liftV2]
  | cons t ts ih =>
    rw [parseVersionTags_cons]
    simp only [pyFilterM, ih]
    simp only [pyV2IsValid]
    cases isValid t pat today <;> simp only [liftV2]
    cases parseVersionTags pat today ts <;> rfl

/-- … and over the legacy `is_valid` -/
theorem pyFilterM_v1 (pat : Str) (tags : List Str) :
    pyFilterM (fun t => pyV1IsValid t pat) tags = liftV1 (v1ParseVersionTags pat tags) := by
  induction tags with
  | nil => simp only [pyFilterM, v1ParseVersionTags_nil, liftV1]
  | cons t ts ih =>
    rw [v1ParseVersionTags_cons]
    simp only [pyFilterM, ih]
    simp only [pyV1IsValid]
    cases v1IsValid t pat <;> simp only [liftV1]
    cases v1ParseVersionTags pat ts <;> rfl

/-! ### `sorted(.., key=parse_version, reverse=True)[0]` is the model's `latestOf` -/

theorem head?_pyInsertDesc {α κ : Type} (lt : κ → κ → Bool) (key : α → κ) (x : α) (l : List α) :
    (pyInsertDesc lt key x l).head? =
      match l.head? with
      | none => some x
      | some y => if lt (key x) (key y) then some y else some x := by
  cases l with
  | nil => rfl
  | cons y ys =>
    simp only [pyInsertDesc, List.head?_cons]
    split <;> rfl

theorem head?_pySortedRev_latestOf (xs : List Str) :
    (pySortedRev verLt parseVersion xs).head? = latestOf xs := by
  induction xs with
  | nil => rfl
  | cons t ts ih =>
    simp only [pySortedRev, head?_pyInsertDesc, ih, latestOf, pepLt]
    cases latestOf ts <;> rfl

theorem pySortedRev_ne_nil {α κ : Type} (lt : κ → κ → Bool) (key : α → κ) (x : α) (xs : List α) :
    pySortedRev lt key (x :: xs) ≠ [] := by
  simp only [pySortedRev]
  cases pySortedRev lt key xs with
  | nil => simp [pyInsertDesc]
  | cons y ys => simp only [pyInsertDesc]; split <;> simp

/-! ### `max(tags, key=parse_version)` is also the model's `latestOf` (first among the maxima) -/

theorem pepLt_trans (a b c : Str) (h1 : pepLt a b = true) (h2 : pepLt b c = true) : pepLt a c = true := by
  simp only [pepLt, verLt, beq_iff_eq] at *
  exact lawful_cmpKey.trans _ _ _ h1 h2

theorem pepLt_neg_trans (a b c : Str) (h1 : pepLt a b = false) (h2 : pepLt b c = false) : pepLt a c = false := by
  simp only [pepLt, verLt, beq_eq_false_iff_ne, ne_eq] at *
  have hba : cmpKey (keyOf (parseVersion b)) (keyOf (parseVersion a)) ≠ .gt :=
    fun h => h1 ((lawful_cmpKey.gt_iff_lt _ _).mp h)
  have hcb : cmpKey (keyOf (parseVersion c)) (keyOf (parseVersion b)) ≠ .gt :=
    fun h => h2 ((lawful_cmpKey.gt_iff_lt _ _).mp h)
  have := lawful_cmpKey.le_trans _ _ _ hcb hba
  exact fun h => this ((lawful_cmpKey.lt_iff_gt _ _).mp h)

theorem pyMaxByGo_latestOf (best : Str) (xs : List Str) :
    pyMaxByGo verLt parseVersion best xs =
      match latestOf xs with
      | none => best
      | some u => if pepLt best u then u else best := by
  induction xs generalizing best with
  | nil => rfl
  | cons x xs ih =>
    simp only [pyMaxByGo, ih, latestOf]
    have e : verLt (parseVersion best) (parseVersion x) = pepLt best x := rfl
    rw [e]
    cases hl : latestOf xs with
    | none => rfl
    | some u =>
      simp only []
      cases hbx : pepLt best x <;> cases hxu : pepLt x u <;> cases hbu : pepLt best u <;>
        simp [hbx, hxu, hbu]
      · have := pepLt_neg_trans _ _ _ hbx hxu; simp_all
      · have := pepLt_trans _ _ _ hbx hxu; simp_all

theorem pyMaxBy_latestOf (xs : List Str) : pyMaxBy verLt parseVersion xs = latestOf xs := by
  cases xs with
  | nil => rfl
  | cons x xs =>
    simp only [pyMaxBy, pyMaxByGo_latestOf, latestOf]
    cases latestOf xs
    · rfl
    · simp only []; split <;> rfl

/-- `not (b > a)`, `not (a < b)` … are the other comparison (the keys are totally ordered) -/
theorem not_verLt_swap (a b : Parsed) : (!verLt b a) = verLe a b := by
  simp only [verLt, verLe]
  rw [lawful_cmpKey.swap (keyOf a) (keyOf b)]
  cases cmpKey (keyOf a) (keyOf b) <;> rfl

theorem not_verLe_swap (a b : Parsed) : (!verLe b a) = verLt a b := by
  simp only [verLt, verLe]
  rw [lawful_cmpKey.swap (keyOf a) (keyOf b)]
  cases cmpKey (keyOf a) (keyOf b) <;> rfl

/-- every strict comparison written through the non-strict one (normal form used by the ties) -/
theorem verLt_eq_not_verLe (a b : Parsed) : verLt b a = !verLe a b := by
  rw [← not_verLt_swap, Bool.not_not]

/-! ### the explicit loop `out = []; for x in xs: if p(x): out.append(x)` is the comprehension -/

theorem pyForM_filter {α ε : Type} (p : α → Except ε Bool) (step : List α → α → Except ε (List α))
    (h : ∀ acc x, step acc x =
      match p x with
      | .error e => .error e
      | .ok b => .ok (if b then acc ++ [x] else acc))
    (acc : List α) (xs : List α) :
    pyForM step acc xs =
      match pyFilterM p xs with
      | .error e => .error e
      | .ok r => .ok (acc ++ r) := by
  induction xs generalizing acc with
  | nil => simp [pyForM, pyFilterM]
  | cons x xs ih =>
    simp only [pyForM, pyFilterM, h]
    cases p x with
    | error e => rfl
    | ok b =>
      simp only [ih]
      cases pyFilterM p xs with
      | error e => rfl
      | ok r => cases b <;> simp

theorem pyForM_filter_nil {α ε : Type} (p : α → Except ε Bool) (step : List α → α → Except ε (List α))
    (h : ∀ acc x, step acc x =
      match p x with
      | .error e => .error e
      | .ok b => .ok (if b then acc ++ [x] else acc))
    (xs : List α) : pyForM step [] xs = pyFilterM p xs := by
  rw [pyForM_filter p step h]
  cases pyFilterM p xs <;> simp

end BV
