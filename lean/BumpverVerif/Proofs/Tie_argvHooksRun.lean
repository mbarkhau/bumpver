/-
  Proofs/Tie_argvHooksRun.lean — source-level tie for `hooks.run(path, old_version, new_version)`
  (Gen/F_argvHooksRun.lean; the hook clause of property C10: "hooks get BUMPVER_OLD_VERSION / BUMPVER_NEW_VERSION;
  a failing hook stops the run").

  The effect model (Model/Eff.lean `Eff.hook`) treats `hooks.run` as a primitive: it logs the event
  `preHook old new` / `postHook old new` and ends in `sys.exit(1)` iff the oracle Boolean `preOk` / `postOk` is
  false.  Here the function is opened up:

    `tie_argvHooksRun` : generated `hooks.run` = `hooksRunRef` for all arguments, worlds and traces:
        the environment is `os.environ` with BUMPVER_OLD_VERSION = old and BUMPVER_NEW_VERSION = new set;
        the program started is `Path(path).absolute()` (no arguments, no shell);
        an OSError / IOError on start → `sys.exit(1)`;  otherwise the process is waited for and ANY non-zero
        return code — negative ones (death by signal) included — → `sys.exit(1)`.

    `hooksRun_env_old/new/other` : what the environment holds.
    `hooksRun_outcome`           : the outcome is `Eff.hook`'s: `.ok ()` when `hookOk`, else exit code 1 — with
                                   `hookOk` := the script could be started and returned 0 (the meaning of the
                                   plan model's `preOk` / `postOk`).
    `hooksRun_event`             : the new events, seen through the plan model's glasses, are exactly one
                                   `preHook old new` (resp. `postHook`): the versions the hook is TOLD are the
                                   arguments.
    `hooksRun_signal_witness`    : a hook killed by a signal (return code -9) is a failure — the reading
                                   `returncode > 0` would let the run go on.
-/
import BumpverVerif.Gen.F_argvHooksRun
import BumpverVerif.Proofs.ArgvLemmas
import BumpverVerif.Model.Eff
set_option linter.unusedSimpArgs false
namespace BV.TieK
open BV.TieK.Gen

def kOLD : Str := ['B', 'U', 'M', 'P', 'V', 'E', 'R', '_', 'O', 'L', 'D', '_', 'V', 'E', 'R', 'S', 'I', 'O', 'N']
def kNEW : Str := ['B', 'U', 'M', 'P', 'V', 'E', 'R', '_', 'N', 'E', 'W', '_', 'V', 'E', 'R', 'S', 'I', 'O', 'N']

/-- `dict(os.environ, BUMPVER_OLD_VERSION=old, BUMPVER_NEW_VERSION=new)` -/
def hookEnv (w : World) (old new : Str) : EnvMap := dictSet kNEW new (dictSet kOLD old w.environ)

/-- the reference definition -/
def hooksRunRef (path old new : Str) : Eff Unit := fun w s =>
  match w.popenRc s (w.absolute path) (some (hookEnv w old new)) with
  | none => (KEv.popen (w.absolute path) (some (hookEnv w old new)) :: s, .error (.exit 1))
  | some rc =>
    (KEv.wait s.length :: KEv.popen (w.absolute path) (some (hookEnv w old new)) :: s,
      if rc = 0 then .ok () else .error (.exit 1))

theorem tie_argvHooksRun (path old new : Str) : argvHooksRun path old new = hooksRunRef path old new := by
  funext w s
  unfold argvHooksRun hooksRunRef
  simp only [Eff.bind, Eff.environ, Eff.tryCatch, Eff.absolute, Eff.popen, Eff.pure]
  -- both ways of building the environment (`dict(os.environ, K=v, …)` / `env[K] = v` one by one) are nested `dictSet`s
  simp only [show (['B', 'U', 'M', 'P', 'V', 'E', 'R', '_', 'O', 'L', 'D', '_', 'V', 'E', 'R', 'S', 'I', 'O', 'N'] : Str) = kOLD from rfl,
    show (['B', 'U', 'M', 'P', 'V', 'E', 'R', '_', 'N', 'E', 'W', '_', 'V', 'E', 'R', 'S', 'I', 'O', 'N'] : Str) = kNEW from rfl,
    hookEnv, dictUpdate, List.foldl_cons, List.foldl_nil]
  cases w.popenRc s (w.absolute path) (some (dictSet kNEW new (dictSet kOLD old w.environ))) with
  | none => simp [Eff.exit, Eff.throw]
  | some rc =>
    simp only [Eff.wait, Eff.returncode, Eff.pure, Eff.ite_run, Eff.exit, Eff.throw]
    by_cases h : rc = 0
    · subst h; simp
    · simp [h]

/-! ### the environment of the hook -/

theorem lookup_dictSet_same {α : Type} (k : Str) (v : α) (d : List (Str × α)) : lookup k (dictSet k v d) = some v := by
  induction d with
  | nil => simp [dictSet, lookup]
  | cons p d ih =>
    obtain ⟨k', v'⟩ := p
    by_cases h : k' = k
    · subst h; simp [dictSet, lookup]
    · have h' : ¬ k = k' := fun e => h e.symm
      simp [dictSet, lookup, h, h', ih]

theorem lookup_dictSet_other {α : Type} (k k0 : Str) (v : α) (d : List (Str × α)) (hk : k ≠ k0) :
    lookup k (dictSet k0 v d) = lookup k d := by
  induction d with
  | nil => simp [dictSet, lookup, hk]
  | cons p d ih =>
    obtain ⟨k', v'⟩ := p
    by_cases h : k' = k0
    · subst h; simp [dictSet, lookup, hk]
    · by_cases h2 : k = k'
      · subst h2; simp [dictSet, lookup, h]
      · simp [dictSet, lookup, h, h2, ih]

theorem hooksRun_env_new (w : World) (old new : Str) : lookup kNEW (hookEnv w old new) = some new :=
  lookup_dictSet_same _ _ _

theorem hooksRun_env_old (w : World) (old new : Str) : lookup kOLD (hookEnv w old new) = some old := by
  unfold hookEnv
  rw [lookup_dictSet_other _ _ _ _ (by decide), lookup_dictSet_same]

theorem hooksRun_env_other (w : World) (old new k : Str) (h1 : k ≠ kOLD) (h2 : k ≠ kNEW) :
    lookup k (hookEnv w old new) = lookup k w.environ := by
  unfold hookEnv
  rw [lookup_dictSet_other _ _ _ _ h2, lookup_dictSet_other _ _ _ _ h1]

/-! ### the outcome is the plan model's -/

/-- the meaning of the plan model's `preOk` / `postOk`: the script could be started and returned 0 -/
def hookOk (w : World) (s : List KEv) (path old new : Str) : Bool :=
  w.popenRc s (w.absolute path) (some (hookEnv w old new)) == some 0

theorem hooksRun_outcome (path old new : Str) (w : World) (s : List KEv) :
    (argvHooksRun path old new w s).2 = if hookOk w s path old new then .ok () else .error (.exit 1) := by
  rw [tie_argvHooksRun]
  unfold hooksRunRef hookOk
  cases w.popenRc s (w.absolute path) (some (hookEnv w old new)) with
  | none => rfl
  | some rc =>
    by_cases h : rc = 0
    · subst h; rfl
    · simp [h]

/-- same exit code as the primitive `Eff.hook` under an environment whose oracle Boolean means `hookOk` -/
theorem hooksRun_exitCode_pre (path old new : Str) (w : World) (s : List KEv) (e : BV.EffEnv) (ps : BV.PState)
    (he : e.plan.preOk = hookOk w s path old new) :
    Eff.exitCode (argvHooksRun path old new w s).2 = BV.Eff.exitCode (BV.Eff.hook .pre path old new e ps).2 := by
  rw [hooksRun_outcome]
  simp only [BV.Eff.hook, he]
  cases hookOk w s path old new <;> rfl

theorem hooksRun_exitCode_post (path old new : Str) (w : World) (s : List KEv) (e : BV.EffEnv) (ps : BV.PState)
    (he : e.plan.postOk = hookOk w s path old new) :
    Eff.exitCode (argvHooksRun path old new w s).2 = BV.Eff.exitCode (BV.Eff.hook .post path old new e ps).2 := by
  rw [hooksRun_outcome]
  simp only [BV.Eff.hook, he]
  cases hookOk w s path old new <;> rfl

/-- the plan model's reading of a trace event: a started script is a hook event carrying the two versions its
    environment announces -/
def absHookEv (k : BV.HookKind) : KEv → Option BV.Ev
  | .popen _ (some env) =>
    some (match k with
      | .pre => .preHook ((lookup kOLD env).getD []) ((lookup kNEW env).getD [])
      | .post => .postHook ((lookup kOLD env).getD []) ((lookup kNEW env).getD []))
  | _ => none

/-- the events `hooks.run` adds are, for the plan model, exactly one hook event with the versions passed in -/
theorem hooksRun_event (k : BV.HookKind) (path old new : Str) (w : World) (s : List KEv) :
    ∃ evs, (argvHooksRun path old new w s).1 = evs ++ s ∧
      evs.filterMap (absHookEv k) =
        [match k with | .pre => BV.Ev.preHook old new | .post => BV.Ev.postHook old new] := by
  rw [tie_argvHooksRun]
  unfold hooksRunRef
  cases w.popenRc s (w.absolute path) (some (hookEnv w old new)) with
  | none =>
    refine ⟨[KEv.popen (w.absolute path) (some (hookEnv w old new))], rfl, ?_⟩
    cases k <;> simp [absHookEv, hooksRun_env_old, hooksRun_env_new]
  | some rc =>
    refine ⟨[KEv.wait s.length, KEv.popen (w.absolute path) (some (hookEnv w old new))], rfl, ?_⟩
    cases k <;>
      simp only [List.filterMap, absHookEv, hooksRun_env_old, hooksRun_env_new, Option.getD_some]

/-- the script that is started is the ABSOLUTE path, with that environment, as the first thing that happens -/
theorem hooksRun_starts (path old new : Str) (w : World) (s : List KEv) :
    KEv.popen (w.absolute path) (some (hookEnv w old new)) ∈ (argvHooksRun path old new w s).1 := by
  rw [tie_argvHooksRun]
  unfold hooksRunRef
  cases w.popenRc s (w.absolute path) (some (hookEnv w old new)) <;> simp

/-- a hook killed by a signal (return code -9) stops the run (a test `returncode > 0` would not) -/
theorem hooksRun_signal_witness (path old new : Str) (w : World) (s : List KEv)
    (h : w.popenRc s (w.absolute path) (some (hookEnv w old new)) = some (-9)) :
    (argvHooksRun path old new w s).2 = .error (.exit 1) := by
  rw [hooksRun_outcome]
  simp [hookOk, h]

end BV.TieK
