/-
  Proofs/Tie_v1Incr.lean — the definition GENERATED from `v1version.incr(old_version, raw_pattern, *, major, minor,
  patch, tag, tag_num, pin_date, maybe_date)` equals the hand model `BV.v1Incr` on all inputs
  (`version.TODAY` is the extra parameter `today`; the model takes the bump date `maybe_date or TODAY`):

   * `parse_version_info` raising PatternError ⇒ `None`, any other exception propagates;
   * calendar step: `_ver_to_cal_info(old)` under `--pin-date`, else `cal_info(date)`; `_is_cal_gt(old, cur)` keeps the
     old fields ("from the future"), else `old._replace(**cur_cinfo._asdict())`;
   * `lexid.next_id` on the bid (OverflowError at all nines) BEFORE the flags; `--major` resets minor and patch,
     `--minor` resets patch; `--tag-num` is NotImplementedError AFTER the id step; a non-empty `tag` replaces the tag;
   * `format_version`, and the "unchanged ⇒ None" rule.

  Callees represented by model functions: `parse_version_info` (`tie_v1ParseVersionInfo`), `format_version`
  (`tie_v1FormatVersion`), `_ver_to_cal_info` / `cal_info` / `_is_cal_gt` (`V1Info.calList`, `v1CalInfo`, `v1IsCalGt`: by
  correspondence), `lexid.next_id` (`pyNextId` = `nextId` on digit strings, `unsupported` otherwise — exactly the
  model's guard in `v1Bump`).
-/
import BumpverVerif.Gen.F_v1Incr
import BumpverVerif.Proofs.TieV1Spec
set_option linter.unusedSimpArgs false
set_option linter.unusedVariables false
namespace BV
open GenV1

theorem v1_ebind_assoc {ε α β γ} (a : Except ε α) (f : α → Except ε β) (g : β → Except ε γ) :
    Except.bind (Except.bind a f) g = Except.bind a (fun x => Except.bind (f x) g) := by
  cases a <;> rfl

/-- the model's `v1Bump` as a bind on `lexid.next_id` -/
theorem v1Bump_eq_bind (old : V1Info) (fl : V1Flags) (date : Nat × Nat × Nat) :
    v1Bump old fl date =
      Except.bind (pyNextId (v1BumpCal old fl date).bid) (fun b =>
        if fl.tagNum then .error .notImplemented
        else .ok (v1ApplyFlags { v1BumpCal old fl date with bid := b } fl)) := by
  unfold v1Bump pyNextId
  by_cases hd : isDigitStr (v1BumpCal old fl date).bid = true
  · simp only [hd, Bool.not_true, Bool.false_eq_true, if_false]
    cases nextId (v1BumpCal old fl date).bid <;> rfl
  · simp [hd, v1_ebind_error]

theorem tie_v1Incr (old raw : Str) (major minor patch : Bool) (tag : Option Str) (tagNum pinDate : Bool)
    (maybeDate : Option (Nat × Nat × Nat)) (today : Nat × Nat × Nat) :
    GenV1.v1Incr old raw major minor patch tag tagNum pinDate maybeDate today =
      v1Incr old raw { major := major, minor := minor, patch := patch, tag := tag, tagNum := tagNum, pinDate := pinDate }
        (maybeDate.getD today) := by
  unfold GenV1.v1Incr v1Incr
  simp (config := {zeta := false}) only [bind, pure, Except.pure, v1Bump_eq_bind, v1_ebind_assoc]
  cases v1ParseVersionInfo old raw with
  | error e => cases e <;> rfl
  | ok v =>
    simp (config := {zeta := false}) only [v1_ebind_ok]
    -- the calendar step gives the model's `v1BumpCal`, whatever happens to the record afterwards
    extract_lets date cinfo keep moved cur rest
    have hcur : cur = v1BumpCal v ⟨major, minor, patch, tag, tagNum, pinDate⟩ (maybeDate.getD today) := by
      cases pinDate <;> rcases maybeDate with _ | d <;> rfl
    clear_value cur
    simp only [rest, ← hcur]
    -- the id step and the flags, for any record `cur`: both sides test the flags in the same order, only the
    -- test on `tag` is spelled differently
    refine v1_ebind_congr rfl (fun b => ?_)
    cases tagNum
    · simp only [if_false, Bool.false_eq_true, v1_ebind_ok]
      refine v1_ebind_congr (congrArg (fun x => v1FormatVersion x raw) ?_)
        (fun s => by first | rfl | (by_cases h : s = old <;> simp [h]))
      unfold v1ApplyFlags
      rcases tag with _ | _ | ⟨c, t⟩ <;> rfl
    · rfl

/-- `maybe_date=None`: the bump date is `version.TODAY` -/
theorem tie_v1Incr_today (old raw : Str) (major minor patch : Bool) (tag : Option Str) (tagNum pinDate : Bool)
    (today : Nat × Nat × Nat) :
    GenV1.v1Incr old raw major minor patch tag tagNum pinDate none today =
      v1Incr old raw { major := major, minor := minor, patch := patch, tag := tag, tagNum := tagNum, pinDate := pinDate }
        today := tie_v1Incr old raw major minor patch tag tagNum pinDate none today

end BV
