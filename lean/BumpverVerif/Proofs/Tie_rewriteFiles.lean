/-
  Proofs/Tie_rewriteFiles.lean — the definition GENERATED from the Python source of
  `v2rewrite.rewrite_files` (Gen/F_rewriteFiles.lean) equals the hand model `BV.rewriteFiles` on the
  abstract file system, for every file system, every configuration of well-formed patterns and every
  version record: ALL files are read and validated (`list(iter_rewritten(...))`, tie_iterRewritten) before
  the first one is written.  The translation consumes a generator that has effects lazily unless the source
  says `list(...)`: with the `list(...)` removed the generated definition is the fused read-validate-write
  loop, i.e. the model's `rewriteFilesLazy`, and this theorem no longer holds (see
  harness/dev/rewrite_tie_experiments.py, experiment "lazy loop", and `C06_lazy_partial_write_witness` in Props/C06.lean).
-/
import BumpverVerif.Gen.F_rewriteFiles
import BumpverVerif.Proofs.Tie_iterRewritten
namespace BV

open GenF (PatternMatch Pattern RewrittenFileData)

/-- the write loop: a body that writes the record's new content under the record's path -/
theorem pyForFS_writes
    (body : RewrittenFileData → Unit → FS → FS × Except RwErr Unit)
    (hb : ∀ fd u fs, body fd u fs = (FS.write fs fd.path fd.newContent, .ok ()))
    (l : List RewrittenFileData) (fs : FS) :
    GenF.pyForFS l body () fs =
      ((l.map RewrittenFileData.toWrite).foldl (fun acc w => FS.write acc w.1 w.2) fs, .ok ()) := by
  induction l generalizing fs with
  | nil => rfl
  | cons fd l ih =>
    rw [GenF.pyForFS_cons, hb]
    simp only [List.map_cons, List.foldl_cons]
    exact ih _

theorem tie_rewriteFiles (file_patterns : List (Str × List Pattern)) (new_vinfo : VInfo) (fs : FS)
    (hwf : GenF.WfFilePatterns file_patterns) :
    GenF.rewriteFiles file_patterns new_vinfo fs
      = rewriteFiles fs (GenF.absFilePatterns file_patterns) new_vinfo := by
  unfold GenF.rewriteFiles rewriteFiles
  obtain ⟨-, h2⟩ := tie_iterRewritten_planWrites file_patterns new_vinfo fs hwf
  rw [tie_iterRewritten _ _ _ hwf] at h2 ⊢
  simp only [] at h2 ⊢
  cases hr : planRfds new_vinfo fs file_patterns [] with
  | error e =>
    rw [hr] at h2
    rw [← h2]
    rfl
  | ok rfds =>
    rw [hr] at h2
    rw [← h2]
    simp only [Except.map]
    rw [pyForFS_writes _ ?hb]
    case hb => intro fd u fs'; rfl

end BV
