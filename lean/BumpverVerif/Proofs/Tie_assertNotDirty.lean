/-
  Proofs/Tie_assertNotDirty.lean — `VCSAPI.status(required_files)` and `vcs.assert_not_dirty(vcs_api,
  filepaths, allow_dirty)`, GENERATED from the Python AST (Gen/F_apiStatus.lean, Gen/F_assertNotDirty.lean),
  against the hand model `BV.statusParse` / `BV.assertNotDirty` (Model/Vcs.lean), which decides property C11.

    tie_apiStatus        one `status` invocation; its output, read by the generated comprehension pipeline
                         (splitlines → strip → drop blanks → split(None, 1) → unpack → filter), is exactly
                         `statusParse required (pySplitlines output)`; `none` = the unpacking ValueError
    tie_assertNotDirty   CalledProcessError when the invocation fails; otherwise `sys.exit(1)` iff the
                         model's verdict is `abort`, ValueError iff `crash`, and it returns iff `proceed`

  Trusted primitives (shared with the hand model): `pySplitlines`, `strip`, `isPySpace`; `pySplitWs1`
  (`str.split(None, 1)`, Model/Eff.lean) is PROVED to agree with the model's `splitFirstWs`
  on stripped non-empty lines (`unpack2_pySplitWs1_strip`).  No hypotheses.
-/
import BumpverVerif.Gen.F_assertNotDirty
import BumpverVerif.Proofs.EffLemmas
set_option linter.unusedSimpArgs false
namespace BV
open GenE

theorem length_dropWhile_le' (p : Char → Bool) : ∀ l : List Char, (l.dropWhile p).length ≤ l.length
  | [] => Nat.le_refl _
  | c :: l => by
    by_cases hc : p c
    · simp only [List.dropWhile_cons, hc, if_true, List.length_cons]
      exact Nat.le_succ_of_le (length_dropWhile_le' p l)
    · simp [List.dropWhile_cons, hc]

theorem dropWhile_eq_self_of_append {p : Char → Bool} : ∀ {a t : List Char}, a ≠ [] →
    (a ++ t).dropWhile p = a ++ t → a.dropWhile p = a
  | [], _, h, _ => absurd rfl h
  | c :: a', t, _, h => by
    by_cases hc : p c
    · exfalso
      have hl := congrArg List.length h
      simp only [List.cons_append, List.dropWhile_cons, hc, if_true] at hl
      have := length_dropWhile_le' p (a' ++ t)
      simp only [List.length_cons] at hl
      omega
    · simp [List.dropWhile_cons, hc]

theorem dropWhile_idem (p : Char → Bool) (l : List Char) : (l.dropWhile p).dropWhile p = l.dropWhile p := by
  induction l with
  | nil => rfl
  | cons c l ih =>
    by_cases hc : p c
    · simp [List.dropWhile_cons, hc, ih]
    · simp [List.dropWhile_cons, hc]

/-- a stripped string does not start with white space -/
theorem strip_dropWhile (x : Str) : (strip x).dropWhile isPySpace = strip x := by
  unfold strip
  generalize hy : x.dropWhile isPySpace = y
  have hyy : y.dropWhile isPySpace = y := by rw [← hy]; exact dropWhile_idem _ _
  by_cases hne : (y.reverse.dropWhile isPySpace).reverse = []
  · rw [hne]; rfl
  · have hsplit : y = (y.reverse.dropWhile isPySpace).reverse ++ (y.reverse.takeWhile isPySpace).reverse := by
      have := List.takeWhile_append_dropWhile (p := isPySpace) (l := y.reverse)
      have h2 := congrArg List.reverse this
      simp only [List.reverse_append, List.reverse_reverse] at h2
      exact h2.symm
    exact dropWhile_eq_self_of_append hne (by rw [← hsplit]; exact hyy)

/-- on a stripped non-empty line, `a, b = line.split(None, 1)` is the model's `splitFirstWs` -/
theorem unpack2_pySplitWs1 (l : Str) (h1 : l.dropWhile isPySpace = l) (h2 : l ≠ []) :
    unpack2 (pySplitWs1 l) = splitFirstWs l := by
  unfold pySplitWs1 splitFirstWs
  simp only [h1]
  have : l.isEmpty = false := by cases l <;> simp_all
  simp only [this]
  by_cases hr : (List.dropWhile isPySpace (List.dropWhile (fun c => !isPySpace c) l)).isEmpty = true
  · simp [hr, unpack2]
  · simp [hr, unpack2]

/-- a pure `Option` result as an effect result: `none` raises `x` -/
def optRes {β : Type} (s : PState) (x : Stop) : Option β → PState × Except Stop β
  | some d => (s, .ok d)
  | none => (s, .error x)

theorem option_result_congr {α β : Type} (o1 : Option α) (f : α → β) (s : PState) (x : Stop) :
    (match o1 with | some a => (s, Except.ok (f a)) | none => (s, Except.error x)) = optRes s x (o1.map f) := by
  cases o1 <;> rfl

/-- the result of `VCSAPI.status` in terms of the hand model -/
def statusResult (e : EffEnv) (req : List Str) (s : PState) : PState × Except Stop (List Str) :=
  match vcsCall e.plan (.cmd "status") s with
  | (s', .failed) => (s', .error .called)
  | (s', .ok) => optRes s' .valueError (statusParse req (pySplitlines (e.output "status")))

/-- unconditional form (a blank line gives `[]`, which does not unpack) -/
theorem unpack2_pySplitWs1_strip (x : Str) :
    unpack2 (pySplitWs1 (strip x)) = if strip x = [] then none else splitFirstWs (strip x) := by
  by_cases h : strip x = []
  · simp [h, pySplitWs1, unpack2]
  · simp only [h, if_false]
    exact unpack2_pySplitWs1 _ (strip_dropWhile x) h

theorem Eff.bind_ofOption {α β : Type} (x : Stop) (o : Option α) (f : α → Eff β) :
    Eff.bind (Eff.ofOption x o) f = fun e s => (match o with | some a => f a e s | none => (s, .error x)) := by
  cases o <;> rfl

theorem tie_apiStatus (e : EffEnv) (s : PState) (api : VcsApi) (req : List Str) :
    apiStatus api req e s = statusResult e req s := by
  unfold apiStatus statusResult
  -- one invocation; then the comprehension pipeline over the lines is `statusParse`, by induction on the lines:
  -- a blank line is dropped by both, a line that does not unpack is `none` in both, otherwise the same filter
  simp only [Eff.bind_ofOption]
  eff_simp
  eff_step; eff_step <;> eff_simp
  rw [option_result_congr]
  congr 1
  generalize pySplitlines (e.output "status") = lines
  induction lines with
  | nil => simp [unpackAll, statusParse]
  | cons l ls ih =>
    simp only [statusParse, ← ih]
    clear ih
    simp only [List.filterMap_cons, Function.comp_apply]
    generalize List.filterMap _ ls = items
    eff_simp [List.filterMap_cons, unpackAll, unpack2_pySplitWs1_strip, List.length_pos_iff]
    eff_auto [List.filterMap_cons, unpackAll, unpack2_pySplitWs1_strip, List.length_pos_iff]
    all_goals (generalize unpackAll items = u; cases u <;> simp [List.filterMap_cons, *])

theorem setInter_eq_nil (xs ys : List Str) : (setInter xs ys = []) = (xs.any (fun x => ys.contains x) = false) := by
  simp [setInter]

/-- the verdict of the hand model as an effect result -/
def dirtyResult (s : PState) : DirtyVerdict → PState × Except Stop Unit
  | .proceed => (s, .ok ())
  | .abort => (s, .error (.exit 1))
  | .crash => (s, .error .valueError)

theorem tie_assertNotDirty (e : EffEnv) (s : PState) (api : VcsApi) (filepaths : List Str) (allow : Bool) :
    GenE.assertNotDirty api filepaths allow e s =
      (match vcsCall e.plan (.cmd "status") s with
       | (s', .failed) => (s', .error .called)
       | (s', .ok) => dirtyResult s' (BV.assertNotDirty (pySplitlines (e.output "status")) filepaths allow)) := by
  have hS := fun req s => tie_apiStatus e s api req
  unfold GenE.assertNotDirty BV.assertNotDirty
  -- after `status` (tied above) the two exits of the code are the model's two `abort` tests, in the same order:
  -- a non-empty intersection with the configured files is `dirty.any (filepaths.contains ·)` (`setInter_eq_nil`)
  eff_simp [statusResult, optRes, dirtyResult, setInter_eq_nil]
  eff_auto [statusResult, optRes, dirtyResult, setInter_eq_nil]

end BV
