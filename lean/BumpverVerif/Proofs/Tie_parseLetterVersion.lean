/-
  Proofs/Tie_parseLetterVersion.lean — the definition GENERATED from the Python source of
  `setuptools_v65_version._parse_letter_version` against the way the hand model (Model/Pep440.lean)
  uses its normal forms.

  The model has no function of the same shape: `letterSeg words s` recognises
  `[-_\.]? LETTER [-_\.]? ([0-9]+)?` on lower-cased text and answers the NORMAL FORM its word table
  (`preWords` / `postWords` / `devWords`) lists for the word, and `strToNat` of the digits (0 when
  there are none: the implicit 0).  So the tie is
  * `tie_parseLetterVersion`          : for every word of the three tables, in EVERY spelling that
      lower-cases to it (all the upper/lower-case spellings the IGNORECASE regex allows on ASCII), and
      every number group (absent, or any text), the generated function returns the table's normal form
      and the number (0 when absent);
  * `tie_parseLetterVersion_letterSeg`: whatever `letterSeg` answers on a text is what the generated
      function answers on the groups (letter word, digits — absent when empty) the regex hands over;
  * `tie_parseLetterVersion_implicitPost` / `_absent`: the `-N` post release of `postSeg`, and no group.
  `str.lower()` is rendered as the model's ASCII `lowerStr` (the model's stated ASCII restriction).
-/
import BumpverVerif.Gen.F_parseLetterVersion
import BumpverVerif.Model.Pep440
import BumpverVerif.Proofs.Pep440Lemmas
namespace BV

/-- the number the model attaches to a number group: implicit 0 when absent -/
def numberOf (number : Option Str) : Nat := (number.map strToNat).getD 0

theorem lowerStr_nonempty {s w : Str} (h : lowerStr s = w) (hw : w ≠ []) : s.isEmpty = false := by
  cases s with
  | nil => exact absurd h.symm hw
  | cons => rfl

/-- the generated `_parse_letter_version` on any spelling of a word of the model's tables: its normal form and the
    number.  (For ALL arguments, against the reference `letterVersion`: `tie_parseLetterVersion_full`,
    Proofs/Tie_pepVersionInit.lean.) -/
theorem tie_parseLetterVersion (w norm : Str) (hw : (w, norm) ∈ preWords ++ postWords ++ devWords)
    (s : Str) (hs : lowerStr s = w) (number : Option Str) :
    GenF.parseLetterVersion (some s) number = some (norm, numberOf number) := by
  simp only [preWords, postWords, devWords, List.cons_append, List.nil_append, List.mem_cons,
    List.not_mem_nil, or_false, Prod.mk.injEq] at hw
  rcases hw with ⟨rfl, rfl⟩ | ⟨rfl, rfl⟩ | ⟨rfl, rfl⟩ | ⟨rfl, rfl⟩ | ⟨rfl, rfl⟩ | ⟨rfl, rfl⟩ |
    ⟨rfl, rfl⟩ | ⟨rfl, rfl⟩ | ⟨rfl, rfl⟩ | ⟨rfl, rfl⟩ | ⟨rfl, rfl⟩ | ⟨rfl, rfl⟩ <;>
  (have hne := lowerStr_nonempty hs (by decide)
   cases number <;>
   simp only [GenF.parseLetterVersion, hne, hs, numberOf, Bool.not_false, if_true, Option.map_some,
     Option.map_none, Option.getD_some, Option.getD_none, Option.some.injEq, Prod.mk.injEq, and_true] <;>
   decide)

/-- non-vacuity: `Preview` is a spelling of a table word -/
example : GenF.parseLetterVersion (some "PreView".toList) (some "07".toList) = some ("rc".toList, 7) :=
  tie_parseLetterVersion "preview".toList "rc".toList (by decide) "PreView".toList (by decide) _

/-- `-N`: no letter group, a number group (`postSeg` reads it as post release N) -/
theorem tie_parseLetterVersion_implicitPost (digits : Str) (h : digits ≠ []) :
    GenF.parseLetterVersion none (some digits) = some ("post".toList, strToNat digits) := by
  cases digits with
  | nil => exact absurd rfl h
  | cons c cs => simp [GenF.parseLetterVersion]

example : GenF.parseLetterVersion none (some "12".toList) = some ("post".toList, 12) :=
  tie_parseLetterVersion_implicitPost _ (by decide)

/-- neither group took part in the match -/
theorem tie_parseLetterVersion_absent : GenF.parseLetterVersion none none = none := by decide

theorem numberOf_digits (digits : Str) :
    numberOf (if digits.isEmpty then none else some digits) = strToNat digits := by
  cases digits with
  | nil => rfl
  | cons c cs => rfl

/-- What the model's `letterSeg` answers is what the generated `_parse_letter_version` answers on the
    groups the regex hands over: the letter group is (any spelling of) the table word `w` found after the
    optional separator, the number group is the digit run after the second optional separator, ABSENT
    (`None`) when that run is empty. -/
theorem tie_parseLetterVersion_letterSeg (words : List (Str × Str))
    (hsub : ∀ p ∈ words, p ∈ preWords ++ postWords ++ devWords)
    (s l rest : Str) (n : Nat) (h : letterSeg words s = some ((l, n), rest)) :
    ∃ w r, (w, l) ∈ words ∧ dropPrefix? w (dropOptSep s) = some r ∧
      n = strToNat ((dropOptSep r).takeWhile isDigit) ∧ rest = (dropOptSep r).dropWhile isDigit ∧
      ∀ spelled, lowerStr spelled = w →
        GenF.parseLetterVersion (some spelled)
          (if ((dropOptSep r).takeWhile isDigit).isEmpty then none else some ((dropOptSep r).takeWhile isDigit))
          = some (l, n) := by
  simp only [letterSeg] at h
  split at h
  · cases h
  · next l' r hfp =>
    simp only [Option.some.injEq, Prod.mk.injEq] at h
    obtain ⟨⟨rfl, rfl⟩, rfl⟩ := h
    obtain ⟨w, hm, hd⟩ := firstPrefix_mem _ _ _ _ hfp
    refine ⟨w, r, hm, hd, rfl, rfl, ?_⟩
    intro spelled hsp
    rw [tie_parseLetterVersion w l' (hsub _ hm) spelled hsp, numberOf_digits]

/-- non-vacuity of the hypothesis `h` -/
example : letterSeg preWords "-rc.3+x".toList = some (("rc".toList, 3), "+x".toList) := by decide

end BV
