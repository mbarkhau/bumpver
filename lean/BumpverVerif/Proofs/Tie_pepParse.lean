/-
  Proofs/Tie_pepParse.lean — the definitions GENERATED from the Python source of `setuptools_v65_version.parse`,
  `version.parse_version` and `version.to_pep440` (Gen/F_pepParse.lean, F_pepParseVersion.lean, F_pepToPep440.lean)
  against the hand model's `parseVersion`, `keyOf`, `verStr` (Model/Pep440.lean, section 5).

  Two trusted primitives are PARAMETERS of the generated definitions: the matcher `regex_search` of
  `Version._regex` and `legacy_split` = `_legacy_version_component_re.split`.
  * `TieQ.SplitOk legacy_split` : its non-empty items are the model's `legacyTokens` (what the model says about that regex);
  * `TieQ.SearchOk regex_search`: the groups it reports denote the version the model's recogniser `parsePep` reads
       (`none` exactly when `parsePep` fails).  `groupsOf` (Model/PepGroups.lean) is a matcher written by hand from the
       model's recogniser; `TieQ.searchOk_groupsOf` (Proofs/TieQ_SearchOk.lean) proves `TieQ.SearchOk groupsOf`.

  * `tie_pepParse`, `tie_pepParseVersion` : never raise; the object is `TieQ.pyOf regex_search s` — a `Version` built from
       the groups when the regex matches, else the `LegacyVersion` of the text (for EVERY matcher);
  * `tie_pepToPep440`      : `to_pep440(s)` = the text of that object;
  * `tie_pepParse_model`, `tie_pepParse_key`, `tie_pepToPep440_model` : under `SearchOk`, the object abstracts to the
       model's `parseVersion s`, its `_key` to `keyOf (parseVersion s)`, and `to_pep440(s) = verStr (parseVersion s)`.
-/
import BumpverVerif.Gen.F_pepToPep440
import BumpverVerif.Proofs.Tie_pepVersionStr
import BumpverVerif.Proofs.Tie_pepLegacy
namespace BV
namespace TieQ

/-- what the model says about `_legacy_version_component_re.split` -/
def SplitOk (legacy_split : Str → List Str) : Prop :=
  ∀ t, (legacy_split t).filter (fun p => !p.isEmpty) = legacyTokens t

/-- the matcher agrees with the model's recogniser -/
def SearchOk (regex_search : Str → Option PepGroups) : Prop :=
  ∀ s, (regex_search s).map ofGroups = parsePep s

/-- the `LegacyVersion` object of a text -/
def legacyObjOf (s : Str) : LegacyObj := { _version := s, _key := (-1, legacyKeyParts s) }

/-- what `parse(s)` returns -/
def pyOf (regex_search : Str → Option PepGroups) (s : Str) : PyVersion :=
  match regex_search s with
  | none => .legacy (legacyObjOf s)
  | some g => .pep (objOfGroups g)

/-- the model value of an object -/
def absPy : PyVersion → Parsed
  | .pep o => .pep o._version.abs
  | .legacy o => .legacy o._version o._key.2

/-- the model key of an object's `_key` tuple -/
def keyPy : PyVersion → Key
  | .pep o => absKey o._key
  | .legacy o => .legacy o._key.2

/-- `str(obj)` through the generated `__str__` methods -/
def strPy : PyVersion → Str
  | .pep o => GenQ.pepVersionStr o
  | .legacy o => GenQ.pepLegacyStr o

end TieQ
open TieQ

theorem tie_pepParse (regex_search : Str → Option PepGroups) (legacy_split : Str → List Str) (s : Str)
    (hs : SplitOk legacy_split) :
    GenQ.pepParse regex_search legacy_split s = .ok (pyOf regex_search s) := by
  simp only [GenQ.pepParse, tie_pepVersionInit, pyOf, tie_pepLegacyInit legacy_split s (hs _)]
  cases regex_search s <;> rfl

theorem tie_pepParseVersion (regex_search : Str → Option PepGroups) (legacy_split : Str → List Str) (s : Str)
    (hs : SplitOk legacy_split) :
    GenQ.pepParseVersion regex_search legacy_split s = .ok (pyOf regex_search s) := by
  simp only [GenQ.pepParseVersion, tie_pepParse regex_search legacy_split s hs]

theorem tie_pepToPep440 (regex_search : Str → Option PepGroups) (legacy_split : Str → List Str) (s : Str)
    (hs : SplitOk legacy_split) :
    GenQ.pepToPep440 regex_search legacy_split s = .ok (strPy (pyOf regex_search s)) := by
  simp only [GenQ.pepToPep440, tie_pepParseVersion regex_search legacy_split s hs]
  cases pyOf regex_search s <;> rfl

/-- under `SearchOk` the object `parse(s)` returns is the model's `parseVersion s` -/
theorem tie_pepParse_model (regex_search : Str → Option PepGroups) (s : Str) (hr : SearchOk regex_search) :
    absPy (pyOf regex_search s) = parseVersion s := by
  have h := hr s
  simp only [pyOf, parseVersion]
  cases hm : regex_search s with
  | none => rw [hm] at h; simp only [Option.map_none] at h; rw [← h]; rfl
  | some g => rw [hm] at h; simp only [Option.map_some] at h; rw [← h]; rfl

/-- … and its `_key` is the model's key -/
theorem tie_pepParse_key (regex_search : Str → Option PepGroups) (s : Str) (hr : SearchOk regex_search) :
    keyPy (pyOf regex_search s) = keyOf (parseVersion s) := by
  have h := hr s
  simp only [pyOf, parseVersion]
  cases hm : regex_search s with
  | none => rw [hm] at h; simp only [Option.map_none] at h; rw [← h]; rfl
  | some g =>
    rw [hm] at h; simp only [Option.map_some] at h; rw [← h]
    simp only [keyPy, keyOf, objOfGroups]
    exact absKey_cmpkey_raw (rawOfGroups g)

/-- the text of the object is the model's `verStr` of its model value -/
theorem TieQ.strPy_pyOf (regex_search : Str → Option PepGroups) (s : Str) :
    strPy (pyOf regex_search s) = verStr (absPy (pyOf regex_search s)) := by
  simp only [pyOf]
  cases regex_search s with
  | none => rfl
  | some g =>
    simp only [strPy, absPy, verStr]
    exact tie_pepVersionStr _ (objOfGroups_loc_ne_nil g)

/-- `to_pep440(s) = str(parse(s))` of the model -/
theorem tie_pepToPep440_model (regex_search : Str → Option PepGroups) (legacy_split : Str → List Str) (s : Str)
    (hs : SplitOk legacy_split) (hr : SearchOk regex_search) :
    GenQ.pepToPep440 regex_search legacy_split s = .ok (verStr (parseVersion s)) := by
  rw [tie_pepToPep440 regex_search legacy_split s hs, TieQ.strPy_pyOf, tie_pepParse_model regex_search s hr]

end BV
