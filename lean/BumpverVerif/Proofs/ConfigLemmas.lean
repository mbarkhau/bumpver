/-
  Proofs/ConfigLemmas.lean — lemmas about Model/Config.lean for C18 / C19.

  C18: association lists (`lookup`, `setOpt`); the BOOL_OPTIONS loops over any table (`lookup_boolLoop`); the two
  renderings' options as instances of `AbsCfg.opts`; `parseConfig_congr` (`_parse_config` sees a dict through ten keys)
  and `parseConfig_ok` (what an accepted configuration went through); `addSelfPattern_ok`; the merge by path.
  C19: `str.format` on the base templates (`format_base`, `base_templates`), `pickConfigFile`, the lines of the text
  `default_config` writes (`rest_wellformed`).
-/
import BumpverVerif.Model.Config
import BumpverVerif.Proofs.Basics
namespace BV

/-! ### association lists -/

theorem lookup_optEntry {α β} (k k' : Str) (f : α → β) (o : Option α) :
    lookup k (optEntry k' f o) = if k = k' then o.map f else none := by
  cases o <;> simp [optEntry, lookup_cons, lookup_nil]

theorem lookup_mapVal {α β} (k : Str) (f : α → β) (l : List (Str × α)) :
    lookup k (l.map (fun kv => (kv.1, f kv.2))) = (lookup k l).map f := by
  induction l with
  | nil => simp [lookup_nil]
  | cons h t ih =>
    obtain ⟨k', v⟩ := h
    by_cases hk : k = k' <;> simp [lookup_cons, hk, ih]

theorem lookup_setOpt {α} (k k' : Str) (v : α) (l : List (Str × α)) :
    lookup k (setOpt k' v l) = if k = k' then some v else lookup k l := by
  induction l with
  | nil => simp [setOpt, lookup_cons, lookup_nil]
  | cons h t ih =>
    obtain ⟨k'', v''⟩ := h
    by_cases h1 : k' = k'' <;> by_cases h2 : k = k' <;> by_cases h3 : k = k'' <;>
      simp_all [setOpt, lookup_cons]

/-! ## C18 -/

/-! ### `.strip("'\" ")` forgets the INI quoting -/

theorem rstrip_nil (chars : Str) : rstripChars chars [] = [] := by
  simp [rstripChars, lstripChars]

theorem strip_wrap_char (chars : Str) (c : Char) (s : Str) (hc : chars.contains c = true) :
    stripChars chars (c :: (s ++ [c])) = stripChars chars s := by
  have hc' : c ∈ chars := by simpa using hc
  simp only [stripChars, rstripChars, lstripChars, List.dropWhile_cons, List.contains_iff_mem, hc', if_true,
    List.dropWhile_append]
  split <;> simp_all

theorem stripQuotes_wrap (q : Quote) (s : Str) : stripQuotes (q.wrap s) = stripQuotes s := by
  cases q
  · rfl
  · exact strip_wrap_char _ '"' s (by decide)
  · exact strip_wrap_char _ '\'' s (by decide)

/-! ### the BOOL_OPTIONS loops -/

theorem lookup_boolLoop (conv : RawVal → RawVal) (k : Str) (table : List (Str × Option Bool))
    (hd : (table.map Prod.fst).Nodup) (o : List (Str × RawVal)) :
    lookup k (table.foldl (fun acc od => setOpt od.1 (conv ((lookup od.1 acc).getD (boolDefault od.2))) acc) o) =
      match lookup k table with
      | some d => some (conv ((lookup k o).getD (boolDefault d)))
      | none => lookup k o := by
  induction table generalizing o with
  | nil => rfl
  | cons od rest ih =>
    obtain ⟨k', d⟩ := od
    rw [List.map_cons, List.nodup_cons] at hd
    rw [List.foldl_cons, ih hd.2, lookup_setOpt, lookup_cons]
    by_cases hk : k = k'
    · subst hk
      have hn : lookup k rest = none := by
        cases h : lookup k rest with
        | none => rfl
        | some v => exact absurd (List.mem_map.mpr ⟨_, lookup_mem h, rfl⟩) hd.1
      rw [hn, if_pos rfl, if_pos rfl]
    · rw [if_neg hk, if_neg hk]

theorem boolOptions_nodup : (Gen.boolOptions.map Prod.fst).Nodup := by decide

theorem lookup_iniBoolLoop (k : Str) (o : List (Str × RawVal)) :
    lookup k (iniBoolLoop o) = match lookup k Gen.boolOptions with
      | some d => some (iniBoolConv ((lookup k o).getD (boolDefault d)))
      | none => lookup k o :=
  lookup_boolLoop iniBoolConv k _ boolOptions_nodup o

theorem lookup_tomlBoolLoop (k : Str) (o : List (Str × RawVal)) :
    lookup k (tomlBoolLoop o) = match lookup k Gen.boolOptions with
      | some d => some ((lookup k o).getD (boolDefault d))
      | none => lookup k o :=
  lookup_boolLoop id k _ boolOptions_nodup o

/-! ### the raw options of the two renderings -/

/-- the options both renderings write, the rendering of a string and of a boolean setting left open
    (`AbsCfg.iniOpts` and `AbsCfg.tomlOpts` are its two instances) -/
def AbsCfg.opts {β} (fs : AbsStr → β) (fb : AbsBool → β) (c : AbsCfg) : List (Str × β) :=
  [("current_version".toList, fs c.currentVersion), ("version_pattern".toList, fs c.versionPattern)]
  ++ optEntry "commit_message".toList fs c.commitMessage
  ++ optEntry "tag_message".toList fs c.tagMessage
  ++ optEntry "tag_scope".toList fs c.tagScope
  ++ optEntry "pre_commit_hook".toList fs c.preHook
  ++ optEntry "post_commit_hook".toList fs c.postHook
  ++ optEntry "commit".toList fb c.commit
  ++ optEntry "tag".toList fb c.tag
  ++ optEntry "push".toList fb c.push

/-- reads one literal key of `AbsCfg.opts`; keys given as string literals are compared as strings -/
syntax "lookup_opts" : tactic
macro_rules
  | `(tactic| lookup_opts) => `(tactic| simp only [AbsCfg.opts, lookup_append, lookup_optEntry, lookup_cons, lookup_nil,
      String.toList_inj, String.reduceEq, if_false, if_true, Option.orElse_eq_or, Option.or_none, Option.none_or,
      Option.some_or])

section
variable {β} (fs : AbsStr → β) (fb : AbsBool → β) (c : AbsCfg)
theorem lookup_opts_currentVersion : lookup "current_version".toList (c.opts fs fb) = some (fs c.currentVersion) := by lookup_opts
theorem lookup_opts_versionPattern : lookup "version_pattern".toList (c.opts fs fb) = some (fs c.versionPattern) := by lookup_opts
theorem lookup_opts_commitMessage : lookup "commit_message".toList (c.opts fs fb) = c.commitMessage.map fs := by lookup_opts
theorem lookup_opts_tagMessage : lookup "tag_message".toList (c.opts fs fb) = c.tagMessage.map fs := by lookup_opts
theorem lookup_opts_tagScope : lookup "tag_scope".toList (c.opts fs fb) = c.tagScope.map fs := by lookup_opts
theorem lookup_opts_preHook : lookup "pre_commit_hook".toList (c.opts fs fb) = c.preHook.map fs := by lookup_opts
theorem lookup_opts_postHook : lookup "post_commit_hook".toList (c.opts fs fb) = c.postHook.map fs := by lookup_opts
theorem lookup_opts_commit : lookup "commit".toList (c.opts fs fb) = c.commit.map fb := by lookup_opts
theorem lookup_opts_tag : lookup "tag".toList (c.opts fs fb) = c.tag.map fb := by lookup_opts
theorem lookup_opts_push : lookup "push".toList (c.opts fs fb) = c.push.map fb := by lookup_opts
end

/-! ### the two readers' option dicts for one abstract configuration -/

/-- the INI reader's dict -/
def iniDict (c : AbsCfg) : List (Str × RawVal) :=
  iniBoolLoop (c.iniOpts.map (fun kv => (kv.1, RawVal.str kv.2)))

/-- the TOML reader's dict -/
def tomlDict (c : AbsCfg) : List (Str × RawVal) := tomlBoolLoop c.tomlOpts

theorem lookup_iniDict (c : AbsCfg) (k : Str) :
    lookup k (iniDict c) = match lookup k Gen.boolOptions with
      | some d => some (iniBoolConv (((lookup k (c.opts AbsStr.ini AbsBool.ini)).map RawVal.str).getD (boolDefault d)))
      | none => (lookup k (c.opts AbsStr.ini AbsBool.ini)).map RawVal.str := by
  rw [iniDict, lookup_iniBoolLoop, lookup_mapVal]
  rfl

theorem lookup_tomlDict (c : AbsCfg) (k : Str) :
    lookup k (tomlDict c) = match lookup k Gen.boolOptions with
      | some d => some ((lookup k (c.opts (fun a => .str a.s) AbsBool.toml)).getD (boolDefault d))
      | none => lookup k (c.opts (fun a => .str a.s) AbsBool.toml) :=
  lookup_tomlBoolLoop k _

theorem spellings_disjoint (x : Str) (h : falseSpellings.contains x = true) :
    Gen.trueSpellings.contains x = false := by
  simp only [falseSpellings, List.contains_cons, List.contains_nil, Bool.or_false, Bool.or_eq_true,
    beq_iff_eq] at h
  rcases h with h | h | h | h <;> subst h <;> decide

theorem AbsBool.conv_eq (a : AbsBool) (h : a.ok = true) : iniBoolConv (.str a.ini) = a.toml := by
  unfold AbsBool.ok at h
  simp only [Bool.and_eq_true, Bool.not_eq_true'] at h
  obtain ⟨hq, hs⟩ := h
  simp only [iniBoolConv, AbsBool.ini, AbsBool.toml, hq, Bool.false_eq_true, if_false]
  cases hb : a.b
  · simp only [hb, Bool.false_eq_true, if_false] at hs
    rw [spellings_disjoint _ hs]
  · simp only [hb, if_true] at hs
    rw [hs]

/-- what `.strip("'\" ")` makes of a raw value; the three string readers of `_parse_config` see a dict only
    through it -/
def normStr : RawVal → RawVal
  | .str s => .str (stripQuotes s)
  | v => v

theorem strOptDefault_norm (k d : Str) (o : List (Str × RawVal)) :
    strOptDefault k d o = match (lookup k o).map normStr with
      | none => .ok (stripQuotes d)
      | some (.str s) => .ok s
      | some _ => .error .notAString := by
  unfold strOptDefault
  rcases lookup k o with _ | (s | _ | _) <;> rfl

theorem strReq_norm (k : Str) (o : List (Str × RawVal)) :
    strReq k o = match (lookup k o).map normStr with
      | none => .error .keyError
      | some (.str s) => .ok s
      | some _ => .error .notAString := by
  unfold strReq
  rcases lookup k o with _ | (s | _ | _) <;> rfl

theorem parseCfgStrings_norm (k d : Str) (o : List (Str × RawVal)) :
    parseCfgStrings k d o = match (lookup k o).map normStr with
      | none => .ok d
      | some (.str s) => .ok s
      | some _ => .error .notAString := by
  unfold parseCfgStrings
  rcases lookup k o with _ | (s | _ | _) <;> rfl

/-- `_parse_config` reads ten keys of the raw dict: seven strings, which it strips, and three booleans.
    Two dicts that agree on the stripped strings and on the booleans are read to the same settings. -/
theorem parseConfig_congr (env : CfgEnv) (o1 o2 : List (Str × RawVal)) (fp : FilePatterns)
    (hs : ∀ k ∈ ["commit_message".toList, "tag_message".toList, "current_version".toList, "version_pattern".toList,
      "tag_scope".toList, "pre_commit_hook".toList, "post_commit_hook".toList],
      (lookup k o1).map normStr = (lookup k o2).map normStr)
    (hb : ∀ k ∈ ["commit".toList, "tag".toList, "push".toList], lookup k o1 = lookup k o2) :
    parseConfig env { opts := o1, filePatterns := fp } = parseConfig env { opts := o2, filePatterns := fp } := by
  simp only [List.forall_mem_cons, List.not_mem_nil, false_imp_iff, implies_true, and_true] at hs hb
  obtain ⟨h1, h2, h3, h4, h5, h6, h7⟩ := hs
  obtain ⟨h8, h9, h10⟩ := hb
  unfold parseConfig
  simp only [strOptDefault_norm, strReq_norm, parseCfgStrings_norm, optVal, h1, h2, h3, h4, h5, h6, h7, h8, h9, h10]

/-- for a configuration without quoted booleans and with conventional spellings the two
    dicts are read to the same settings -/
theorem parseConfig_dicts (env : CfgEnv) (c : AbsCfg) (fp : FilePatterns)
    (hc : optOk AbsBool.ok c.commit = true) (ht : optOk AbsBool.ok c.tag = true)
    (hp : optOk AbsBool.ok c.push = true) :
    parseConfig env { opts := iniDict c, filePatterns := fp } =
    parseConfig env { opts := tomlDict c, filePatterns := fp } := by
  -- a string setting: the INI value is the TOML value in quotes
  have hstr : ∀ x : Option AbsStr,
      ((x.map AbsStr.ini).map RawVal.str).map normStr = (x.map (fun a => RawVal.str a.s)).map normStr := by
    intro x
    cases x with
    | none => rfl
    | some a => exact congrArg (some ∘ RawVal.str) (stripQuotes_wrap a.q a.s)
  -- a boolean setting: the INI reader's conversion of the spelling is the TOML value
  have hbool : ∀ (x : Option AbsBool) (d : RawVal), iniBoolConv d = d → optOk AbsBool.ok x = true →
      iniBoolConv (((x.map AbsBool.ini).map RawVal.str).getD d) = (x.map AbsBool.toml).getD d := by
    intro x d hd hx
    cases x with
    | none => exact hd
    | some a => exact AbsBool.conv_eq a hx
  have hkeys : (∀ k ∈ ["commit_message".toList, "tag_message".toList, "current_version".toList,
        "version_pattern".toList, "tag_scope".toList, "pre_commit_hook".toList, "post_commit_hook".toList],
        lookup k Gen.boolOptions = none) ∧
      lookup "commit".toList Gen.boolOptions = some (some false) ∧
      lookup "tag".toList Gen.boolOptions = some none ∧ lookup "push".toList Gen.boolOptions = some none := by
    decide +kernel
  apply parseConfig_congr <;> intro k hk
  · rw [lookup_iniDict, lookup_tomlDict, hkeys.1 k hk]
    simp only [List.mem_cons, List.not_mem_nil, or_false] at hk
    rcases hk with rfl | rfl | rfl | rfl | rfl | rfl | rfl
    · rw [lookup_opts_commitMessage, lookup_opts_commitMessage]; exact hstr _
    · rw [lookup_opts_tagMessage, lookup_opts_tagMessage]; exact hstr _
    · rw [lookup_opts_currentVersion, lookup_opts_currentVersion]; exact hstr (some _)
    · rw [lookup_opts_versionPattern, lookup_opts_versionPattern]; exact hstr (some _)
    · rw [lookup_opts_tagScope, lookup_opts_tagScope]; exact hstr _
    · rw [lookup_opts_preHook, lookup_opts_preHook]; exact hstr _
    · rw [lookup_opts_postHook, lookup_opts_postHook]; exact hstr _
  · simp only [List.mem_cons, List.not_mem_nil, or_false] at hk
    rcases hk with rfl | rfl | rfl
    · rw [lookup_iniDict, lookup_tomlDict, hkeys.2.1, lookup_opts_commit, lookup_opts_commit]
      exact congrArg some (hbool _ _ rfl hc)
    · rw [lookup_iniDict, lookup_tomlDict, hkeys.2.2.1, lookup_opts_tag, lookup_opts_tag]
      exact congrArg some (hbool _ _ rfl ht)
    · rw [lookup_iniDict, lookup_tomlDict, hkeys.2.2.2, lookup_opts_push, lookup_opts_push]
      exact congrArg some (hbool _ _ rfl hp)

/-! ### the multi-line value of an INI `file_patterns` option splits back into its patterns -/

theorem splitlinesGo_noBreak (p : Str) (hp : hasLineBreak p = false) (cur rest : Str) :
    splitlinesGo false cur (p ++ rest) = splitlinesGo false (p.reverse ++ cur) rest := by
  induction p generalizing cur with
  | nil => rfl
  | cons a t ih =>
    simp only [hasLineBreak, List.any_cons, Bool.or_eq_false_iff] at hp
    obtain ⟨ha, ht⟩ := hp
    have hr : (a == '\r') = false := by
      cases h : (a == '\r')
      · rfl
      · have : a = '\r' := by simpa using h
        subst this
        exact absurd ha (by decide)
    rw [List.cons_append, splitlinesGo]
    simp only [Bool.and_false, Bool.false_eq_true, if_false, hr, ha]
    rw [ih (by simpa [hasLineBreak] using ht)]
    simp

theorem splitlinesGo_newline (cur rest : Str) :
    splitlinesGo false cur ('\n' :: rest) = cur.reverse :: splitlinesGo false [] rest := by
  rw [splitlinesGo]
  simp only [Bool.and_false, Bool.false_eq_true, if_false]
  rw [if_neg (by decide), if_pos (by decide)]

/-- strip every line, drop the empty ones -/
def cleanLines (l : List Str) : List Str := (l.map strip).filter (fun p => !p.isEmpty)

theorem cleanLines_cons (p : Str) (l : List Str) :
    cleanLines (p :: l) = (if (strip p).isEmpty then [] else [strip p]) ++ cleanLines l := by
  unfold cleanLines
  cases h : (strip p).isEmpty <;> simp [h]

theorem cleanLines_splitlines_join (ps : List Str) (h : ∀ p ∈ ps, hasLineBreak p = false) :
    cleanLines (pySplitlines (join "\n".toList ps)) = cleanLines ps := by
  induction ps with
  | nil => rfl
  | cons p rest ih =>
    have hp := h p (by simp)
    cases rest with
    | nil =>
      show cleanLines (splitlinesGo false [] p) = cleanLines [p]
      have := splitlinesGo_noBreak p hp [] []
      rw [List.append_nil, List.append_nil] at this
      rw [this, splitlinesGo]
      cases p with
      | nil => rfl
      | cons a t => simp
    | cons q rest' =>
      have ih' := ih (fun x hx => h x (by simp [hx]))
      show cleanLines (splitlinesGo false [] (p ++ "\n".toList ++ join "\n".toList (q :: rest'))) = _
      rw [List.append_assoc, splitlinesGo_noBreak p hp]
      show cleanLines (splitlinesGo false (p.reverse ++ []) ('\n' :: join "\n".toList (q :: rest'))) = _
      rw [splitlinesGo_newline, cleanLines_cons, cleanLines_cons p]
      simp only [List.append_nil, List.reverse_reverse]
      rw [show splitlinesGo false [] (join "\n".toList (q :: rest')) = pySplitlines (join "\n".toList (q :: rest')) from rfl, ih']

theorem cleanLines_of_ok (ps : List Str) (h : ps.all patternOk = true) : cleanLines ps = ps := by
  induction ps with
  | nil => rfl
  | cons p rest ih =>
    simp only [List.all_cons, Bool.and_eq_true] at h
    obtain ⟨hp, hr⟩ := h
    simp only [patternOk, Bool.and_eq_true, Bool.not_eq_true', beq_iff_eq] at hp
    obtain ⟨⟨⟨⟨hne, hs⟩, _⟩, _⟩, _⟩ := hp
    rw [cleanLines_cons, hs, hne, ih hr]
    simp

theorem iniPatternLines_iniValue (f : AbsFile) (h : f.patterns.all patternOk = true) :
    iniPatternLines f.iniValue = f.patterns := by
  have hnb : ∀ p ∈ f.patterns, hasLineBreak p = false := by
    intro p hp
    have hp := List.all_eq_true.mp h p hp
    simp only [patternOk, Bool.and_eq_true, Bool.not_eq_true', beq_iff_eq] at hp
    exact hp.1.1.2
  show cleanLines (pySplitlines f.iniValue) = f.patterns
  unfold AbsFile.iniValue
  split
  · rw [cleanLines_splitlines_join _ hnb, cleanLines_of_ok _ h]
  · rw [cleanLines_splitlines_join ([] :: f.patterns)
      (by
        intro p hp
        rcases List.mem_cons.mp hp with rfl | hp
        · rfl
        · exact hnb p hp),
      cleanLines_cons, show strip [] = [] from rfl, cleanLines_of_ok _ h]
    rfl

/-! ### what the two readers return for the renderings of one abstract configuration -/

/-- the `file_patterns` both readers should arrive at -/
def AbsCfg.filePatterns (c : AbsCfg) : FilePatterns := c.files.map (fun f => (f.name, f.patterns))

theorem map_iniPatternLines (fs : List AbsFile) (h : ∀ f ∈ fs, f.patterns.all patternOk = true) :
    (fs.map (fun f => (f.name, f.iniValue))).map (fun kv => (kv.1, iniPatternLines kv.2)) =
    fs.map (fun f => (f.name, f.patterns)) := by
  induction fs with
  | nil => rfl
  | cons f rest ih =>
    simp only [List.map_cons]
    rw [iniPatternLines_iniValue f (h f (by simp)), ih (fun g hg => h g (by simp [hg]))]

theorem iniRaw_sections (legacy : Bool) (c : AbsCfg) :
    (iniRaw legacy c).sections =
      ((if legacy then "pycalver".toList else "bumpver".toList), c.iniOpts) ::
      (if c.files.isEmpty then []
       else [((if legacy then "pycalver:file_patterns".toList else "bumpver:file_patterns".toList),
              c.files.map (fun f => (f.name, f.iniValue)))]) := by
  have h : "pycalver".toList ++ ":file_patterns".toList = "pycalver:file_patterns".toList ∧
      "bumpver".toList ++ ":file_patterns".toList = "bumpver:file_patterns".toList := by decide +kernel
  cases legacy <;> simp only [iniRaw, if_true, if_false, Bool.false_eq_true, h.1, h.2]

theorem iniFilePatterns_iniRaw (legacy : Bool) (c : AbsCfg)
    (h : ∀ f ∈ c.files, f.patterns.all patternOk = true) :
    iniFilePatterns (iniRaw legacy c) = c.filePatterns := by
  unfold AbsCfg.filePatterns iniFilePatterns
  rw [iniRaw_sections]
  cases hf : c.files.isEmpty <;> cases legacy <;>
    simp only [lookup_cons, lookup_nil, String.toList_inj, String.reduceEq, if_true, if_false, Bool.false_eq_true]
  · exact map_iniPatternLines _ h
  · exact map_iniPatternLines _ h
  all_goals
    rw [List.isEmpty_iff.mp hf]
    rfl

theorem setRawConfigDefaults_iniDict (c : AbsCfg) : setRawConfigDefaults (iniDict c) = .ok () := by
  unfold setRawConfigDefaults
  rw [lookup_iniDict, lookup_iniDict, lookup_opts_versionPattern, lookup_opts_currentVersion]
  rfl

theorem setRawConfigDefaults_tomlDict (c : AbsCfg) : setRawConfigDefaults (tomlDict c) = .ok () := by
  unfold setRawConfigDefaults
  rw [lookup_tomlDict, lookup_tomlDict, lookup_opts_versionPattern, lookup_opts_currentVersion]
  rfl

theorem iniMainSection_iniRaw (legacy : Bool) (c : AbsCfg) :
    iniMainSection (iniRaw legacy c) = some c.iniOpts := by
  unfold iniMainSection
  rw [iniRaw_sections]
  cases legacy <;> cases c.files.isEmpty <;>
    simp only [lookup_cons, lookup_nil, String.toList_inj, String.reduceEq, if_true, if_false, Bool.false_eq_true]

theorem parseCfgPost_iniRaw (legacy : Bool) (c : AbsCfg)
    (h : ∀ f ∈ c.files, f.patterns.all patternOk = true) :
    parseCfgPost (iniRaw legacy c) = .ok { opts := iniDict c, filePatterns := c.filePatterns } := by
  have h1 := setRawConfigDefaults_iniDict c
  unfold iniDict at h1
  unfold parseCfgPost
  rw [iniMainSection_iniRaw]
  simp only [h1, iniFilePatterns_iniRaw legacy c h]
  rfl

theorem tomlMainSection_tomlRaw (place : TomlPlace) (c : AbsCfg) :
    tomlMainSection (tomlRaw place c) =
      { opts := c.tomlOpts,
        filePatterns := if c.files.isEmpty then .none else some (c.files.map (fun f => (f.name, f.patterns))) } := by
  cases place <;> rfl

theorem parseTomlPost_tomlRaw (place : TomlPlace) (c : AbsCfg) :
    parseTomlPost (tomlRaw place c) = .ok { opts := tomlDict c, filePatterns := c.filePatterns } := by
  have hfp : (if c.files.isEmpty then (none : Option FilePatterns)
      else some (c.files.map (fun f => (f.name, f.patterns)))).getD [] = c.filePatterns := by
    unfold AbsCfg.filePatterns
    cases hf : c.files.isEmpty
    · simp
    · have : c.files = [] := by simpa using hf
      simp [this]
  have h1 := setRawConfigDefaults_tomlDict c
  unfold tomlDict at h1
  unfold parseTomlPost
  rw [tomlMainSection_tomlRaw]
  simp only [h1, hfp]
  rfl

/-! ### what `.ok` of `parseConfig` and of the two readers gives -/

theorem parseConfig_ok (env : CfgEnv) (raw : RawCfg) (e : EffectiveConfig) (h : parseConfig env raw = .ok e) :
    compileFilePatterns env e.isNewPattern e.versionPattern raw.filePatterns = .ok e.filePatterns ∧
    ∃ commit tag push : RawVal, e.commit = commit.truthy ∧ e.tag = tag.truthy ∧ e.push = push.truthy ∧
      checkFlags env commit tag push e.preCommitHook e.postCommitHook = .ok () := by
  unfold parseConfig at h
  obtain ⟨cm, -, h⟩ := bind_ok _ _ _ h
  obtain ⟨tm, -, h⟩ := bind_ok _ _ _ h
  obtain ⟨cv, -, h⟩ := bind_ok _ _ _ h
  obtain ⟨vp, -, h⟩ := bind_ok _ _ _ h
  obtain ⟨_, -, h⟩ := bind_ok _ _ _ h
  obtain ⟨fp, hfp, h⟩ := bind_ok _ _ _ h
  obtain ⟨sc, -, h⟩ := bind_ok _ _ _ h
  obtain ⟨_, -, h⟩ := bind_ok _ _ _ h
  obtain ⟨pre, -, h⟩ := bind_ok _ _ _ h
  obtain ⟨post, -, h⟩ := bind_ok _ _ _ h
  obtain ⟨commit, -, h⟩ := bind_ok _ _ _ h
  obtain ⟨tag, -, h⟩ := bind_ok _ _ _ h
  obtain ⟨push, -, h⟩ := bind_ok _ _ _ h
  obtain ⟨⟨⟩, hflags, h⟩ := bind_ok _ _ _ h
  cases h
  exact ⟨hfp, commit, tag, push, rfl, rfl, rfl, hflags⟩

theorem checkFlags_ok (env : CfgEnv) (commit tag push : RawVal) (pre post : Str)
    (h : checkFlags env commit tag push pre post = .ok ()) :
    (tag.truthy = true → commit.truthy = true) ∧ (push.truthy = true → commit.truthy = true) := by
  unfold checkFlags at h
  cases hc : commit.truthy
  · cases ht : tag.truthy
    · cases hp : push.truthy
      · exact ⟨nofun, nofun⟩
      · rw [hc, ht, hp] at h
        cases h
    · rw [hc, ht] at h
      cases h
  · exact ⟨fun _ => rfl, fun _ => rfl⟩

theorem setRawConfigDefaults_ok (opts : List (Str × RawVal)) (h : setRawConfigDefaults opts = .ok ()) :
    ∃ cv vp, rawStr "current_version".toList opts = .ok cv ∧ rawStr "version_pattern".toList opts = .ok vp := by
  unfold setRawConfigDefaults at h
  unfold rawStr
  rcases h1 : lookup "version_pattern".toList opts with _ | (vp | _ | _) <;> rw [h1] at h <;> try cases h
  rcases h2 : lookup "current_version".toList opts with _ | (cv | _ | _) <;> rw [h2] at h <;> try cases h
  exact ⟨cv, vp, rfl, rfl⟩

theorem parseTomlPost_ok (d : TomlDoc) (raw : RawCfg) (h : parseTomlPost d = .ok raw) :
    ∃ cv vp, rawStr "current_version".toList raw.opts = .ok cv ∧ rawStr "version_pattern".toList raw.opts = .ok vp := by
  unfold parseTomlPost at h
  simp only [] at h
  cases hs : setRawConfigDefaults (tomlBoolLoop (tomlMainSection d).opts) with
  | error e => rw [hs] at h; cases h
  | ok u => rw [hs] at h; cases h; exact setRawConfigDefaults_ok _ hs

theorem parseCfgPost_ok (d : IniDoc) (raw : RawCfg) (h : parseCfgPost d = .ok raw) :
    ∃ cv vp, rawStr "current_version".toList raw.opts = .ok cv ∧ rawStr "version_pattern".toList raw.opts = .ok vp := by
  unfold parseCfgPost at h
  cases hm : iniMainSection d with
  | none => rw [hm] at h; cases h
  | some items =>
    rw [hm] at h
    simp only [] at h
    cases hs : setRawConfigDefaults (iniBoolLoop (items.map (fun kv => (kv.1, RawVal.str kv.2)))) with
    | error e => rw [hs] at h; cases h
    | ok u => rw [hs] at h; cases h; exact setRawConfigDefaults_ok _ hs

/-! ### the own-entry step of `_parse_raw_config` -/

theorem lookup_append_new {α} (k : Str) (v : α) (l : List (Str × α)) (h : cfgHasKey k l = false) :
    lookup k (l ++ [(k, v)]) = some v := by
  unfold cfgHasKey at h
  cases hl : lookup k l with
  | some w => rw [hl] at h; cases h
  | none =>
    rw [lookup_append, hl, lookup_cons, if_pos rfl]
    rfl

theorem addSelfPattern_ok (rel text : Str) (raw raw' : RawCfg) (h : addSelfPattern rel text raw = .ok raw') :
    (cfgHasKey rel raw.filePatterns = true → raw' = raw) ∧
    (cfgHasKey rel raw.filePatterns = false →
      ∃ line cv vp, curVersionLine text = some line ∧
        rawStr "current_version".toList raw.opts = .ok cv ∧ rawStr "version_pattern".toList raw.opts = .ok vp ∧
        raw'.filePatterns = raw.filePatterns ++ [(rel, [pyReplace (stripQuotes cv) (stripQuotes vp) line])]) := by
  unfold addSelfPattern at h
  cases hk : cfgHasKey rel raw.filePatterns
  · refine ⟨nofun, fun _ => ?_⟩
    rw [hk] at h
    simp only [Bool.false_eq_true, if_false] at h
    split at h
    · rename_i cv vp hcv hvp
      unfold parseCurrentVersionDefaultPattern at h
      cases hl : curVersionLine text with
      | none => rw [hl] at h; cases h
      | some line =>
        rw [hl] at h
        cases h
        exact ⟨line, cv, vp, rfl, hcv, hvp, rfl⟩
    · cases h
    · cases h
  · refine ⟨fun _ => ?_, nofun⟩
    rw [hk, if_pos rfl] at h
    cases h
    rfl

theorem addSelfPattern_listed (rel text : Str) (raw raw' : RawCfg) (h : addSelfPattern rel text raw = .ok raw') :
    ∃ ps, lookup rel raw'.filePatterns = some ps := by
  obtain ⟨hyes, hno⟩ := addSelfPattern_ok rel text raw raw' h
  cases hk : cfgHasKey rel raw.filePatterns
  · obtain ⟨line, cv, vp, -, -, -, hfp⟩ := hno hk
    exact ⟨_, hfp ▸ lookup_append_new rel _ _ hk⟩
  · rw [hyes hk]
    exact Option.isSome_iff_exists.mp hk

/-! ### merging file patterns by path keeps every pattern -/

/-- the file `f` is listed with (at least) the patterns `ps` -/
def hasPats (f : Str) (ps : List Str) (l : FilePatterns) : Prop :=
  ∃ qs, lookup f l = some qs ∧ ∀ p ∈ ps, p ∈ qs

theorem mergeInto_mono (acc : FilePatterns) (item : Str × List Str) (f : Str) (ps : List Str)
    (h : hasPats f ps acc) : hasPats f ps (mergeInto acc item) := by
  obtain ⟨qs, hq, hsub⟩ := h
  unfold mergeInto
  cases hl : lookup item.1 acc with
  | none =>
    refine ⟨qs, ?_, hsub⟩
    simp only []
    rw [lookup_append, hq]
    rfl
  | some old =>
    simp only []
    by_cases hf : f = item.1
    · subst hf
      rw [hq] at hl
      cases hl
      refine ⟨qs ++ item.2, ?_, fun p hp => List.mem_append_left _ (hsub p hp)⟩
      rw [lookup_setOpt, if_pos rfl]
    · refine ⟨qs, ?_, hsub⟩
      rw [lookup_setOpt, if_neg hf, hq]

theorem mergeInto_self (acc : FilePatterns) (item : Str × List Str) :
    hasPats item.1 item.2 (mergeInto acc item) := by
  unfold mergeInto
  cases hl : lookup item.1 acc with
  | none =>
    refine ⟨item.2, ?_, fun p hp => hp⟩
    simp only []
    rw [lookup_append, hl]
    obtain ⟨k, v⟩ := item
    simp [lookup_cons]
  | some old =>
    refine ⟨old ++ item.2, ?_, fun p hp => List.mem_append_right _ hp⟩
    simp only []
    rw [lookup_setOpt, if_pos rfl]

theorem foldl_mergeInto (items : FilePatterns) (acc : FilePatterns) (f : Str) (ps : List Str)
    (h : (f, ps) ∈ items ∨ hasPats f ps acc) : hasPats f ps (items.foldl mergeInto acc) := by
  induction items generalizing acc with
  | nil =>
    rcases h with h | h
    · cases h
    · exact h
  | cons it rest ih =>
    rw [List.foldl_cons]
    apply ih
    rcases h with h | h
    · rcases List.mem_cons.mp h with h | h
      · right
        rw [← h]
        exact mergeInto_self acc (f, ps)
      · left; exact h
    · right; exact mergeInto_mono acc it f ps h

theorem mem_iterGlobExpanded (glob : Str → List Str) (fps : FilePatterns) (g : Str) (pats : List Str)
    (hm : (g, pats) ∈ fps) (hg : glob g = [] ∨ g ∈ glob g) : (g, pats) ∈ iterGlobExpanded glob fps := by
  induction fps with
  | nil => cases hm
  | cons hd rest ih =>
    obtain ⟨g', pats'⟩ := hd
    rw [iterGlobExpanded]
    rcases List.mem_cons.mp hm with h | h
    · cases h
      apply List.mem_append_left
      rcases hg with hg | hg
      · rw [hg]; simp
      · cases hgl : glob g with
        | nil => rw [hgl] at hg; cases hg
        | cons a t =>
          simp only []
          rw [← hgl]
          exact List.mem_map.mpr ⟨g, hg, rfl⟩
    · exact List.mem_append_right _ (ih h)

theorem compileFilePatterns_ok (env : CfgEnv) (isNew : Bool) (vp : Str) (fps r : FilePatterns)
    (h : compileFilePatterns env isNew vp fps = .ok r) :
    r = (iterGlobExpanded env.glob fps).foldl mergeInto [] := by
  unfold compileFilePatterns at h
  simp only [] at h
  split at h
  · cases h
  · cases h; rfl

/-! ## C19 -/

/-! ### `str.format` on the base templates: the initial version is inserted verbatim -/

/-- replace the placeholder character by a string -/
def substPh (ph : Char) (iv : Str) (s : Str) : Str := s.flatMap (fun c => if c == ph then iv else [c])

theorem substPh_append (ph : Char) (iv a b : Str) : substPh ph iv (a ++ b) = substPh ph iv a ++ substPh ph iv b := by
  simp [substPh]

theorem substPh_cons_ne (ph : Char) (iv : Str) (c : Char) (s : Str) (h : c ≠ ph) :
    substPh ph iv (c :: s) = c :: substPh ph iv s := by
  simp [substPh, h]

theorem substPh_none (ph : Char) (iv s : Str) (h : s.contains ph = false) : substPh ph iv s = s := by
  induction s with
  | nil => rfl
  | cons c t ih =>
    simp only [List.contains_cons, Bool.or_eq_false_iff] at h
    have hc : c ≠ ph := by
      intro e; subst e; simp at h
    rw [substPh_cons_ne _ _ _ _ hc, ih h.2]

def substKw (ph : Char) (iv : Str) (kw : List (Str × Str)) : List (Str × Str) :=
  kw.map (fun kv => (kv.1, substPh ph iv kv.2))

theorem map_map_except {ε α β γ} (x : Except ε α) (f : α → β) (g : β → γ) :
    (x.map f).map g = x.map (g ∘ f) := by
  cases x <;> rfl

theorem fmtGo_subst (ph : Char) (iv : Str) (kw : List (Str × Str)) (st : FState) (t : Str)
    (ht : t.contains ph = false) :
    fmtGo (substKw ph iv kw) st t = (fmtGo kw st t).map (substPh ph iv) := by
  induction t generalizing st with
  | nil => cases st <;> rfl
  | cons c r ih =>
    simp only [List.contains_cons, Bool.or_eq_false_iff] at ht
    obtain ⟨hc0, hr⟩ := ht
    have hc : c ≠ ph := by
      intro e; subst e; simp at hc0
    cases st with
    | text =>
      rw [fmtGo, fmtGo]
      split
      · exact ih _ hr
      · split
        · exact ih _ hr
        · rw [ih _ hr, map_map_except, map_map_except]
          congr 1
          funext x
          exact (substPh_cons_ne ph iv c x hc).symm
    | open_ =>
      rw [fmtGo, fmtGo]
      split
      · rename_i h
        have : c = '{' := by simpa using h
        subst this
        rw [ih _ hr, map_map_except, map_map_except]
        congr 1
        funext x
        exact (substPh_cons_ne ph iv _ x hc).symm
      · split
        · rfl
        · exact ih _ hr
    | close_ =>
      rw [fmtGo, fmtGo]
      split
      · rename_i h
        have : c = '}' := by simpa using h
        subst this
        rw [ih _ hr, map_map_except, map_map_except]
        congr 1
        funext x
        exact (substPh_cons_ne ph iv _ x hc).symm
      · rfl
    | field acc =>
      rw [fmtGo, fmtGo]
      split
      · simp only []
        split
        · rfl
        · have hl : lookup acc.reverse (substKw ph iv kw) = (lookup acc.reverse kw).map (substPh ph iv) :=
            lookup_mapVal _ _ _
          rw [hl]
          cases lookup acc.reverse kw with
          | none => rfl
          | some v =>
            simp only [Option.map_some]
            rw [ih _ hr, map_map_except, map_map_except]
            congr 1
            funext x
            exact (substPh_append ph iv v x).symm
      · exact ih _ hr

/-- a character that occurs in no template: stands for the initial version while the template is
    formatted by evaluation -/
def phChar : Char := Char.ofNat 0

def kwOf (iv : Str) : List (Str × Str) :=
  [("initial_version".toList, iv), ("default_tag_scope".toList, Gen.defaultTagScope)]

theorem substPh_self (ph : Char) (iv : Str) : substPh ph iv [ph] = iv := by
  simp [substPh]

theorem kwOf_subst (iv : Str) : kwOf iv = substKw phChar iv (kwOf [phChar]) := by
  have h : substPh phChar iv Gen.defaultTagScope = Gen.defaultTagScope := substPh_none _ _ _ (by decide)
  simp only [kwOf, substKw, List.map_cons, List.map_nil, substPh_self, h]

def headOf (base : Str) : Str :=
  match pyFormat (kwOf [phChar]) base with
  | .ok s => s
  | .error _ => []

/-- the formatted base template before / after the initial version -/
def preOf (base : Str) : Str := (headOf base).takeWhile (· != phChar)
def postOf (base : Str) : Str := ((headOf base).dropWhile (· != phChar)).drop 1

def baseOk (base : Str) : Bool :=
  decide (pyFormat (kwOf [phChar]) base = .ok (preOf base ++ [phChar] ++ postOf base)) &&
  !base.contains phChar && !(preOf base).contains phChar && !(postOf base).contains phChar

theorem format_base (base : Str) (hb : baseOk base = true) (iv : Str) :
    pyFormat (kwOf iv) base = .ok (preOf base ++ iv ++ postOf base) := by
  simp only [baseOk, Bool.and_eq_true, decide_eq_true_eq, Bool.not_eq_true'] at hb
  obtain ⟨⟨⟨h1, h2⟩, h3⟩, h4⟩ := hb
  rw [kwOf_subst, pyFormat, fmtGo_subst _ _ _ _ _ h2]
  rw [show fmtGo (kwOf [phChar]) .text base = pyFormat (kwOf [phChar]) base from rfl, h1]
  show Except.ok (substPh phChar iv (preOf base ++ [phChar] ++ postOf base)) = _
  rw [substPh_append, substPh_append, substPh_self, substPh_none _ _ _ h3, substPh_none _ _ _ h4]

theorem base_templates :
    ∀ base ∈ [Gen.baseTmplCfg, Gen.baseTmplPyproject, Gen.baseTmplToml], baseOk base = true ∧
      isInfix "bumpver]".toList (preOf base) = true ∧ isInfix "current_version".toList (preOf base) = true := by
  decide +kernel

/-- the base template `default_config` picks for the config file `name` -/
def baseOf (name : Str) : Str :=
  if configFormat name == "cfg".toList then Gen.baseTmplCfg
  else if name == "pyproject.toml".toList then Gen.baseTmplPyproject
  else Gen.baseTmplToml

theorem baseOf_mem (name : Str) : baseOf name ∈ [Gen.baseTmplCfg, Gen.baseTmplPyproject, Gen.baseTmplToml] := by
  unfold baseOf
  split
  · simp
  · split <;> simp

theorem baseOk_baseOf (name : Str) : baseOk (baseOf name) = true := (base_templates _ (baseOf_mem name)).1

/-- the `default_pattern_strs_by_filename` dict of the config file's format -/
def tableOf (name : Str) : List (Str × Str) :=
  if configFormat name == "cfg".toList then Gen.defaultPatternStrsCfg else Gen.defaultPatternStrsToml

/-- the entry `default_config` adds when no supported config file exists -/
def fallbackOf (name : Str) : Str :=
  if configFormat name == "cfg".toList then Gen.fallbackStrCfg else Gen.fallbackStrToml

/-- what `default_config` appends after the formatted base template -/
def tailOf (w : World) (name : Str) : Str :=
  appendExisting w (tableOf name) ++
  ((if Gen.supportedConfigs.any (fun f => w.exists_ f) then [] else fallbackOf name) ++ "\n".toList)

theorem defaultConfigText_eq (w : World) (name iv : Str)
    (hfmt : (configFormat name == "cfg".toList || configFormat name == "toml".toList) = true) :
    defaultConfigText w name iv = .ok (preOf (baseOf name) ++ iv ++ postOf (baseOf name) ++ tailOf w name) := by
  have hb := format_base (baseOf name) (baseOk_baseOf name) iv
  unfold defaultConfigText
  have hne : (!(configFormat name == "cfg".toList) && !(configFormat name == "toml".toList)) = false := by
    cases h1 : configFormat name == "cfg".toList <;> cases h2 : configFormat name == "toml".toList <;> simp_all
  simp only [hne, Bool.false_eq_true, if_false]
  show (match pyFormat (kwOf iv) (baseOf name) with
    | Except.error e => Except.error (InitErr.fmt e)
    | Except.ok head => Except.ok (head ++ _ ++ _ ++ "\n".toList)) = _
  rw [hb]
  simp only [tailOf, tableOf, fallbackOf, List.append_assoc]

/-! ### substring search -/

theorem isInfix_of_decomp (pat a c : Str) : isInfix pat (a ++ pat ++ c) = true := by
  rw [List.append_assoc]
  exact isInfix_append_mid a pat c

theorem isInfix_mid (pat a b c : Str) (h : isInfix pat b = true) : isInfix pat (a ++ b ++ c) = true := by
  -- b = b1 ++ pat ++ b2
  have hb : ∃ b1 b2, b = b1 ++ pat ++ b2 := by
    unfold isInfix at h
    clear a c
    induction b with
    | nil =>
      rw [findIdx] at h
      split at h
      · rename_i hp
        have : pat = [] := by simpa using hp
        exact ⟨[], [], by simp [this]⟩
      · cases h
    | cons x t ih =>
      rw [findIdx] at h
      split at h
      · rename_i hp
        obtain ⟨r, hr⟩ := List.isPrefixOf_iff_prefix.mp hp
        exact ⟨[], r, by simp [hr]⟩
      · cases hf : findIdx pat t with
        | none => rw [hf] at h; cases h
        | some n =>
          obtain ⟨b1, b2, hb⟩ := ih (by rw [hf]; rfl)
          exact ⟨x :: b1, b2, by simp [hb]⟩
  obtain ⟨b1, b2, rfl⟩ := hb
  have := isInfix_of_decomp pat (a ++ b1) (b2 ++ c)
  simpa [List.append_assoc] using this

/-! ### `List.find?` when one element's verdict changes to true -/

theorem find?_or_eq {α} [DecidableEq α] (p p' : α → Bool) (x : α) (l : List α)
    (hp' : ∀ a, p' a = (p a || decide (a = x))) (hx : x ∈ l) (h : ∀ y, l.find? p = some y → y = x) :
    l.find? p' = some x := by
  induction l with
  | nil => cases hx
  | cons a t ih =>
    rw [List.find?_cons]
    by_cases hax : a = x
    · simp [hp', hax]
    · have hpa : p a = false := by
        cases hpa : p a
        · rfl
        · exact absurd (h a (by rw [List.find?_cons, hpa])) hax
      have hp'a : p' a = false := by simp [hp', hpa, hax]
      rw [hp'a]
      exact ih ((List.mem_cons.mp hx).resolve_left (Ne.symm hax))
        (fun y hy => h y (by rw [List.find?_cons, hpa]; exact hy))

/-! ### picking the config file -/

theorem pick_mem (w : World) : pickConfigFile w ∈ Gen.configCandidates := by
  unfold pickConfigFile
  split
  · rename_i f h
    exact List.mem_of_find?_eq_some h
  · split
    · rename_i f h
      exact List.mem_of_find?_eq_some h
    · decide

/-- the picked file exists, or nothing exists and it is the fallback -/
theorem pick_exists_or_fallback (w : World) :
    w.exists_ (pickConfigFile w) = true ∨
    (pickConfigFile w = Gen.configFallback ∧ ∀ f ∈ Gen.configCandidates, w.exists_ f = false) := by
  unfold pickConfigFile
  split
  · rename_i f h
    left
    have := List.find?_some h
    have hs : w f = .hasSection := by simpa using this
    simp [World.exists_, hs]
  · split
    · rename_i f h
      left
      exact List.find?_some h
    · rename_i h
      right
      refine ⟨rfl, fun f hf => ?_⟩
      have := List.find?_eq_none.mp h f hf
      simpa using this

/-- once the picked file holds a section and nothing else changed, it is picked again -/
theorem pick_stable (w w' : World) (hsame : ∀ g, g ≠ pickConfigFile w → w' g = w g)
    (hsec : w' (pickConfigFile w) = .hasSection) : pickConfigFile w' = pickConfigFile w := by
  have hp' : ∀ a, (w' a == FileState.hasSection) = ((w a == FileState.hasSection) || decide (a = pickConfigFile w)) := by
    intro a
    by_cases ha : a = pickConfigFile w
    · subst ha
      simp [hsec]
    · rw [hsame a ha]
      simp [ha]
  have hfirst : Gen.configCandidates.find? (fun f => w' f == .hasSection) = some (pickConfigFile w) := by
    refine find?_or_eq _ _ _ _ hp' (pick_mem w) fun f hf => ?_
    unfold pickConfigFile
    rw [hf]
  show (match Gen.configCandidates.find? (fun f => w' f == .hasSection) with
    | some f => f
    | none => _) = _
  rw [hfirst]

/-! ### the written file is recognised as holding a section -/

theorem markers_in_pre_baseOf (name : Str) :
    isInfix "bumpver]".toList (preOf (baseOf name)) = true ∧
    isInfix "current_version".toList (preOf (baseOf name)) = true := (base_templates _ (baseOf_mem name)).2

theorem classify_hasSection (d : Str) (h1 : isInfix "bumpver]".toList d = true)
    (h2 : isInfix "current_version".toList d = true) : classify (some d) = .hasSection := by
  cases d with
  | nil => exact absurd h1 (by decide)
  | cons c t =>
    show (if (isInfix "bumpver]".toList (c :: t) || isInfix "pycalver]".toList (c :: t)) &&
        isInfix "current_version".toList (c :: t) then FileState.hasSection else FileState.unrelated) = _
    rw [h1, h2]
    rfl

theorem candidates_format :
    ∀ f ∈ Gen.configCandidates, (configFormat f == "cfg".toList || configFormat f == "toml".toList) = true := by
  decide


/-! ### lines of a concatenation of newline-terminated chunks -/

/-- the lines completed while scanning `a`, and the unfinished last line (reversed) -/
def scanLines : Str → Str → List Str × Str
  | cur, [] => ([], cur)
  | cur, c :: r =>
    if isLineBreak c then ((cur.reverse :: (scanLines [] r).1), (scanLines [] r).2)
    else scanLines (c :: cur) r

theorem splitlinesGo_append (a b cur : Str) (ha : a.contains '\r' = false) :
    splitlinesGo false cur (a ++ b) = (scanLines cur a).1 ++ splitlinesGo false (scanLines cur a).2 b := by
  induction a generalizing cur with
  | nil => rfl
  | cons c r ih =>
    simp only [List.contains_cons, Bool.or_eq_false_iff] at ha
    obtain ⟨hc, hr⟩ := ha
    have hcr : (c == '\r') = false := by
      cases h : (c == '\r')
      · rfl
      · have : c = '\r' := by simpa using h
        subst this
        simp at hc
    rw [List.cons_append, splitlinesGo, scanLines]
    simp only [Bool.and_false, Bool.false_eq_true, if_false, hcr]
    split
    · simp only [List.cons_append]
      rw [ih _ hr]
    · exact ih _ hr

/-- a chunk without `\r` whose last line is terminated -/
def completeB (a : Str) : Bool := !a.contains '\r' && (scanLines [] a).2.isEmpty

theorem pySplitlines_append (a b : Str) (h : completeB a = true) :
    pySplitlines (a ++ b) = pySplitlines a ++ pySplitlines b := by
  simp only [completeB, Bool.and_eq_true, Bool.not_eq_true', List.isEmpty_iff] at h
  obtain ⟨h1, h2⟩ := h
  have e1 := splitlinesGo_append a b [] h1
  have e2 := splitlinesGo_append a [] [] h1
  rw [h2] at e1 e2
  rw [List.append_nil] at e2
  unfold pySplitlines
  rw [e1, e2]
  simp [splitlinesGo]

theorem pySplitlines_appendExisting (w : World) (table : List (Str × Str))
    (h : ∀ kv ∈ table, completeB kv.2 = true) (b : Str) :
    pySplitlines (appendExisting w table ++ b) =
      (table.filter (fun kv => w.exists_ kv.1)).flatMap (fun kv => pySplitlines kv.2) ++ pySplitlines b := by
  induction table with
  | nil => rfl
  | cons kv rest ih =>
    obtain ⟨f, c⟩ := kv
    have hrest := ih (fun kv hkv => h kv (by simp [hkv]))
    rw [appendExisting]
    cases hf : w.exists_ f
    · simp only [Bool.false_eq_true, if_false, List.nil_append, List.filter_cons, hf]
      exact hrest
    · simp only [if_true, List.filter_cons, hf, List.flatMap_cons, List.append_assoc]
      rw [pySplitlines_append c _ (h (f, c) (by simp)), hrest]

/-! ### what "well-formed" means for the default text -/

/-- the one section header of the dialect: `[tool.bumpver]` in pyproject.toml, `[bumpver]` elsewhere -/
def sectionHeader (name : Str) : Str :=
  if name == "pyproject.toml".toList then "[tool.bumpver]".toList else "[bumpver]".toList

/-- the header of the file_patterns table in the dialect of the config file -/
def patternsHeader (name : Str) : Str :=
  if configFormat name == "cfg".toList then "[bumpver:file_patterns]".toList
  else if name == "pyproject.toml".toList then "[tool.bumpver.file_patterns]".toList
  else "[bumpver.file_patterns]".toList

/-- the first line of the file_patterns entry for the config file itself -/
def selfEntry (name : Str) : Str :=
  if configFormat name == "cfg".toList then name ++ " =".toList
  else "\"".toList ++ name ++ "\" = [".toList

/-- a line carrying the search pattern for the config file's own `current_version` line -/
def isVersionPatternLine (l : Str) : Bool := isInfix "current_version = \"{version}\"".toList l

/-- the lines after the `current_version` line: no further config-section header; the
    file_patterns table of the dialect; after its header an entry for the config file itself whose
    first pattern is the `current_version` pattern -/
def RestWellFormed (name : Str) (rest : Str) : Prop :=
  (∀ l ∈ pySplitlines rest, isConfigHeader l = false) ∧
  ∃ before pat after, pySplitlines rest = before ++ [selfEntry name, pat] ++ after ∧
    patternsHeader name ∈ before ∧ isVersionPatternLine pat = true

/-- the formatted base template after the closing quote of the initial version -/
def postRest (name : Str) : Str := (postOf (baseOf name)).drop 2

/-- closed facts about the three base templates (evaluated once per candidate file) -/
def baseFacts (name : Str) : Bool :=
  preOf (baseOf name) == sectionHeader name ++ "\ncurrent_version = \"".toList &&
  (postOf (baseOf name)).take 2 == "\"\n".toList &&
  completeB (postRest name) &&
  (pySplitlines (postRest name)).all (fun l => !isConfigHeader l) &&
  (pySplitlines (postRest name)).contains (patternsHeader name)

/-- closed facts about a chunk: terminated lines, none of them a config-section header -/
def chunkOk (c : Str) : Bool := completeB c && (pySplitlines c).all (fun l => !isConfigHeader l)

/-- the chunk for the config file itself starts with its entry line and the version pattern -/
def selfChunkOk (name : Str) (c : Str) : Bool :=
  match pySplitlines c with
  | l :: pat :: _ => l == selfEntry name && isVersionPatternLine pat
  | _ => false

/-- the closed facts about templates, tables and fallback entries, in one statement: the kernel converts the
    generated tables once per declaration -/
theorem default_text_facts :
    (∀ name ∈ Gen.configCandidates, baseFacts name = true) ∧
    ((∀ kv ∈ Gen.defaultPatternStrsCfg, chunkOk kv.2 = true) ∧ (∀ kv ∈ Gen.defaultPatternStrsToml, chunkOk kv.2 = true) ∧
      chunkOk Gen.fallbackStrCfg = true ∧ chunkOk Gen.fallbackStrToml = true) ∧
    (∀ name ∈ Gen.configCandidates,
      (match lookup name (tableOf name) with | some c => selfChunkOk name c | none => false) = true) ∧
    selfChunkOk Gen.configFallback (fallbackOf Gen.configFallback) = true := by
  decide +kernel

theorem baseFacts_all : ∀ name ∈ Gen.configCandidates, baseFacts name = true := default_text_facts.1

theorem tableOf_chunks (name : Str) : ∀ kv ∈ tableOf name, chunkOk kv.2 = true := by
  obtain ⟨h1, h2, _, _⟩ := default_text_facts.2.1
  unfold tableOf
  split
  · exact h1
  · exact h2

theorem fallbackOf_chunk (name : Str) : chunkOk (fallbackOf name) = true := by
  obtain ⟨_, _, h3, h4⟩ := default_text_facts.2.1
  unfold fallbackOf
  split
  · exact h3
  · exact h4

theorem chunkOk_parts (c : Str) (h : chunkOk c = true) :
    completeB c = true ∧ ∀ l ∈ pySplitlines c, isConfigHeader l = false := by
  simp only [chunkOk, Bool.and_eq_true, List.all_eq_true, Bool.not_eq_true'] at h
  exact h

theorem selfChunk_lines (name c : Str) (h : selfChunkOk name c = true) :
    ∃ pat more, pySplitlines c = selfEntry name :: pat :: more ∧ isVersionPatternLine pat = true := by
  unfold selfChunkOk at h
  split at h
  · rename_i l pat more heq
    simp only [Bool.and_eq_true, beq_iff_eq] at h
    exact ⟨pat, more, by rw [heq, h.1], h.2⟩
  · cases h

theorem lines_newline : pySplitlines "\n".toList = [[]] := by decide

theorem rest_wellformed (w : World) (name : Str) (hn : name ∈ Gen.configCandidates)
    (hex : w.exists_ name = true ∨
      (name = Gen.configFallback ∧ ∀ f ∈ Gen.configCandidates, w.exists_ f = false)) :
    RestWellFormed name (postRest name ++ tailOf w name) := by
  have hb := baseFacts_all name hn
  simp only [baseFacts, Bool.and_eq_true, List.all_eq_true, Bool.not_eq_true'] at hb
  obtain ⟨⟨⟨⟨_, _⟩, hcomp⟩, hpostok⟩, hhdr⟩ := hb
  have hhdr' : patternsHeader name ∈ pySplitlines (postRest name) := List.contains_iff_mem.mp hhdr
  -- the lines of the whole
  let F : Str := (if Gen.supportedConfigs.any (fun f => w.exists_ f) then [] else fallbackOf name) ++ "\n".toList
  have hlines : pySplitlines (postRest name ++ tailOf w name) =
      pySplitlines (postRest name) ++
      (((tableOf name).filter (fun kv => w.exists_ kv.1)).flatMap (fun kv => pySplitlines kv.2) ++ pySplitlines F) := by
    rw [pySplitlines_append _ _ hcomp]
    unfold tailOf
    rw [pySplitlines_appendExisting w (tableOf name) (fun kv hkv => (chunkOk_parts _ (tableOf_chunks name kv hkv)).1)]
  have hF : pySplitlines F = (if Gen.supportedConfigs.any (fun f => w.exists_ f) then [] else pySplitlines (fallbackOf name)) ++ [[]] := by
    show pySplitlines ((if Gen.supportedConfigs.any (fun f => w.exists_ f) then [] else fallbackOf name) ++ "\n".toList) = _
    split
    · exact lines_newline
    · rw [pySplitlines_append _ _ (chunkOk_parts _ (fallbackOf_chunk name)).1, lines_newline]
  constructor
  · intro l hl
    rw [hlines] at hl
    rcases List.mem_append.mp hl with hl | hl
    · exact hpostok l hl
    · rcases List.mem_append.mp hl with hl | hl
      · obtain ⟨kv, hkv, hl⟩ := List.mem_flatMap.mp hl
        exact (chunkOk_parts _ (tableOf_chunks name kv (List.mem_filter.mp hkv).1)).2 l hl
      · rw [hF] at hl
        rcases List.mem_append.mp hl with hl | hl
        · split at hl
          · cases hl
          · exact (chunkOk_parts _ (fallbackOf_chunk name)).2 l hl
        · have : l = [] := by simpa using hl
          subst this
          decide
  · rcases hex with hex | ⟨hfb, hnone⟩
    · -- the config file exists: its own chunk is appended
      have hsc := default_text_facts.2.2.1 name hn
      cases hlk : lookup name (tableOf name) with
      | none => rw [hlk] at hsc; cases hsc
      | some c =>
        rw [hlk] at hsc
        obtain ⟨pat, more, hc, hpat⟩ := selfChunk_lines name c hsc
        have hmem : (name, c) ∈ (tableOf name).filter (fun kv => w.exists_ kv.1) :=
          List.mem_filter.mpr ⟨lookup_mem hlk, hex⟩
        obtain ⟨s, t, hst⟩ := List.append_of_mem hmem
        refine ⟨pySplitlines (postRest name) ++ s.flatMap (fun kv => pySplitlines kv.2), pat,
          more ++ t.flatMap (fun kv => pySplitlines kv.2) ++ pySplitlines F, ?_, ?_, hpat⟩
        · rw [hlines, hst]
          simp only [List.flatMap_append, List.flatMap_cons, hc, List.append_assoc, List.cons_append, List.nil_append]
        · exact List.mem_append_left _ hhdr'
    · -- nothing exists: the fallback entry for bumpver.toml is appended
      have hany : Gen.supportedConfigs.any (fun f => w.exists_ f) = false := by
        cases h : Gen.supportedConfigs.any (fun f => w.exists_ f)
        · rfl
        · obtain ⟨f, hf, hw⟩ := List.any_eq_true.mp h
          rw [hnone f ((by decide : ∀ f ∈ Gen.supportedConfigs, f ∈ Gen.configCandidates) f hf)] at hw
          cases hw
      have hfc := default_text_facts.2.2.2
      rw [← hfb] at hfc
      obtain ⟨pat, more, hc, hpat⟩ := selfChunk_lines name _ hfc
      refine ⟨pySplitlines (postRest name) ++ ((tableOf name).filter (fun kv => w.exists_ kv.1)).flatMap (fun kv => pySplitlines kv.2),
        pat, more ++ [[]], ?_, ?_, hpat⟩
      · rw [hlines, hF, hany]
        simp only [Bool.false_eq_true, if_false, hc, List.append_assoc, List.cons_append, List.nil_append]
      · exact List.mem_append_left _ hhdr'

end BV
