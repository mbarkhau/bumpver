/-
  Proofs/Tie_parsePatternFields.lean — the definition GENERATED from the Python source of
  `v2version._parse_pattern_fields` (Gen/F_parsePatternFields.lean) equals the hand model `BV.parsePatternFields` on ALL
  raw patterns (ValueError exactly when the model reports an error).

  Python: `parts = list(PATTERN_PART_FIELDS.keys()); parts.sort(key=len, reverse=True)`, then two nested loops that fill
  the dict `fields_by_index[(segment_index, part_index)] = field` (a later assignment to the same key overwrites the
  value, the key keeps its place), then `[field for _, field in sorted(fields_by_index.items())]`.
  Model : `sortByLenDesc`, a `flatMap`/`filterMap` list of entries, and a fold of `insertIdx` (insertion into a sorted
  list that REPLACES an entry with the same key).

  The proof: the loops build `E.foldl dictStep []` for the model's entry list `E` (`inner_loop`, `outer_loop`; no KeyError:
  every sorted part name is a key of the table); and sorting the items of that dict is the model's fold
  (`sorted_dict_fields`): the dict and sort primitives are those of Gen/PatternsPrims.lean under other names, so
  `PyP.sortBy_dictOfPairs` (Proofs/Tie_patternsSort.lean) applies, and `insertIdx` is `PyP.insRepl` on `Nat` keys.
-/
import BumpverVerif.Gen.F_parsePatternFields
import BumpverVerif.Proofs.Tie_formatPartValues
import BumpverVerif.Proofs.Tie_parseSegtree
import BumpverVerif.Proofs.Tie_iterFlatSegtree
import BumpverVerif.Proofs.Tie_patternsSort
import BumpverVerif.Proofs.PatternLemmas
namespace BV.TieF
open GenF GenF.FP
set_option linter.unusedSimpArgs false

abbrev IE := PyP.IKey × Str
abbrev NE := (Nat × Nat) × Str

def toIK (k : Nat × Nat) : PyP.IKey := (Int.ofNat k.1, Int.ofNat k.2)
def toI (x : NE) : IE := (toIK x.1, x.2)

theorem toIK_inj {a b : Nat × Nat} (h : toIK a = toIK b) : a = b := by
  rcases a with ⟨a1, a2⟩; rcases b with ⟨b1, b2⟩
  simp only [toIK, Prod.mk.injEq, Int.ofNat_eq_natCast, Int.natCast_inj] at h
  simp [h.1, h.2]

theorem dictSet_eq {κ ν : Type} [BEq κ] (k : κ) (v : ν) : ∀ (d : List (κ × ν)), dictSet d k v = PyP.dictSet k v d
  | [] => rfl
  | (k', v') :: rest => by simp only [dictSet, PyP.dictSet, dictSet_eq k v rest]

theorem pairLt_eq (a b : PyP.IKey) : pairLt a b = PyP.PyOrd.lt a b := by
  rw [Bool.eq_iff_iff, PyP.ltK_iff]
  simp [pairLt]

theorem insertIdx_toI (x : NE) : ∀ (l : List NE), (insertIdx x l).map toI = PyP.insRepl (toI x) (l.map toI)
  | [] => rfl
  | y :: ys => by
    have hEq : (x.1 == y.1) = ((toI y).1 == (toI x).1) := by
      rw [Bool.eq_iff_iff, beq_iff_eq, beq_iff_eq]
      exact ⟨fun e => by simp only [toI, e], fun e => (toIK_inj e).symm⟩
    have hLt : (decide (x.1.1 < y.1.1) || (x.1.1 == y.1.1 && decide (x.1.2 < y.1.2))) =
        PyP.PyOrd.lt (toI x).1 (toI y).1 := by
      rw [Bool.eq_iff_iff, PyP.ltK_iff]
      simp only [toI, toIK, Bool.or_eq_true, decide_eq_true_eq, Bool.and_eq_true, beq_iff_eq, Int.ofNat_eq_natCast]
      omega
    simp only [insertIdx, PyP.insRepl, List.map_cons, hEq, hLt]
    split
    · rfl
    · split
      · rfl
      · rw [List.map_cons, insertIdx_toI x ys]

theorem foldl_insertIdx_toI : ∀ (E acc : List NE), (E.foldl (fun acc x => insertIdx x acc) acc).map toI =
    (E.map toI).foldl (fun acc x => PyP.insRepl x acc) (acc.map toI)
  | [], _ => rfl
  | x :: xs, acc => by rw [List.foldl_cons, foldl_insertIdx_toI xs, insertIdx_toI]; rfl

/-- the dict the Python loops build from the model's entry list -/
def dictStep (d : List IE) (x : NE) : List IE := dictSet d (toIK x.1) x.2

/-- `[field for _, field in sorted(fields_by_index.items())]` = the model's sorted entry list, fields only -/
theorem sorted_dict_fields (E : List NE) :
    (pySortedItems (E.foldl dictStep [])).map (·.2) = (E.foldl (fun acc x => insertIdx x acc) []).map (·.2) := by
  have hd : E.foldl dictStep [] = PyP.dictOfPairs (E.map toI) := by
    simp only [PyP.dictOfPairs, List.foldl_map]
    congr 1
    funext d x
    exact dictSet_eq _ _ _
  have hs : pySortedItems (E.foldl dictStep []) = (E.foldl (fun acc x => insertIdx x acc) []).map toI := by
    rw [foldl_insertIdx_toI E [], hd, List.map_nil,
      ← PyP.sortBy_dictOfPairs (fun a b => pairLt a.1 b.1) (fun a b _ => pairLt_eq a.1 b.1)]
    simp only [pySortedItems, insert_eq_of_eqns _ insertByPairKey (fun _ => rfl) (fun _ _ _ => rfl) _
      (PyP.insertSortedBy fun a b : IE => pairLt a.1 b.1) (fun _ => rfl) (fun _ _ _ => rfl) (fun _ _ => Iff.rfl)]
  rw [hs, List.map_map]
  rfl

/-! ### the two nested loops build that dict -/

/-- the model's entries for one segment -/
def innerEntries (parts : List Str) (si : Str × Nat) : List NE :=
  parts.filterMap (fun part =>
    match findIdx part si.1 with
    | some i => (lookup part Gen.partFields).map (fun f => ((si.2, i), f))
    | none => none)

theorem inner_loop (si : Str × Nat) (g : List IE → Str → Except PyExc (List IE))
    (hg : ∀ d part, g d part =
      if pyFind si.1 part ≥ 0 then
        bindE (dictGet Gen.partFields part) fun f => .ok (dictSet d (Int.ofNat si.2, pyFind si.1 part) f)
      else .ok d) :
    ∀ (parts : List Str) (d : List IE), (∀ part ∈ parts, (lookup part Gen.partFields).isSome = true) →
      foldlE g d parts = .ok ((innerEntries parts si).foldl dictStep d) := by
  intro parts
  induction parts with
  | nil => intro d _; simp [foldlE, innerEntries]
  | cons part rest ih =>
    intro d hp
    obtain ⟨f, hf⟩ := Option.isSome_iff_exists.mp (hp part (by simp))
    have hstep : g d part = .ok ((innerEntries [part] si).foldl dictStep d) := by
      rw [hg]
      cases hfi : findIdx part si.1 with
      | none => simp [pyFind, innerEntries, hfi]
      | some i =>
        have : (Int.ofNat i ≥ 0) := by simp
        simp only [pyFind, innerEntries, List.filterMap_cons, List.filterMap_nil, hfi, this, if_true,
          dictGet_eq_lookup, hf, bindE_ok', Option.map_some, List.foldl_cons, List.foldl_nil, dictStep, toIK]
    rw [foldlE, hstep]
    simp only []
    rw [ih _ (fun p hm => hp p (by simp [hm]))]
    have : innerEntries (part :: rest) si = innerEntries [part] si ++ innerEntries rest si := by
      simp only [innerEntries, List.filterMap_cons, List.filterMap_nil]
      split <;> simp
    rw [this, List.foldl_append]

theorem outer_loop (parts : List Str) (G : List IE → Str × Nat → Except PyExc (List IE))
    (hG : ∀ d si, G d si = .ok ((innerEntries parts si).foldl dictStep d)) :
    ∀ (sis : List (Str × Nat)) (d : List IE),
      foldlE G d sis = .ok ((sis.flatMap (innerEntries parts)).foldl dictStep d) := by
  intro sis
  induction sis with
  | nil => intro d; simp [foldlE]
  | cons si rest ih =>
    intro d
    rw [foldlE, hG]
    simp only []
    rw [ih, List.flatMap_cons, List.foldl_append]

/-- `parts.sort(key=len, reverse=True)` is the model's `sortByLenDesc` -/
theorem pySortedByDesc_len (key : Str → Int) (hkey : ∀ x y, key x > key y ↔ x.length > y.length) (l : List Str) :
    pySortedByDesc key l = sortByLenDesc l :=
  pySortedByDesc_eq key _ insertByLenDesc (fun _ => rfl) (fun _ _ _ => rfl) hkey l

/-- `_parse_pattern_fields(raw_pattern)` for ALL strings -/
theorem _root_.BV.tie_parsePatternFields (raw : Str) : GenF.parsePatternFields raw = absE (parsePatternFields raw) := by
  simp only [GenF.parsePatternFields, tie_parseSegtree, parsePatternFields]
  rw [pySortedByDesc_len _ (by intro x y; simp only [Int.ofNat_eq_natCast]; omega)]
  cases parseSegtree raw with
  | error e => simp [absE]
  | ok items =>
    simp only [absE, bindE_ok', tie_iterFlatSegtree]
    rw [outer_loop (sortByLenDesc (Gen.partFields.map (·.1))) _ (by
      intro d si
      rw [inner_loop si _ (by
        intro d part
        simp only [decide_eq_true_eq] <;>
          (by_cases hge : pyFind si.1 part ≥ 0 <;> simp [hge] <;> (try (intro hlt; omega)) <;> omega))
        _ _ (fun part h => (lookup_isSome_iff _ _).2 (mem_sortByLenDesc.mp h))]
      rfl)]
    simp only [bindE_ok']
    rw [sorted_dict_fields]
    rfl

end BV.TieF
