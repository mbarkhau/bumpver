/-
  Proofs/Tie_replacePatternParts.lean — the definition GENERATED from the Python source of
  `v2patterns._replace_pattern_parts` (Gen/F_replacePatternParts.lean) against the hand model
  `BV.replacePatternParts` (Model/V2Patterns.lean: `bracketsToGroups`, `sortParts`, `substParts`).

  `tie_replacePatternParts`: for every fuel ≥ `replaceFuel pattern` (≤ 3·len(pattern)+1, `replaceFuel_le`) the
  generated function returns `some` of the model's result.  Three pieces:
    * the `while True` / `re.subn` loop (the two regex literals are translated to the model primitive
      `subBracket '[' "(?:"` / `subBracket ']' ")?"`): every round that substitutes removes a bracket character
      (`subBracketGo_count`, `bracketCount_round`), so the loop ends within #brackets + 1 rounds and computes
      `bracketsToGroups` (`whileTrue_brackets`);
    * `sorted(dict(_iter_part_patterns(pattern)).items())` is `sortParts` of the model's items
      (`sorted_dict_toPair`, from `PyP.sorted_dictOfPairs` and `insertSorted_map`);
    * the right-to-left substitution loop with Python slices is `substParts` (`foldl_abs`).
  Hypotheses `hkeys` / `hne`: those of `tie_iterPartPatterns` (the generated callee is called as generated).
-/
import BumpverVerif.Gen.F_replacePatternParts
import BumpverVerif.Proofs.Tie_iterPartPatterns
import BumpverVerif.Proofs.Tie_patternsSort
set_option linter.unusedSimpArgs false
namespace BV
open PyP

/-! ### the `while True` / `re.subn` bracket loop terminates: every round that substitutes removes a bracket -/

/-- one `re.subn` pass: a character `x` that does not occur in the replacement text is only ever removed,
    and exactly `n` (the substitution count) copies of the bracket itself are removed -/
theorem subBracketGo_count (b : Char) (repl : Str) (x : Char) (hr : repl.count x = 0) (st : Bool) (s : Str) :
    (subBracketGo b repl st s).1.count x + (if x = b then (subBracketGo b repl st s).2 else 0) = s.count x := by
  -- along the cases of `subBracketGo`, separately for the bracket itself and for any other character
  by_cases hx : x = b
  · subst hx
    fun_induction subBracketGo x repl st s <;> simp_all [List.count_cons, List.count_append] <;> omega
  · have hx' : ¬ b = x := fun e => hx e.symm
    fun_induction subBracketGo b repl st s <;> simp_all [List.count_cons, List.count_append]

/-- one `re.subn` pass: every substitution replaces one character by the replacement text -/
theorem subBracketGo_length (b : Char) (repl : Str) (st : Bool) (s : Str) :
    (subBracketGo b repl st s).1.length + (subBracketGo b repl st s).2 =
      s.length + (subBracketGo b repl st s).2 * repl.length := by
  fun_induction subBracketGo b repl st s <;> simp_all [Nat.add_mul] <;> omega

theorem bracket_round {s s1 s2 : Str} {n m : Nat} (h1 : subBracket '[' "(?:".toList s = (s1, n))
    (h2 : subBracket ']' ")?".toList s1 = (s2, m)) :
    s2.count '[' + n = s.count '[' ∧ s2.count ']' + m = s.count ']' ∧ s2.length = s.length + 2 * n + m := by
  have a1 := subBracketGo_count '[' "(?:".toList '[' (by decide) true s
  have a2 := subBracketGo_count '[' "(?:".toList ']' (by decide) true s
  have b1 := subBracketGo_count ']' ")?".toList '[' (by decide) true s1
  have b2 := subBracketGo_count ']' ")?".toList ']' (by decide) true s1
  have l1 := subBracketGo_length '[' "(?:".toList true s
  have l2 := subBracketGo_length ']' ")?".toList true s1
  have e1 : ¬ (']' = '[') := by decide
  have e2 : ¬ ('[' = ']') := by decide
  have h3 : "(?:".toList.length = 3 := rfl
  have h4 : ")?".toList.length = 2 := rfl
  unfold subBracket at h1 h2
  simp only [h1, h2, if_true, e1, e2, if_false, Nat.add_zero, h3, h4] at a1 a2 b1 b2 l1 l2
  omega

/-- number of bracket characters: the termination measure of the loop -/
def bracketCount (s : Str) : Nat := s.count '[' + s.count ']'

theorem bracketCount_le (s : Str) : bracketCount s ≤ s.length := by
  unfold bracketCount
  induction s with
  | nil => simp
  | cons c cs ih =>
    simp only [List.count_cons, List.length_cons]
    by_cases h1 : c = '[' <;> by_cases h2 : c = ']' <;> simp_all <;> omega

/-- one round of the loop body removes `n + m` bracket characters -/
theorem bracketCount_round (s : Str) :
    bracketCount (subBracket ']' ")?".toList (subBracket '[' "(?:".toList s).1).1
      + ((subBracket '[' "(?:".toList s).2 + (subBracket ']' ")?".toList (subBracket '[' "(?:".toList s).1).2)
      = bracketCount s := by
  have := bracket_round (s := s) rfl rfl
  simp only [bracketCount, subBracket] at this ⊢
  omega

/-- the `while True` loop against the model's fuel recursion, for a loop body that behaves as specified;
    two independent fuels, both at least (number of brackets) + 1 -/
theorem whileTrue_brackets (body : Str → Option (Step Str))
    (hbody : ∀ s, body s =
      if (subBracket '[' "(?:".toList s).2 + (subBracket ']' ")?".toList (subBracket '[' "(?:".toList s).1).2 == 0
      then some (.brk (subBracket ']' ")?".toList (subBracket '[' "(?:".toList s).1).1)
      else some (.next (subBracket ']' ")?".toList (subBracket '[' "(?:".toList s).1).1)) :
    ∀ (fG fM : Nat) (s : Str), bracketCount s + 1 ≤ fG → bracketCount s + 1 ≤ fM →
      whileTrue body fG s = some (bracketsToGroups fM s) := by
  intro fG
  induction fG with
  | zero => intro fM s h; omega
  | succ fG ih =>
    intro fM s hG hM
    cases fM with
    | zero => omega
    | succ fM =>
      have hr := bracketCount_round s
      simp only [whileTrue, hbody, bracketsToGroups]
      by_cases hz : ((subBracket '[' "(?:".toList s).2 +
          (subBracket ']' ")?".toList (subBracket '[' "(?:".toList s).1).2 == 0) = true
      · simp only [hz, if_true]
      · simp only [hz, Bool.false_eq_true, if_false]
        simp only [beq_iff_eq] at hz
        exact ih fM _ (by omega) (by omega)

/-! ### a closed bound for the fuel: the rewritten pattern is at most three times as long -/

/-- potential that one round of the loop keeps: length + 2·#`[` + #`]` -/
def bracketPot (s : Str) : Nat := s.length + 2 * s.count '[' + s.count ']'

theorem bracketPot_round (s : Str) :
    bracketPot (subBracket ']' ")?".toList (subBracket '[' "(?:".toList s).1).1 = bracketPot s := by
  have := bracket_round (s := s) rfl rfl
  simp only [bracketPot, subBracket] at this ⊢
  omega

theorem bracketsToGroups_pot : ∀ (f : Nat) (s : Str), bracketPot (bracketsToGroups f s) = bracketPot s
  | 0, _ => rfl
  | f + 1, s => by
    simp only [bracketsToGroups]
    split
    · exact bracketPot_round s
    · rw [bracketsToGroups_pot f, bracketPot_round s]

theorem bracketsToGroups_length_le (f : Nat) (s : Str) : (bracketsToGroups f s).length ≤ 3 * s.length := by
  have h1 := bracketsToGroups_pot f s
  have h2 := bracketCount_le s
  unfold bracketPot at h1
  unfold bracketCount at h2
  omega

/-! ### `sorted(dict(_iter_part_patterns(pattern)).items())` is the model's `sortParts` -/

theorem insertSorted_map (x : PosPart) : ∀ l : List PosPart,
    (insertSorted x l).map PosPart.toPair = insRepl x.toPair (l.map PosPart.toPair)
  | [] => rfl
  | y :: ys => by
    have hEq : (y.toPair.1 == x.toPair.1) = keyEq x y := by
      rw [Bool.eq_iff_iff]
      simp only [PosPart.toPair, keyEq, beq_iff_eq, Prod.mk.injEq, Bool.and_eq_true]
      omega
    have hLt : PyOrd.lt x.toPair.1 y.toPair.1 = keyLt x y := by
      rw [Bool.eq_iff_iff, ltK_iff]
      simp only [PosPart.toPair, keyLt, Bool.or_eq_true, Bool.and_eq_true, decide_eq_true_eq, beq_iff_eq]
      omega
    simp only [insertSorted, List.map_cons, insRepl, hEq, hLt]
    by_cases h1 : keyEq x y = true
    · simp [h1]
    · by_cases h2 : keyLt x y = true
      · simp [h1, h2]
      · simp only [h1, h2, Bool.false_eq_true, if_false, List.map_cons, insertSorted_map x ys]

theorem sortParts_map_go : ∀ (L A : List PosPart),
    (L.foldl (fun acc x => insertSorted x acc) A).map PosPart.toPair =
      (L.map PosPart.toPair).foldl (fun acc x => insRepl x acc) (A.map PosPart.toPair)
  | [], _ => rfl
  | x :: xs, A => by
    simp only [List.foldl_cons, List.map_cons]
    rw [sortParts_map_go xs, insertSorted_map]

/-- what the generated code computes from the yielded items is the model's sorted list -/
theorem sorted_dict_toPair (L : List PosPart) :
    PyP.sorted (dictOfPairs (L.map PosPart.toPair)) = (sortParts L).map PosPart.toPair := by
  rw [sorted_dictOfPairs, sortParts, sortParts_map_go]
  rfl

theorem foldl_abs {σ τ α : Type} (g : σ → α → σ) (f : τ → α → τ) (abs : τ → σ) (xs : List α)
    (h : ∀ x ∈ xs, ∀ t, g (abs t) x = abs (f t x)) (t : τ) :
    xs.foldl g (abs t) = abs (xs.foldl f t) := by
  induction xs generalizing t with
  | nil => rfl
  | cons x xs ih =>
    simp only [List.foldl_cons, h x List.mem_cons_self t]
    exact ih (fun y hy => h y (List.mem_cons_of_mem _ hy)) _

/-- state of the generated substitution loop `(last_start_idx, result_pattern)` for the model's
    `(result, last_start)` -/
def substAbs (t : Str × Nat) : Int × Str := ((t.2 : Int), t.1)

/-- fuel that suffices for both loops of `_replace_pattern_parts` (and of `_iter_part_patterns` on the
    rewritten pattern) -/
def replaceFuel (pattern : Str) : Nat :=
  max (pattern.length + 1) ((bracketsToGroups (pattern.length + 1) pattern).length + 1)

/-- `3·len(pattern) + 1` rounds always suffice -/
theorem replaceFuel_le (pattern : Str) : replaceFuel pattern ≤ 3 * pattern.length + 1 := by
  unfold replaceFuel
  have := bracketsToGroups_length_le (pattern.length + 1) pattern
  omega

theorem tie_replacePatternParts (partPatterns partFields : List (Str × Str)) (fuel : Nat) (pattern : Str)
    (hkeys : ∀ pp ∈ partPatterns, (lookup pp.1 partFields).isSome = true)
    (hne : ∀ pp ∈ partPatterns, pp.1 ≠ [])
    (hfuel : replaceFuel pattern ≤ fuel) :
    GenF.replacePatternParts partPatterns partFields fuel pattern =
      some (replacePatternParts partPatterns partFields pattern) := by
  have hf1 : pattern.length + 1 ≤ fuel := Nat.le_trans (Nat.le_max_left _ _) hfuel
  have hf2 : (bracketsToGroups (pattern.length + 1) pattern).length + 1 ≤ fuel :=
    Nat.le_trans (Nat.le_max_right _ _) hfuel
  have hcnt := bracketCount_le pattern
  simp only [GenF.replacePatternParts]
  rw [whileTrue_brackets _ (fun s => by
    first
    | rfl
    -- the exit test written in another equivalent way (`_m + _n == 0`, `not (_n + _m)`)
    | (show (if _ then _ else _) = _
       split <;> split <;> first | rfl | (exfalso; simp_all <;> omega))) fuel (pattern.length + 1) pattern
    (by omega) (by omega)]
  simp only [tie_iterPartPatterns partPatterns partFields fuel _ hkeys hne hf2, sorted_dict_toPair,
    List.foldl_map]
  have hfold : ∀ (G : Int × Str → PosPart → Int × Str) (L : List PosPart) (t : Str × Nat),
      (∀ (x : PosPart) (t : Str × Nat), G (substAbs t) x =
        substAbs (if x.stop ≤ t.2 then (t.1.take x.start ++ x.text ++ t.1.drop x.stop, x.start) else t)) →
      (L.foldl G (substAbs t)).2 =
        (L.foldl (fun (acc : Str × Nat) it =>
          if it.stop ≤ acc.2 then (acc.1.take it.start ++ it.text ++ acc.1.drop it.stop, it.start) else acc) t).1 := by
    intro G L t hG
    rw [foldl_abs G _ substAbs L (fun x _ t => hG x t) t]
    rfl
  refine congrArg some (hfold _ _ (_, _) ?_)
  intro x t
  simp only [substAbs, PosPart.toPair, sliceTo_natCast, sliceFrom_natCast]
  by_cases h : x.stop ≤ t.2
  · -- the source may spell the test `end_idx <= last` or (with exchanged branches) `end_idx > last`
    have h1 : ((x.stop : Nat) : Int) ≤ (t.2 : Int) := by omega
    have h2 : ¬ ((t.2 : Int) < ((x.stop : Nat) : Int)) := by omega
    have h3 : ¬ (t.2 < x.stop) := by omega
    simp [h, h1, h2, h3]
  · have h1 : ¬ ((x.stop : Nat) : Int) ≤ (t.2 : Int) := by omega
    have h2 : (t.2 : Int) < ((x.stop : Nat) : Int) := by omega
    have h3 : t.2 < x.stop := by omega
    simp [h, h1, h2, h3]

end BV
