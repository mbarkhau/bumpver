/-
  Proofs/TokTie_Items.lean — a tree as a flat list of ITEMS (raw text / part token) with positions:
  `Pat.gtext` = the concatenated sources, `Pat.regexText` = the concatenated outputs, the tokens with their
  offsets (`toks`), substitution of all tokens right to left (`foldl_toks_reverse`), and the adjacency condition
  on items (`safeItemsK`): every occurrence of a part name lies inside a token (`occ_inside`).
  The adjacency condition `Pat.safeK` is stated on the pattern SOURCE text, `safeItemsK` on the text after escaping
  and the bracket rewrite (`safeItems_of_safeK`): whether a part name is a prefix of a text depends only on its
  leading run of name characters, and that run is the same before and after the two rewrites (`np_text_gtext`).
-/
import BumpverVerif.Proofs.TokTie_Text
import BumpverVerif.Proofs.TokTie_Sort
namespace BV

inductive Item
  | raw (s : Str)
  | tok (n : Str)

def Item.src : Item → Str
  | .raw s => s
  | .tok n => n

def Item.out : Item → Str
  | .raw s => s
  | .tok n => groupText n

def srcAll (l : List Item) : Str := l.flatMap Item.src
def outAll (l : List Item) : Str := l.flatMap Item.out

def Pat.items : Pat → List Item
  | .done => []
  | .lit c rest => .raw (regexLit c) :: Pat.items rest
  | .part n rest => .tok n :: Pat.items rest
  | .opt body rest => .raw "(?:".toList :: (Pat.items body ++ .raw ")?".toList :: Pat.items rest)

theorem srcAll_cons (x : Item) (l : List Item) : srcAll (x :: l) = x.src ++ srcAll l := by simp [srcAll]
theorem outAll_cons (x : Item) (l : List Item) : outAll (x :: l) = x.out ++ outAll l := by simp [outAll]
theorem srcAll_append (a b : List Item) : srcAll (a ++ b) = srcAll a ++ srcAll b := by simp [srcAll]
theorem outAll_append (a b : List Item) : outAll (a ++ b) = outAll a ++ outAll b := by simp [outAll]

theorem srcAll_items (p : Pat) : srcAll p.items = p.gtext := by
  induction p with
  | done => rfl
  | lit c rest ih => simp [Pat.items, Pat.gtext, srcAll_cons, Item.src, ih]
  | part n rest ih => simp [Pat.items, Pat.gtext, srcAll_cons, Item.src, ih]
  | opt body rest ihb ihr =>
    simp [Pat.items, Pat.gtext, srcAll_cons, srcAll_append, Item.src, ihb, ihr]

theorem outAll_items (p : Pat) : outAll p.items = p.regexText := by
  induction p with
  | done => rfl
  | lit c rest ih => simp [Pat.items, Pat.regexText, outAll_cons, Item.out, ih]
  | part n rest ih => simp [Pat.items, Pat.regexText, outAll_cons, Item.out, ih]
  | opt body rest ihb ihr =>
    simp [Pat.items, Pat.regexText, outAll_cons, outAll_append, Item.out, ihb, ihr]

/-! ### tokens and their positions -/

def plainTok (off : Nat) (n : Str) : PosPart :=
  { start := off, stop := off + n.length, name := n, text := groupText n }

def toks : Nat → List Item → List PosPart
  | _, [] => []
  | off, .raw s :: r => toks (off + s.length) r
  | off, .tok n :: r => plainTok off n :: toks (off + n.length) r

theorem mem_toks_cons_iff {x : Item} {r : List Item} {off : Nat} {t : PosPart} :
    t ∈ toks off (x :: r) ↔ (∃ n, x = .tok n ∧ t = plainTok off n) ∨ t ∈ toks (off + x.src.length) r := by
  cases x <;> simp [toks, Item.src]

theorem toks_facts (items : List Item) (off : Nat) :
    ∀ t ∈ toks off items, off ≤ t.start ∧ t.stop = t.start + t.name.length ∧
      t.stop ≤ off + (srcAll items).length ∧ Item.tok t.name ∈ items ∧ t = plainTok t.start t.name ∧
      t.name.isPrefixOf ((srcAll items).drop (t.start - off)) = true := by
  induction items generalizing off with
  | nil => intro t ht; cases ht
  | cons x r ih =>
    intro t ht
    rcases mem_toks_cons_iff.mp ht with ⟨n, rfl, rfl⟩ | ht'
    · refine ⟨Nat.le_refl _, rfl, ?_, List.mem_cons_self, rfl, ?_⟩
      · simp only [plainTok, srcAll_cons, Item.src, List.length_append]; omega
      · simp [plainTok, srcAll_cons, Item.src]
    · obtain ⟨h1, h2, h3, h4, h5, h6⟩ := ih _ t ht'
      refine ⟨by omega, h2, ?_, List.mem_cons_of_mem _ h4, h5, ?_⟩
      · simp only [srcAll_cons, List.length_append]; omega
      · have : t.start - off = x.src.length + (t.start - (off + x.src.length)) := by omega
        rw [srcAll_cons, this, ← List.drop_drop, List.drop_left]
        exact h6

theorem toks_pairwise (items : List Item) (off : Nat) :
    (toks off items).Pairwise (fun a b => a.stop ≤ b.start) := by
  induction items generalizing off with
  | nil => exact List.Pairwise.nil
  | cons x r ih =>
    cases x with
    | raw s => exact ih _
    | tok n =>
      simp only [toks]
      refine List.pairwise_cons.mpr ⟨fun t ht => ?_, ih _⟩
      have := (toks_facts r _ t ht).1
      simpa [plainTok] using this

theorem mem_toks_of_mem (items : List Item) (off : Nat) (n : Str) (h : Item.tok n ∈ items) :
    ∃ t ∈ toks off items, t.name = n := by
  induction items generalizing off with
  | nil => cases h
  | cons x r ih =>
    cases x with
    | raw s =>
      have e : Item.tok n ∈ r := by simpa using h
      obtain ⟨t, ht, hn⟩ := ih (off + s.length) e
      exact ⟨t, by simpa [toks] using ht, hn⟩
    | tok n' =>
      rcases List.mem_cons.mp h with e | e
      · cases e; exact ⟨plainTok off n, by simp [toks], rfl⟩
      · obtain ⟨t, ht, hn⟩ := ih (off + n'.length) e
        exact ⟨t, by simp [toks, ht], hn⟩

/-- substituting all tokens, rightmost first, yields the concatenated outputs -/
theorem foldr_toks (items : List Item) (pre : Str) (l0 : Nat)
    (h : pre.length + (srcAll items).length ≤ l0) :
    ∃ l, pre.length ≤ l ∧
      (toks pre.length items).foldr (fun it acc => substStep acc it) (pre ++ srcAll items, l0) =
        (pre ++ outAll items, l) := by
  induction items generalizing pre with
  | nil => exact ⟨l0, by simpa [srcAll] using h, by simp [toks, srcAll, outAll]⟩
  | cons x r ih =>
    cases x with
    | raw s =>
      simp only [srcAll_cons, outAll_cons, Item.src, Item.out, List.length_append] at h ⊢
      obtain ⟨l, hl, e⟩ := ih (pre ++ s) (by simp only [List.length_append]; omega)
      simp only [List.length_append, List.append_assoc] at hl e
      exact ⟨l, by omega, by simpa [toks] using e⟩
    | tok n =>
      simp only [srcAll_cons, outAll_cons, Item.src, Item.out, List.length_append] at h ⊢
      obtain ⟨l, hl, e⟩ := ih (pre ++ n) (by simp only [List.length_append]; omega)
      simp only [List.length_append, List.append_assoc] at hl e
      refine ⟨pre.length, Nat.le_refl _, ?_⟩
      have hle : pre.length + n.length ≤ l := hl
      rw [toks, List.foldr_cons, e]
      simp only [substStep, plainTok, hle, if_true]
      congr 1
      have e1 : List.take pre.length (pre ++ (n ++ outAll r)) = pre := by simp
      have e2 : List.drop (pre.length + n.length) (pre ++ (n ++ outAll r)) = outAll r := by
        rw [← List.drop_drop]; simp
      rw [e1, e2, List.append_assoc]

theorem foldl_toks_reverse (items : List Item) :
    ((toks 0 items).reverse.foldl substStep (srcAll items, (srcAll items).length + 1)).1 = outAll items := by
  rw [List.foldl_reverse]
  obtain ⟨l, -, e⟩ := foldr_toks items [] ((srcAll items).length + 1) (by simp)
  simp only [List.length_nil, List.nil_append] at e
  rw [e]

/-! ### the adjacency condition on items -/

def safeItemsK : List Item → Str → Prop
  | [], _ => True
  | .raw s :: r, k =>
    (∀ o, o < s.length → ∀ m ∈ partNames, m.isPrefixOf (s.drop o ++ (srcAll r ++ k)) = false) ∧ safeItemsK r k
  | .tok n :: r, k =>
    (∀ o, o < n.length → ∀ m ∈ partNames, m.isPrefixOf (n.drop o ++ (srcAll r ++ k)) = true →
      o + m.length ≤ n.length) ∧ safeItemsK r k

theorem safeItemsK_append (a b : List Item) (k : Str) :
    safeItemsK (a ++ b) k ↔ safeItemsK a (srcAll b ++ k) ∧ safeItemsK b k := by
  induction a with
  | nil => simp [safeItemsK]
  | cons x r ih =>
    cases x with
    | raw s => simp only [List.cons_append, safeItemsK, ih, srcAll_append, List.append_assoc, and_assoc]
    | tok n => simp only [List.cons_append, safeItemsK, ih, srcAll_append, List.append_assoc, and_assoc]

theorem prefix_of_append_short {a b X : Str} (h : a.isPrefixOf (b ++ X) = true) (hl : a.length ≤ b.length) :
    a.isPrefixOf b = true :=
  List.isPrefixOf_iff_prefix.mpr
    (List.prefix_of_prefix_length_le (List.isPrefixOf_iff_prefix.mp h) (List.prefix_append b X) hl)

theorem safeItemsK_tail {x : Item} {r : List Item} {k : Str} (h : safeItemsK (x :: r) k) : safeItemsK r k := by
  cases x <;> exact h.2

/-- under the adjacency condition every occurrence of a part name lies inside a token, hence inside its name -/
theorem occ_inside (items : List Item) (k : Str) (off : Nat) (hs : safeItemsK items k) :
    ∀ i, i < (srcAll items).length → ∀ m ∈ partNames, m.isPrefixOf ((srcAll items ++ k).drop i) = true →
      ∃ t ∈ toks off items, t.start ≤ off + i ∧ off + i + m.length ≤ t.stop ∧
        m.isPrefixOf (t.name.drop (off + i - t.start)) = true := by
  induction items generalizing off with
  | nil => intro i hi; simp [srcAll] at hi
  | cons x r ih =>
    intro i hi m hm hp
    simp only [srcAll_cons, List.length_append, List.append_assoc] at hi hp
    by_cases hlt : i < x.src.length
    · rw [List.drop_append_of_le_length (Nat.le_of_lt hlt)] at hp
      cases x with
      | raw s => exact absurd (hs.1 i hlt m hm) (by simp only [Item.src] at hp; simp [hp])
      | tok n =>
        have hle := hs.1 i hlt m hm hp
        refine ⟨plainTok off n, List.mem_cons_self, Nat.le_add_right _ _, by simp only [plainTok]; omega, ?_⟩
        simp only [plainTok, Nat.add_sub_cancel_left]
        exact prefix_of_append_short hp (by have : i < n.length := hlt; simp only [List.length_drop]; omega)
    · have e : i = x.src.length + (i - x.src.length) := by omega
      rw [e, ← List.drop_drop, List.drop_left] at hp
      obtain ⟨t, ht, h1, h2, h3⟩ := ih (off + x.src.length) (safeItemsK_tail hs) (i - x.src.length) (by omega) m hm hp
      have e' : off + x.src.length + (i - x.src.length) = off + i := by omega
      rw [e'] at h1 h2 h3
      exact ⟨t, mem_toks_cons_iff.mpr (.inr ht), h1, h2, h3⟩

/-- the leading run of part-name characters (upper-case letters and digits) -/
def np (s : Str) : Str := s.takeWhile nameChar

theorem np_cons (c : Char) (X : Str) : np (c :: X) = if nameChar c then c :: np X else [] := by
  simp only [np, List.takeWhile_cons]

theorem np_cons_congr (c : Char) {X Y : Str} (h : np X = np Y) : np (c :: X) = np (c :: Y) := by
  rw [np_cons, np_cons, h]

theorem np_append_any (A : Str) {k1 k2 : Str} (h : np k1 = np k2) : np (A ++ k1) = np (A ++ k2) := by
  induction A with
  | nil => exact h
  | cons c r ih => exact np_cons_congr c ih

theorem np_name_append (n X : Str) (hn : ∀ c ∈ n, nameChar c = true) : np (n ++ X) = n ++ np X := by
  induction n with
  | nil => rfl
  | cons c r ih =>
    rw [List.cons_append, np_cons, hn c List.mem_cons_self, if_pos rfl,
      ih (fun d hd => hn d (List.mem_cons_of_mem _ hd))]
    rfl

theorem np_append_congr (n : Str) {X Y : Str} (hn : ∀ c ∈ n, nameChar c = true) (h : np X = np Y) :
    np (n ++ X) = np (n ++ Y) := by
  rw [np_name_append n X hn, np_name_append n Y hn, h]

theorem isPrefixOf_np (m X : Str) (hm : ∀ c ∈ m, nameChar c = true) :
    m.isPrefixOf X = m.isPrefixOf (np X) := by
  induction m generalizing X with
  | nil => simp
  | cons c r ih =>
    cases X with
    | nil => simp [np]
    | cons x X' =>
      have hc := hm c List.mem_cons_self
      rw [np_cons]
      by_cases hx : nameChar x = true
      · simp only [hx, if_true, List.isPrefixOf, ih X' (fun d hd => hm d (List.mem_cons_of_mem _ hd))]
      · have hx' : nameChar x = false := by simpa using hx
        have hne : (c == x) = false := by
          cases hcx : c == x with
          | false => rfl
          | true =>
            have : c = x := by simpa using hcx
            subst this
            rw [hc] at hx'; cases hx'
        simp [hx', List.isPrefixOf, hne]

theorem prefix_transfer {m X Y : Str} (hm : m ∈ partNames) (h : np X = np Y) :
    m.isPrefixOf X = m.isPrefixOf Y := by
  rw [isPrefixOf_np m X (name_chars hm), isPrefixOf_np m Y (name_chars hm), h]

theorem not_prefix_of_head {m : Str} (hm : m ∈ partNames) (x : Char) (X : Str) (hx : nameChar x = false) :
    m.isPrefixOf (x :: X) = false := by
  rw [isPrefixOf_np m _ (name_chars hm), np_cons, hx]
  have := name_ne_nil hm
  cases m with
  | nil => exact absurd rfl this
  | cons _ _ => simp

theorem safeItemsK_np (items : List Item) {k1 k2 : Str} (h : np k1 = np k2) (hs : safeItemsK items k1) :
    safeItemsK items k2 := by
  induction items with
  | nil => trivial
  | cons x r ih =>
    cases x with
    | raw s =>
      refine ⟨?_, ih hs.2⟩
      intro o ho m hm
      rw [← prefix_transfer hm (np_append_any (s.drop o) (np_append_any (srcAll r) h))]
      exact hs.1 o ho m hm
    | tok n =>
      refine ⟨?_, ih hs.2⟩
      intro o ho m hm hp
      rw [← prefix_transfer hm (np_append_any (n.drop o) (np_append_any (srcAll r) h))] at hp
      exact hs.1 o ho m hm hp

theorem np_litText (c : Char) (X : Str) : np (litText c ++ X) = np (c :: X) := by
  have hb : nameChar '\\' = false := by decide
  unfold litText
  split
  · rename_i h
    have hc : nameChar c = false := by
      rcases (by simpa using h : c = '[' ∨ c = ']') with rfl | rfl <;> decide
    simp only [List.cons_append, List.nil_append, np_cons, hb, hc, Bool.false_eq_true, if_false]
  · rfl

theorem litText_regexLit_np (c : Char) {X Y : Str} (h : np X = np Y) :
    np (litText c ++ X) = np (regexLit c ++ Y) := by
  have hb : nameChar '\\' = false := by decide
  by_cases hc : nameChar c = true
  · obtain ⟨h0, hp⟩ := nameChar_not_special hc
    obtain ⟨h1, h2, -⟩ := plainCh_iff.mp hp
    have e1 : litText c = [c] := by simp [litText, h1, h2]
    have e2 : regexLit c = [c] := by
      have h0' : c ∉ escList := by simpa using h0
      simp [regexLit, tbl_escapes.2.2, h0', h1, h2]
    rw [e1, e2]
    exact np_cons_congr c h
  · have hc' : nameChar c = false := by simpa using hc
    have e1 : np (litText c ++ X) = [] := by
      unfold litText
      split <;> simp [np_cons, hb, hc']
    have e2 : np (regexLit c ++ Y) = [] := by
      unfold regexLit
      split <;> simp [np_cons, hb, hc']
    rw [e1, e2]

theorem np_text_gtext (p : Pat) (k k' : Str) (h : p.shapeOk = true) (hk : np k = np k') :
    np (p.text ++ k) = np (p.gtext ++ k') := by
  induction p generalizing k k' with
  | done => exact hk
  | lit c rest ih =>
    simp only [Pat.shapeOk, Bool.and_eq_true] at h
    simp only [Pat.text_lit, Pat.gtext, List.append_assoc]
    exact litText_regexLit_np c (ih k k' h.2 hk)
  | part n rest ih =>
    simp only [Pat.shapeOk, Bool.and_eq_true] at h
    simp only [Pat.text_part, Pat.gtext, List.append_assoc]
    exact np_append_congr n (name_chars (mem_partNames_of_lookup h.1.1)) (ih k k' h.2 hk)
  | opt body rest _ _ =>
    have e1 : nameChar '[' = false := by decide
    have e2 : nameChar '(' = false := by decide
    simp [Pat.text_opt, Pat.gtext, np_cons, e1, e2]

/-- the adjacency condition on the source text gives the adjacency condition on the items -/
theorem safeItems_of_safeK (p : Pat) (k k' : Str) (h : p.shapeOk = true) (hk : np k = np k')
    (hs : p.safeK k = true) : safeItemsK p.items k' := by
  induction p generalizing k k' with
  | done => trivial
  | lit c rest ih =>
    simp only [Pat.shapeOk, Bool.and_eq_true] at h
    simp only [Pat.safeK, Bool.and_eq_true] at hs
    refine ⟨?_, ih k k' h.2 hk hs.2⟩
    have hno : ∀ m ∈ partNames, m.isPrefixOf (c :: (srcAll rest.items ++ k')) = false := by
      intro m hm
      have := List.all_eq_true.mp hs.1 m hm
      rw [srcAll_items, ← prefix_transfer hm (np_cons_congr c (np_text_gtext rest k k' h.2 hk))]
      simpa using this
    have hb : nameChar '\\' = false := by decide
    intro o ho m hm
    rw [regexLit_eq] at ho ⊢
    rcases encChar_cases c with ⟨e, -⟩ | ⟨e, -⟩
    · rw [e] at ho ⊢
      simp only [List.length_cons, List.length_nil] at ho
      have : o = 0 ∨ o = 1 := by omega
      rcases this with rfl | rfl
      · exact not_prefix_of_head hm _ _ hb
      · exact hno m hm
    · rw [e] at ho ⊢
      simp only [List.length_cons, List.length_nil] at ho
      have : o = 0 := by omega
      subst this
      exact hno m hm
  | part n rest ih =>
    simp only [Pat.shapeOk, Bool.and_eq_true] at h
    simp only [Pat.safeK, Bool.and_eq_true] at hs
    refine ⟨?_, ih k k' h.2 hk hs.2⟩
    intro o ho m hm hp
    have hn := name_chars (mem_partNames_of_lookup h.1.1)
    have hdrop : ∀ c ∈ n.drop o, nameChar c = true := fun c hc => hn c (List.mem_of_mem_drop hc)
    have := List.all_eq_true.mp (List.all_eq_true.mp hs.1 o (List.mem_range.mpr ho)) m hm
    rw [srcAll_items, ← prefix_transfer hm (np_append_congr _ hdrop (np_text_gtext rest k k' h.2 hk))] at hp
    simpa [hp] using this
  | opt body rest ihb ihr =>
    simp only [Pat.shapeOk, Bool.and_eq_true] at h
    simp only [Pat.safeK, Bool.and_eq_true] at hs
    have n1 : nameChar '(' = false := by decide
    have n2 : nameChar '?' = false := by decide
    have n3 : nameChar ':' = false := by decide
    have n4 : nameChar ')' = false := by decide
    have n5 : nameChar ']' = false := by decide
    simp only [Pat.items, safeItemsK]
    refine ⟨?_, (safeItemsK_append _ _ _).mpr ⟨?_, ?_, ihr k k' h.2 hk hs.2⟩⟩
    · intro o ho m hm
      have : o = 0 ∨ o = 1 ∨ o = 2 := by simp at ho; omega
      rcases this with rfl | rfl | rfl
      · exact not_prefix_of_head hm _ _ n1
      · exact not_prefix_of_head hm _ _ n2
      · exact not_prefix_of_head hm _ _ n3
    · apply ihb (']' :: (rest.text ++ k)) _ h.1.2 _ hs.1
      simp [srcAll_cons, Item.src, np_cons, n4, n5]
    · intro o ho m hm
      have : o = 0 ∨ o = 1 := by simp at ho; omega
      rcases this with rfl | rfl
      · exact not_prefix_of_head hm _ _ n4
      · exact not_prefix_of_head hm _ _ n2

end BV
