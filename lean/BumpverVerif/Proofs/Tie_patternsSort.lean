/-
  Proofs/Tie_patternsSort.lean — a LEMMA LIBRARY (no tie in it): `sorted(dict(pairs).items())` for pairs keyed by `(int, int)`:
  the primitives `PyP.dictOfPairs` (CPython dict: a repeated key keeps its position and takes the new
  value) followed by a stable insertion sort is the insertion sort BY KEY in which an equal key REPLACES the
  earlier entry (`insRepl`, the shape of the model's `insertSorted`/`sortParts` and `insertIdx`).
  Both lists have strictly increasing keys and the same members, and such lists are equal (`SK_ext`).  The
  comparison of the sort only has to agree with the key order on entries with different keys
  (`sortBy_dictOfPairs`): `PyP.sorted` compares whole tuples, `sorted(d.items())` of the group `format` keys only.
-/
import BumpverVerif.Gen.PatternsPrims
import BumpverVerif.Proofs.PatternLemmas
namespace BV.PyP

abbrev IKey := Int × Int

/-! ### `<` on `(int, int)` is a strict total order -/

theorem ltK_iff (a b : IKey) : PyOrd.lt a b = true ↔ (a.1 < b.1 ∨ (a.1 = b.1 ∧ a.2 < b.2)) := by
  show (if a.1 == b.1 then PyOrd.lt a.2 b.2 else PyOrd.lt a.1 b.1) = true ↔ _
  by_cases h : a.1 = b.1
  · simp only [h, beq_self_eq_true, if_true]
    show decide (a.2 < b.2) = true ↔ _
    simp
  · have : (a.1 == b.1) = false := by simpa using h
    simp only [this, Bool.false_eq_true, if_false]
    show decide (a.1 < b.1) = true ↔ _
    simp [h]

theorem ltK_irrefl (a : IKey) : ¬ PyOrd.lt a a = true := by
  rw [ltK_iff]; omega

theorem ltK_trans {a b c : IKey} (h1 : PyOrd.lt a b = true) (h2 : PyOrd.lt b c = true) : PyOrd.lt a c = true := by
  rw [ltK_iff] at *; omega

theorem ltK_tri {a b : IKey} (hne : a ≠ b) (h : ¬ PyOrd.lt a b = true) : PyOrd.lt b a = true := by
  rw [ltK_iff] at *
  have : a.1 ≠ b.1 ∨ a.2 ≠ b.2 := by
    by_cases h1 : a.1 = b.1
    · right; intro h2; exact hne (Prod.ext h1 h2)
    · left; exact h1
  omega

theorem ltK_ne {a b : IKey} (h : PyOrd.lt a b = true) : a ≠ b := by
  intro e; subst e; exact ltK_irrefl a h

variable {ν : Type}

/-- tuple comparison of two entries with different keys looks at the keys only -/
theorem lt_pair_of_ne [PyOrd ν] (x y : IKey × ν) (h : x.1 ≠ y.1) : PyOrd.lt x y = PyOrd.lt x.1 y.1 := by
  show (if x.1 == y.1 then PyOrd.lt x.2 y.2 else PyOrd.lt x.1 y.1) = _
  rw [if_neg (by simpa using h)]

/-- strictly increasing keys -/
def SK (l : List (IKey × ν)) : Prop := l.Pairwise (fun a b => PyOrd.lt a.1 b.1 = true)

/-- pairwise different keys -/
def NK (l : List (IKey × ν)) : Prop := l.Pairwise (fun a b => a.1 ≠ b.1)

/-- insertion by key; an entry with the same key is replaced -/
def insRepl (x : IKey × ν) : List (IKey × ν) → List (IKey × ν)
  | [] => [x]
  | y :: ys =>
    if y.1 == x.1 then x :: ys
    else if PyOrd.lt x.1 y.1 then x :: y :: ys
    else y :: insRepl x ys

theorem SK.not_mem {a : IKey × ν} {A : List (IKey × ν)} (h : SK (a :: A)) : a ∉ A :=
  fun hm => ltK_irrefl _ ((List.pairwise_cons.mp h).1 a hm)

theorem SK_ext : ∀ (A B : List (IKey × ν)), SK A → SK B → (∀ e, e ∈ A ↔ e ∈ B) → A = B
  | [], [], _, _, _ => rfl
  | [], b :: B, _, _, h => by simpa using (h b).2
  | a :: A, [], _, _, h => by simpa using (h a).1
  | a :: A, b :: B, hA, hB, h => by
    have hA' := List.pairwise_cons.mp hA
    have hB' := List.pairwise_cons.mp hB
    -- the heads agree: otherwise each is a later member of the other list, so `a < b < a`
    have hab : a = b := by
      rcases List.mem_cons.mp ((h a).1 List.mem_cons_self) with r | r
      · exact r
      · rcases List.mem_cons.mp ((h b).2 List.mem_cons_self) with r2 | r2
        · exact r2.symm
        · exact absurd (ltK_trans (hA'.1 b r2) (hB'.1 a r)) (ltK_irrefl _)
    subst hab
    congr 1
    refine SK_ext A B hA'.2 hB'.2 fun e => ⟨fun he => ?_, fun he => ?_⟩
    · rcases List.mem_cons.mp ((h e).1 (List.mem_cons_of_mem _ he)) with r | r
      · exact absurd (r ▸ he) hA.not_mem
      · exact r
    · rcases List.mem_cons.mp ((h e).2 (List.mem_cons_of_mem _ he)) with r | r
      · exact absurd (r ▸ he) hB.not_mem
      · exact r

theorem mem_insRepl (x : IKey × ν) : ∀ (A : List (IKey × ν)), SK A →
    ∀ e, e ∈ insRepl x A ↔ (e = x ∨ (e ∈ A ∧ e.1 ≠ x.1))
  | [], _, e => by simp [insRepl]
  | y :: ys, hA, e => by
    have hA' := List.pairwise_cons.mp hA
    simp only [insRepl, List.mem_cons]
    by_cases h1 : y.1 = x.1
    · -- the entries after `y` have larger keys
      have hys : e ∈ ys → e.1 ≠ x.1 := fun r he => ltK_irrefl _ (by have := hA'.1 e r; rwa [he, ← h1] at this)
      rw [if_pos (by simpa using h1), List.mem_cons]
      grind
    · rw [if_neg (by simpa using h1)]
      by_cases h2 : PyOrd.lt x.1 y.1 = true
      · -- `x` goes in front: all keys of the list are larger
        have hall : e = y ∨ e ∈ ys → e.1 ≠ x.1 := by
          rintro (r | r) he
          · exact h1 (r ▸ he)
          · exact ltK_irrefl _ (by have := ltK_trans h2 (hA'.1 e r); rwa [he] at this)
        rw [if_pos h2, List.mem_cons, List.mem_cons]
        exact ⟨fun r => r.imp_right fun r => ⟨r, hall r⟩, fun r => r.imp_right And.left⟩
      · rw [if_neg h2, List.mem_cons, mem_insRepl x ys hA'.2 e]
        grind

theorem SK_insRepl (x : IKey × ν) : ∀ (A : List (IKey × ν)), SK A → SK (insRepl x A)
  | [], _ => by simp [insRepl, SK]
  | y :: ys, hA => by
    have hA' := List.pairwise_cons.mp hA
    simp only [insRepl]
    by_cases h1 : y.1 = x.1
    · rw [if_pos (by simpa using h1)]
      exact List.pairwise_cons.mpr ⟨fun z hz => h1 ▸ hA'.1 z hz, hA'.2⟩
    · rw [if_neg (by simpa using h1)]
      by_cases h2 : PyOrd.lt x.1 y.1 = true
      · rw [if_pos h2]
        refine List.pairwise_cons.mpr ⟨fun z hz => ?_, hA⟩
        rcases List.mem_cons.mp hz with r | r
        · exact r ▸ h2
        · exact ltK_trans h2 (hA'.1 z r)
      · rw [if_neg h2]
        refine List.pairwise_cons.mpr ⟨fun z hz => ?_, SK_insRepl x ys hA'.2⟩
        rcases (mem_insRepl x ys hA'.2 z).mp hz with r | ⟨r, _⟩
        · exact r ▸ ltK_tri (fun e => h1 e.symm) h2
        · exact hA'.1 z r

theorem mem_dictSet (k : IKey) (v : ν) : ∀ (D : List (IKey × ν)), NK D →
    ∀ e, e ∈ dictSet k v D ↔ (e = (k, v) ∨ (e ∈ D ∧ e.1 ≠ k))
  | [], _, e => by simp [dictSet]
  | (k', v') :: rest, hD, e => by
    have hD' := List.pairwise_cons.mp hD
    simp only [dictSet]
    by_cases h1 : k' = k
    · subst h1
      have hrest : e ∈ rest → e.1 ≠ k' := fun r he => hD'.1 e r he.symm
      rw [if_pos (by simp), List.mem_cons, List.mem_cons]
      grind
    · rw [if_neg (by simpa using h1), List.mem_cons, List.mem_cons, mem_dictSet k v rest hD'.2 e]
      grind

theorem NK_dictSet (k : IKey) (v : ν) : ∀ (D : List (IKey × ν)), NK D → NK (dictSet k v D)
  | [], _ => by simp [dictSet, NK]
  | (k', v') :: rest, hD => by
    have hD' := List.pairwise_cons.mp hD
    simp only [dictSet]
    by_cases h1 : k' = k
    · rw [if_pos (by simpa using h1)]
      exact List.pairwise_cons.mpr ⟨hD'.1, hD'.2⟩
    · rw [if_neg (by simpa using h1)]
      refine List.pairwise_cons.mpr ⟨fun z hz => ?_, NK_dictSet k v rest hD'.2⟩
      rcases (mem_dictSet k v rest hD'.2 z).mp hz with r | ⟨r, _⟩
      · exact r ▸ h1
      · exact hD'.1 z r

theorem foldl_dict_insRepl : ∀ (l D A : List (IKey × ν)), NK D → SK A → (∀ e, e ∈ A ↔ e ∈ D) →
    NK (l.foldl (fun d kv => dictSet kv.1 kv.2 d) D) ∧ SK (l.foldl (fun acc x => insRepl x acc) A) ∧
    ∀ e, e ∈ l.foldl (fun acc x => insRepl x acc) A ↔ e ∈ l.foldl (fun d kv => dictSet kv.1 kv.2 d) D
  | [], D, A, hD, hA, h => ⟨hD, hA, h⟩
  | x :: xs, D, A, hD, hA, h =>
    foldl_dict_insRepl xs _ _ (NK_dictSet x.1 x.2 D hD) (SK_insRepl x A hA) fun e => by
      rw [mem_insRepl x A hA e, mem_dictSet x.1 x.2 D hD e, h e]

theorem mem_insertSortedBy {α : Type} (lt : α → α → Bool) (x : α) : ∀ (l : List α) (e : α),
    e ∈ insertSortedBy lt x l ↔ (e = x ∨ e ∈ l) :=
  fun _ _ => mem_insert_iff (fun a b => lt a b = true) (insertSortedBy lt) (fun _ => rfl) (fun _ _ _ => rfl)

section
variable (lt : IKey × ν → IKey × ν → Bool) (hlt : ∀ x y, x.1 ≠ y.1 → lt x y = PyOrd.lt x.1 y.1)
include hlt

theorem SK_insertSortedBy (x : IKey × ν) : ∀ (A : List (IKey × ν)), SK A → (∀ y ∈ A, y.1 ≠ x.1) →
    SK (insertSortedBy lt x A)
  | [], _, _ => by simp [insertSortedBy, SK]
  | y :: ys, hA, hk => by
    have hA' := List.pairwise_cons.mp hA
    have hy : x.1 ≠ y.1 := fun e => hk y List.mem_cons_self e.symm
    simp only [insertSortedBy, hlt x y hy]
    by_cases h2 : PyOrd.lt x.1 y.1 = true
    · rw [if_pos h2]
      refine List.pairwise_cons.mpr ⟨fun z hz => ?_, hA⟩
      rcases List.mem_cons.mp hz with r | r
      · exact r ▸ h2
      · exact ltK_trans h2 (hA'.1 z r)
    · rw [if_neg h2]
      refine List.pairwise_cons.mpr ⟨fun z hz => ?_,
        SK_insertSortedBy x ys hA'.2 (fun z hz => hk z (List.mem_cons_of_mem _ hz))⟩
      rcases (mem_insertSortedBy _ x ys z).mp hz with r | r
      · exact r ▸ ltK_tri hy h2
      · exact hA'.1 z r

theorem sorted_foldl_spec : ∀ (l A : List (IKey × ν)), SK A → NK l → (∀ x ∈ l, ∀ y ∈ A, y.1 ≠ x.1) →
    SK (l.foldl (fun acc x => insertSortedBy lt x acc) A) ∧
    ∀ e, e ∈ l.foldl (fun acc x => insertSortedBy lt x acc) A ↔ (e ∈ A ∨ e ∈ l)
  | [], A, hA, _, _ => by simp [hA]
  | x :: xs, A, hA, hl, hk => by
    have hl' := List.pairwise_cons.mp hl
    have hk2 : ∀ z ∈ xs, ∀ y ∈ insertSortedBy lt x A, y.1 ≠ z.1 := fun z hz y hy => by
      rcases (mem_insertSortedBy _ x A y).mp hy with r | r
      · exact r ▸ hl'.1 z hz
      · exact hk z (List.mem_cons_of_mem _ hz) y r
    obtain ⟨s1, s2⟩ := sorted_foldl_spec xs _
      (SK_insertSortedBy lt hlt x A hA (hk x List.mem_cons_self)) hl'.2 hk2
    refine ⟨s1, fun e => ?_⟩
    rw [List.foldl_cons, s2 e, mem_insertSortedBy, List.mem_cons, or_comm (a := e = x), or_assoc]

theorem sortBy_dictOfPairs (l : List (IKey × ν)) :
    (dictOfPairs l).foldl (fun acc x => insertSortedBy lt x acc) [] = l.foldl (fun acc x => insRepl x acc) [] := by
  obtain ⟨h1, h2, h3⟩ := foldl_dict_insRepl l [] [] List.Pairwise.nil List.Pairwise.nil (fun _ => Iff.rfl)
  obtain ⟨s1, s2⟩ := sorted_foldl_spec lt hlt (dictOfPairs l) [] List.Pairwise.nil h1 (by simp)
  exact SK_ext _ _ s1 h2 fun e => by rw [s2 e, h3 e]; simp [dictOfPairs]
end

/-- `sorted(dict(pairs).items())` = insertion by key with replacement -/
theorem sorted_dictOfPairs [PyOrd ν] (l : List (IKey × ν)) :
    sorted (dictOfPairs l) = l.foldl (fun acc x => insRepl x acc) [] :=
  sortBy_dictOfPairs PyOrd.lt lt_pair_of_ne l

end BV.PyP
