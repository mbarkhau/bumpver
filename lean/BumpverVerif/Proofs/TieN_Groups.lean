/-
  Proofs/TieN_Groups.lean — the hypothesis `validGroupNames` of `tie_parseVersionInfo` / `tie_isValid`
  (Proofs/Tie_parseVersionInfo.lean: "every named group of the compiled regex is a key the `assert` at the head of
  `parse_field_values_to_vinfo` accepts") is a THEOREM for every pattern tree that compiles:

      validGroupNames_compile : Pat.compile p = some r → validGroupNames r = true

  The group names of `Pat.compile p` are exactly `p.fields` (`reGroupNames_compile`, Proofs/ReadBack.lean), those are
  values of the regenerated `Gen.partFields`, and every such value begins with a key of `VALID_FIELD_KEYS`
  (`partFields_validKeys`: `decide` over the regenerated table — a table edit that introduces a part whose field is
  no `V2VersionInfo` field breaks the build HERE).

  With the general tree = string tie (`compile_tie`, Props/C02Tie.lean) the source-level ties of the READ side follow
  for the text of every `tokSafe` tree WITHOUT the group-name hypothesis:

      tie_parseVersionInfo_text : tokSafe p → noPlaceholder (Pat.text p) → today.2.1 ≠ 0 →
                                  GenF.parseVersionInfo vs (Pat.text p) today = parseVersionInfo vs (Pat.text p) today
      tie_isValid_text          : … GenF.isValid vs (Pat.text p) today = isValid vs (Pat.text p) today

  `noPlaceholder t`: the text contains neither `{version}` nor `{pep440_version}` (then `normalize_pattern(t, t) = t`);
  `Pat.noBrace p` (no literal `{`) is a structural sufficient condition (`noPlaceholder_of_noBrace`).
-/
import BumpverVerif.Props.C02Tie
import BumpverVerif.Proofs.Tie_isValid
namespace BV
namespace TieN

/-- every field of the regenerated `PATTERN_PART_FIELDS` passes the `assert` of `parse_field_values_to_vinfo` -/
theorem partFields_validKeys :
    Gen.partFields.all (fun e => validFieldKeys.any (fun fkey => startsWith e.2 fkey)) = true := by decide +kernel

/-- the fields of a tree are accepted keys -/
theorem fields_validKeys (p : Pat) (f : Str) (hf : f ∈ p.fields) :
    validFieldKeys.any (fun fkey => startsWith f fkey) = true := by
  obtain ⟨n, _, hl⟩ := List.mem_filterMap.mp hf
  exact List.all_eq_true.mp partFields_validKeys (n, f) (lookup_mem hl)

/-- the pattern text has no `{version}` / `{pep440_version}` placeholder -/
def noPlaceholder (t : Str) : Bool :=
  !isInfix "{version}".toList t && !isInfix "{pep440_version}".toList t

theorem noPlaceholder_iff (t : Str) : noPlaceholder t = true ↔
    isInfix "{version}".toList t = false ∧ isInfix "{pep440_version}".toList t = false := by
  simp [noPlaceholder]

theorem normalizePattern_plain (t : Str) (h : noPlaceholder t = true) : normalizePattern t t = t := by
  obtain ⟨h1, h2⟩ := (noPlaceholder_iff t).mp h
  exact normalizePattern_self t h1 h2

/-- no literal `{` in the tree: a structural sufficient condition for `noPlaceholder` -/
def noBrace : Pat → Bool
  | .done => true
  | .lit c rest => c != '{' && noBrace rest
  | .part _ rest => noBrace rest
  | .opt body rest => noBrace body && noBrace rest

theorem text_noBrace (p : Pat) (hsh : p.shapeOk = true) (h : noBrace p = true) : '{' ∉ Pat.text p := by
  induction p with
  | done => simp [Pat.text_done]
  | lit c rest ih =>
    simp only [Pat.shapeOk, Bool.and_eq_true] at hsh
    simp only [noBrace, Bool.and_eq_true, bne_iff_ne, ne_eq] at h
    rw [Pat.text_lit, List.mem_append]
    rintro (hm | hm)
    · unfold litText at hm
      split at hm
      · simp only [List.mem_cons, List.not_mem_nil, or_false] at hm
        rcases hm with e | e
        · exact absurd e (by decide +kernel)
        · exact h.1 e.symm
      · simp only [List.mem_cons, List.not_mem_nil, or_false] at hm
        exact h.1 hm.symm
    · exact ih hsh.2 h.2 hm
  | part n rest ih =>
    simp only [Pat.shapeOk, Bool.and_eq_true] at hsh
    simp only [noBrace] at h
    rw [Pat.text_part, List.mem_append]
    rintro (hm | hm)
    · have := name_chars (mem_partNames_of_lookup hsh.1.1) _ hm
      exact absurd this (by decide +kernel)
    · exact ih hsh.2 h hm
  | opt body rest ihb ihr =>
    simp only [Pat.shapeOk, Bool.and_eq_true] at hsh
    simp only [noBrace, Bool.and_eq_true] at h
    rw [Pat.text_opt]
    simp only [List.mem_cons, List.mem_append]
    rintro (e | hm | e | hm)
    · exact absurd e (by decide +kernel)
    · exact ihb hsh.1.2 h.1 hm
    · exact absurd e (by decide +kernel)
    · exact ihr hsh.2 h.2 hm

theorem noPlaceholder_of_noBrace (p : Pat) (hsh : p.shapeOk = true) (h : noBrace p = true) :
    noPlaceholder (Pat.text p) = true := by
  have hb := text_noBrace p hsh h
  have key : ∀ pat : Str, '{' ∈ pat → isInfix pat (Pat.text p) = false := by
    intro pat hp
    unfold isInfix
    cases hf : findIdx pat (Pat.text p) with
    | none => rfl
    | some i => exact absurd (findIdx_some_subset hf '{' hp) hb
  rw [noPlaceholder_iff]
  exact ⟨key _ (by decide +kernel), key _ (by decide +kernel)⟩

end TieN
open TieN

/-- THE GROUP NAMES OF A COMPILED TREE ARE FIELD KEYS: `validGroupNames` is a theorem, not a hypothesis -/
theorem validGroupNames_compile (p : Pat) (r : Re) (h : Pat.compile p = some r) : validGroupNames r = true := by
  unfold validGroupNames
  rw [reGroupNames_compile p r h, List.all_eq_true]
  intro f hf
  exact fields_validKeys p f (List.mem_eraseDups.mp hf)

/-- … hence of the regex the CODE compiles from the text of a `tokSafe` tree -/
theorem validGroupNames_text (p : Pat) (hs : tokSafe p = true) (hp : noPlaceholder (Pat.text p) = true) :
    ∀ r, compileRe (normalizePattern (Pat.text p) (Pat.text p)) = some r → validGroupNames r = true := by
  intro r hr
  rw [normalizePattern_plain _ hp, compile_tie p hs] at hr
  exact validGroupNames_compile p r hr

/-- `tie_parseVersionInfo` for the text of a `tokSafe` tree: NO group-name hypothesis -/
theorem tie_parseVersionInfo_text (p : Pat) (vs : Str) (today : PDate) (hT : today.2.1 ≠ 0)
    (hs : tokSafe p = true) (hp : noPlaceholder (Pat.text p) = true) :
    GenF.parseVersionInfo vs (Pat.text p) today = parseVersionInfo vs (Pat.text p) today :=
  tie_parseVersionInfo vs (Pat.text p) today hT (validGroupNames_text p hs hp)

/-- `tie_isValid` for the text of a `tokSafe` tree: NO group-name hypothesis -/
theorem tie_isValid_text (p : Pat) (vs : Str) (today : PDate) (hT : today.2.1 ≠ 0)
    (hs : tokSafe p = true) (hp : noPlaceholder (Pat.text p) = true) :
    GenF.isValid vs (Pat.text p) today = isValid vs (Pat.text p) today :=
  tie_isValid vs (Pat.text p) today hT (validGroupNames_text p hs hp)

/-- for pattern TEXT `s`: tokenise, check `tokSafe` and that the tree's text is `s` (all decidable on `s`) -/
theorem tie_parseVersionInfo_str (s vs : Str) (p : Pat) (today : PDate) (hT : today.2.1 ≠ 0)
    (ht : tokenize s = some p) (hst : Pat.text p = s) (hs : tokSafe p = true) (hp : noPlaceholder s = true) :
    GenF.parseVersionInfo vs s today = parseVersionInfo vs s today := by
  have _ := ht
  subst hst
  exact tie_parseVersionInfo_text p vs today hT hs hp

end BV
