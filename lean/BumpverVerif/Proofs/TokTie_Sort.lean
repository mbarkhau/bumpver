/-
  Proofs/TokTie_Sort.lean — `sortParts` (insertion into a dict keyed by `(-end, -len(name))`, then sorted)
  and the right-to-left substitution loop `substParts`, on arbitrary item lists:

  * `sortParts_sorted`, `mem_sortParts`, `mem_sortParts_of_mem` : the result is strictly sorted by key and has the
    same members when equal keys mean equal items;
  * `subst_skip` : on a sorted list in which every item is a token of a disjoint token list `TK`, or lies inside
    one, the loop substitutes exactly the tokens.
-/
import BumpverVerif.Model.V2Patterns
namespace BV

theorem keyLt_iff (a b : PosPart) :
    keyLt a b = true ↔ (b.stop < a.stop ∨ (a.stop = b.stop ∧ b.name.length < a.name.length)) := by
  simp [keyLt]

theorem keyEq_iff (a b : PosPart) :
    keyEq a b = true ↔ (a.stop = b.stop ∧ a.name.length = b.name.length) := by
  simp [keyEq]

def SortedK (l : List PosPart) : Prop := l.Pairwise (fun a b => keyLt a b = true)

theorem mem_insertSorted {x a : PosPart} {l : List PosPart} (h : x ∈ insertSorted a l) : x = a ∨ x ∈ l := by
  induction l with
  | nil => simpa [insertSorted] using h
  | cons y ys ih =>
    simp only [insertSorted] at h
    split at h
    · exact (List.mem_cons.mp h).imp id (List.mem_cons_of_mem _)
    · split at h
      · exact List.mem_cons.mp h
      · rcases List.mem_cons.mp h with h | h
        · exact .inr (h ▸ List.mem_cons_self)
        · exact (ih h).imp id (List.mem_cons_of_mem _)

theorem self_mem_insertSorted (a : PosPart) (l : List PosPart) : a ∈ insertSorted a l := by
  induction l with
  | nil => simp [insertSorted]
  | cons y ys ih =>
    simp only [insertSorted]
    split
    · exact List.mem_cons_self
    · split
      · exact List.mem_cons_self
      · exact List.mem_cons_of_mem _ ih

theorem mem_insertSorted_of_mem {x a : PosPart} {l : List PosPart} (h : x ∈ l) :
    x ∈ insertSorted a l ∨ keyEq a x = true := by
  induction l with
  | nil => cases h
  | cons y ys ih =>
    simp only [insertSorted]
    by_cases hk : keyEq a y = true
    · rw [if_pos hk]
      rcases List.mem_cons.mp h with rfl | h
      · exact .inr hk
      · exact .inl (List.mem_cons_of_mem _ h)
    · rw [if_neg hk]
      split
      · exact .inl (List.mem_cons_of_mem _ h)
      · rcases List.mem_cons.mp h with rfl | h
        · exact .inl List.mem_cons_self
        · exact (ih h).imp (List.mem_cons_of_mem _) id

theorem insertSorted_sorted (a : PosPart) (l : List PosPart) (h : SortedK l) : SortedK (insertSorted a l) := by
  induction l with
  | nil => simp [insertSorted, SortedK]
  | cons y ys ih =>
    have hy := List.pairwise_cons.mp h
    simp only [insertSorted]
    split
    · rename_i he
      rw [keyEq_iff] at he
      refine List.pairwise_cons.mpr ⟨fun z hz => ?_, hy.2⟩
      have := hy.1 z hz
      rw [keyLt_iff] at this ⊢
      omega
    · split
      · rename_i he hl
        rw [keyLt_iff] at hl
        refine List.pairwise_cons.mpr ⟨fun z hz => ?_, h⟩
        rcases List.mem_cons.mp hz with hz | hz
        · subst hz; rw [keyLt_iff]; exact hl
        · have := hy.1 z hz
          rw [keyLt_iff] at this ⊢
          omega
      · rename_i he hl
        rw [keyEq_iff] at he
        rw [keyLt_iff] at hl
        refine List.pairwise_cons.mpr ⟨fun z hz => ?_, ih hy.2⟩
        rcases mem_insertSorted hz with hz | hz
        · subst hz; rw [keyLt_iff]; omega
        · exact hy.1 z hz

theorem foldl_insertSorted_sorted (l acc : List PosPart) (h : SortedK acc) :
    SortedK (l.foldl (fun acc x => insertSorted x acc) acc) := by
  induction l generalizing acc with
  | nil => exact h
  | cons a l ih => exact ih _ (insertSorted_sorted a acc h)

theorem sortParts_sorted (l : List PosPart) : SortedK (sortParts l) :=
  foldl_insertSorted_sorted l [] List.Pairwise.nil

theorem mem_foldl_insertSorted {x : PosPart} (l acc : List PosPart)
    (h : x ∈ l.foldl (fun acc x => insertSorted x acc) acc) : x ∈ acc ∨ x ∈ l := by
  induction l generalizing acc with
  | nil => exact Or.inl h
  | cons a l ih =>
    rcases ih _ h with h | h
    · rcases mem_insertSorted h with h | h
      · exact Or.inr (by simp [h])
      · exact Or.inl h
    · exact Or.inr (List.mem_cons_of_mem _ h)

theorem mem_sortParts {x : PosPart} {l : List PosPart} (h : x ∈ sortParts l) : x ∈ l := by
  rcases mem_foldl_insertSorted l [] h with h | h
  · cases h
  · exact h

theorem mem_foldl_insertSorted_of {x : PosPart} (l acc : List PosPart) (h : x ∈ acc ∨ x ∈ l)
    (hu : ∀ y ∈ l, keyEq y x = true → y = x) :
    x ∈ l.foldl (fun acc x => insertSorted x acc) acc := by
  induction l generalizing acc with
  | nil =>
    rcases h with h | h
    · exact h
    · cases h
  | cons a l ih =>
    apply ih
    · rcases h with h | h
      · rcases mem_insertSorted_of_mem (a := a) h with h' | h'
        · exact Or.inl h'
        · have := hu a List.mem_cons_self h'
          subst this
          exact Or.inl (self_mem_insertSorted _ _)
      · rcases List.mem_cons.mp h with h | h
        · subst h; exact Or.inl (self_mem_insertSorted _ _)
        · exact Or.inr h
    · exact fun y hy => hu y (List.mem_cons_of_mem _ hy)

/-- an item whose key no OTHER item shares survives the dict -/
theorem mem_sortParts_of_mem {x : PosPart} {l : List PosPart} (h : x ∈ l)
    (hu : ∀ y ∈ l, keyEq y x = true → y = x) : x ∈ sortParts l :=
  mem_foldl_insertSorted_of l [] (Or.inr h) hu

/-! ### the substitution loop -/

def substStep (acc : Str × Nat) (it : PosPart) : Str × Nat :=
  if it.stop ≤ acc.2 then (acc.1.take it.start ++ it.text ++ acc.1.drop it.stop, it.start) else acc

theorem substParts_eq (pattern : Str) (items : List PosPart) :
    substParts pattern items = (items.foldl substStep (pattern, pattern.length + 1)).1 := rfl

/-- items of the sorted list that are no tokens are skipped: they are dead (`last < stop`) or lie inside a
    token that comes earlier in the order -/
theorem subst_skip (L : List PosPart) : ∀ (TK : List PosPart) (acc : Str) (last : Nat),
    SortedK L →
    (∀ x ∈ L, x.stop = x.start + x.name.length) →
    TK.Pairwise (fun a b => b.stop ≤ a.start) →
    (∀ t ∈ TK, t.start < t.stop ∧ t.stop = t.start + t.name.length) →
    (∀ t ∈ TK, t.stop ≤ last) →
    (∀ t ∈ TK, t ∈ L) →
    (∀ x ∈ L, x ∈ TK ∨ last < x.stop ∨
      ∃ t ∈ TK, x ≠ t ∧ t.start ≤ x.start ∧ x.stop ≤ t.stop ∧ x.start < x.stop) →
    L.foldl substStep (acc, last) = TK.foldl substStep (acc, last) := by
  induction L with
  | nil =>
    intro TK acc last _ _ _ _ _ hin _
    cases TK with
    | nil => rfl
    | cons t _ => exact absurd (hin t List.mem_cons_self) (by simp)
  | cons x L ih =>
    intro TK acc last hs hwf hp htk hal hin hcl
    have hsx := List.pairwise_cons.mp hs
    have hirr : ∀ y : PosPart, keyLt y y = true → False := by
      intro y hy; rw [keyLt_iff] at hy; omega
    have hxL : x ∉ L := fun hx => hirr x (hsx.1 x hx)
    rcases hcl x List.mem_cons_self with hx | hx | hx
    · -- a token: it is the head of TK
      cases TK with
      | nil => cases hx
      | cons h TK' =>
        have hp' := List.pairwise_cons.mp hp
        have hhx : h = x := by
          apply Classical.byContradiction
          intro hne
          have hx' : x ∈ TK' := by
            rcases List.mem_cons.mp hx with e | e
            · exact absurd e.symm hne
            · exact e
          have h1 := hp'.1 x hx'
          have hhL : h ∈ L := by
            rcases List.mem_cons.mp (hin h List.mem_cons_self) with e | e
            · exact absurd e hne
            · exact e
          have h2 := hsx.1 h hhL
          rw [keyLt_iff] at h2
          have h3 := (htk h List.mem_cons_self).1
          omega
        subst hhx
        have hst : h.stop ≤ last := hal h List.mem_cons_self
        have hh := htk h List.mem_cons_self
        simp only [List.foldl_cons, substStep, hst, if_true]
        apply ih TK' _ h.start hsx.2 (fun y hy => hwf y (List.mem_cons_of_mem _ hy)) hp'.2
          (fun t ht => htk t (List.mem_cons_of_mem _ ht)) hp'.1
        · intro t ht
          rcases List.mem_cons.mp (hin t (List.mem_cons_of_mem _ ht)) with e | e
          · subst e
            have := hp'.1 t ht
            have := (htk t (List.mem_cons_of_mem _ ht)).1
            omega
          · exact e
        · intro y hy
          rcases hcl y (List.mem_cons_of_mem _ hy) with hy' | hy' | ⟨t, ht, hne, h1, h2, h3⟩
          · rcases List.mem_cons.mp hy' with e | e
            · subst e; exact absurd hy hxL
            · exact Or.inl e
          · right; left; omega
          · rcases List.mem_cons.mp ht with e | e
            · subst e; right; left; omega
            · exact Or.inr (Or.inr ⟨t, e, hne, h1, h2, h3⟩)
    · -- dead
      have hns : ¬ x.stop ≤ last := by omega
      simp only [List.foldl_cons, substStep, hns, if_false]
      apply ih TK acc last hsx.2 (fun y hy => hwf y (List.mem_cons_of_mem _ hy)) hp htk hal
      · intro t ht
        rcases List.mem_cons.mp (hin t ht) with e | e
        · subst e; have := hal t ht; omega
        · exact e
      · exact fun y hy => hcl y (List.mem_cons_of_mem _ hy)
    · -- inside a token that would have to come later: impossible
      exfalso
      obtain ⟨t, ht, hne, h1, h2, h3⟩ := hx
      have htL : t ∈ L := by
        rcases List.mem_cons.mp (hin t ht) with e | e
        · exact absurd e.symm hne
        · exact e
      have hk := hsx.1 t htL
      rw [keyLt_iff] at hk
      have w1 := hwf x List.mem_cons_self
      have w2 := (htk t ht).2
      omega

end BV
