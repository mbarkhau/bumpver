/-
  Proofs/Tie_cmdNormalizeSetVersion.lean — the definition GENERATED from the Python source of
  `cli._normalize_set_version` (Gen/F_cmdNormalizeSetVersion.lean, harness/translate_commands.py) equals the
  hand model on ALL inputs:

  * a pattern without braces (`isNewPattern`): `BV.normalizeSetVersion` (Model/Cli.lean) — the version is
    read through the pattern and rendered back; a `PatternError` gives the text back unchanged (the gate then
    reports it); every other exception propagates;
  * a pattern with a brace: the same with the legacy engine (`TieL.v1NormalizeSetVersion`, written here: the
    hand model has no legacy counterpart).

  The function has no effect on the state (no VCS invocation, no output): the result is `(s, …)`.

  One fact about the model is needed for the new-style case: `formatVersion` never answers `PatternError`
  (`formatVersion_not_pattern`; its only error is the ValueError of `_parse_segtree`).  The Python `try`
  block covers the `format_version` call as well; the hand model lets its errors propagate — equal, because
  none of them is a PatternError.
-/
import BumpverVerif.Gen.F_cmdNormalizeSetVersion
import BumpverVerif.Proofs.CmdLemmas
import BumpverVerif.Model.Cli
import BumpverVerif.Proofs.V2Lemmas
set_option linter.unusedSimpArgs false
namespace BV

/-! ### `format_version` (new-style) never raises PatternError -/

theorem TieL.formatVersion_not_pattern (v : VInfo) (raw : Str) : formatVersion v raw ≠ .error .pattern := by
  intro h
  unfold formatVersion at h
  split at h
  · rename_i e he
    cases h
    have := parseSegtree_valueError _ _ he
    cases this
  · cases h

namespace TieL

attribute [local irreducible] parseVersionInfo formatVersion v1ParseVersionInfo v1FormatVersion

/-- `_normalize_set_version` for a pattern with braces, written by hand: the legacy parser and formatter;
    a PatternError of EITHER gives the text back unchanged -/
def v1NormalizeSetVersion (pat v : Str) : Except V1Err Str :=
  match v1ParseVersionInfo v pat with
  | .error .pattern => .ok v
  | .error e => .error e
  | .ok vi =>
    match v1FormatVersion vi pat with
    | .error .pattern => .ok v
    | r => r

end TieL

open TieL in
theorem tie_normalizeSetVersion_new (today : Date) (pat v : Str) (hp : isNewPattern pat = true)
    (ce : CmdEnv) (s : CState) :
    GenL.normalizeSetVersion today pat v ce s = (s, ofV2 (BV.normalizeSetVersion pat v today)) := by
  unfold GenL.normalizeSetVersion BV.normalizeSetVersion
  -- the `isNewPattern_gen…` / `isOldPattern_gen…` lemmas are the spellings of the brace test the translator can emit
  -- (conjunction or negated disjunction, either order): whichever stands in the text becomes `isNewPattern pat`
  simp only [TieL.isNewPattern_gen', TieL.isNewPattern_gen'c, TieL.isNewPattern_gen'o, TieL.isNewPattern_gen'oc,
    TieL.isOldPattern_gen, TieL.isOldPattern_genc, hp, if_true, Bool.not_true, Bool.not_false, Bool.false_eq_true,
    if_false, pyV2ParseVersionInfo, pyV2FormatVersion]
  cases hpv : parseVersionInfo v pat today with
  | error e => cases e <;> cmd_simp [liftV2, CStop.isA, Exc.isPatternError]
  | ok vi =>
    have hnp := formatVersion_not_pattern vi pat
    cases hf : formatVersion vi pat with
    | error e =>
      rw [hf] at hnp
      cases e <;> first | (exact absurd rfl hnp) | cmd_simp [liftV2, CStop.isA, Exc.isPatternError]
    | ok r => cmd_simp [liftV2]

open TieL in
theorem tie_normalizeSetVersion_legacy (today : Date) (pat v : Str) (hp : isNewPattern pat = false)
    (ce : CmdEnv) (s : CState) :
    GenL.normalizeSetVersion today pat v ce s = (s, ofV1 (v1NormalizeSetVersion pat v)) := by
  unfold GenL.normalizeSetVersion v1NormalizeSetVersion
  simp only [TieL.isNewPattern_gen', TieL.isNewPattern_gen'c, TieL.isNewPattern_gen'o, TieL.isNewPattern_gen'oc,
    TieL.isOldPattern_gen, TieL.isOldPattern_genc, hp, Bool.false_eq_true, if_false, Bool.not_true, Bool.not_false,
    if_true, pyV1ParseVersionInfo, pyV1FormatVersion]
  cases hpv : v1ParseVersionInfo v pat with
  | error e => cases e <;> cmd_simp [liftV1, CStop.isA, Exc.isPatternError]
  | ok vi =>
    cases hf : v1FormatVersion vi pat with
    | error e => cases e <;> cmd_simp [liftV1, CStop.isA, Exc.isPatternError]
    | ok r => cmd_simp [liftV1]

/-- in words: the function never touches the state -/
theorem TieL.normalizeSetVersion_state (today : Date) (pat v : Str) (ce : CmdEnv) (s : CState) :
    (GenL.normalizeSetVersion today pat v ce s).1 = s := by
  cases hp : isNewPattern pat
  · rw [tie_normalizeSetVersion_legacy today pat v hp]
  · rw [tie_normalizeSetVersion_new today pat v hp]

end BV
