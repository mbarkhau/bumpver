/-
  Proofs/TokTie_Run.lean — a RUN (maximal sequence of literals and parts between brackets) as one text segment of
  `_format_segment`:
  * which (part, value) pairs are "used" (`isInfix`), and the flags `is_literal` / `is_zero`
    (`formatSegment_run_flags`);
  * the TEXT: un-escaping, then the sequential `str.replace` of the used part names by their values (longest name
    first) yields the concatenation of the literal characters and the part values (`formatSegment_run_result`).
-/
import BumpverVerif.Proofs.TokTie_Pvs
import BumpverVerif.Proofs.TokTie_Main
namespace BV

inductive Atom
  | lit (c : Char)
  | tok (n : Str)

/-- source text of an atom (`\[` `\]` escaped) -/
def Atom.text : Atom → Str
  | .lit c => litText c
  | .tok n => n

/-- item of an atom in the SOURCE text -/
def Atom.titem : Atom → Item
  | .lit c => .raw (litText c)
  | .tok n => .tok n

/-- item of an atom after un-escaping (`r3` in `_format_segment`) -/
def Atom.uitem : Atom → Item
  | .lit c => .raw [c]
  | .tok n => .tok n

def Atom.render (v : VInfo) : Atom → Str
  | .lit c => [c]
  | .tok n => (partText v n).getD n

def Atom.zero (v : VInfo) : Atom → Bool
  | .lit _ => true
  | .tok n => partIsZero v n

def Atom.isTok : Atom → Bool
  | .lit _ => false
  | .tok _ => true

def runText (run : List Atom) : Str := run.flatMap Atom.text
def runRender (v : VInfo) (run : List Atom) : Str := run.flatMap (Atom.render v)

theorem srcAll_titems (run : List Atom) : srcAll (run.map Atom.titem) = runText run := by
  induction run with
  | nil => rfl
  | cons a r ih => cases a <;> simp [srcAll_cons, Atom.titem, Item.src, runText, Atom.text] at ih ⊢ <;> exact ih

theorem tok_mem_titems {run : List Atom} {n : Str} : Item.tok n ∈ run.map Atom.titem ↔ Atom.tok n ∈ run := by
  induction run with
  | nil => simp
  | cons a r ih => cases a <;> simp [Atom.titem, ih]

theorem tok_mem_uitems {run : List Atom} {n : Str} : Item.tok n ∈ run.map Atom.uitem ↔ Atom.tok n ∈ run := by
  induction run with
  | nil => simp
  | cons a r ih => cases a <;> simp [Atom.uitem, ih]

theorem np_uitems (run : List Atom) (k : Str) :
    np (srcAll (run.map Atom.uitem) ++ k) = np (srcAll (run.map Atom.titem) ++ k) := by
  induction run with
  | nil => rfl
  | cons a r ih =>
    cases a with
    | lit c =>
      simp only [List.map_cons, srcAll_cons, Atom.uitem, Atom.titem, Item.src, List.append_assoc, np_litText]
      exact np_cons_congr c ih
    | tok n =>
      simp only [List.map_cons, srcAll_cons, Atom.uitem, Atom.titem, Item.src, List.append_assoc]
      exact np_append_any n ih

/-- un-escaping the literal brackets does not change leading runs of name characters (`np_uitems`), so the adjacency
    condition of the source text holds for the un-escaped text -/
theorem safeU_of_safeT (run : List Atom) (k : Str) (h : safeItemsK (run.map Atom.titem) k) :
    safeItemsK (run.map Atom.uitem) k := by
  induction run with
  | nil => trivial
  | cons a r ih =>
    cases a with
    | lit c =>
      refine ⟨fun o ho m hm => ?_, ih h.2⟩
      have hd : (litText c).drop ((litText c).length - 1) = [c] := by unfold litText; split <;> rfl
      have := h.1 ((litText c).length - 1) (by unfold litText; split <;> simp) m hm
      obtain rfl : o = 0 := Nat.lt_one_iff.mp ho
      rw [hd, prefix_transfer hm (np_append_any [c] (np_uitems r k).symm)] at this
      exact this
    | tok n =>
      refine ⟨fun o ho m hm hp => h.1 o ho m hm ?_, ih h.2⟩
      rw [← prefix_transfer hm (np_append_any (n.drop o) (np_uitems r k))]
      exact hp

/-! ### occurrences in an item list -/

theorem isInfix_srcAll_of_mem (items : List Item) (n : Str) (h : Item.tok n ∈ items) :
    isInfix n (srcAll items) = true := by
  obtain ⟨a, b, rfl⟩ := List.append_of_mem h
  rw [srcAll_append, srcAll_cons]
  exact isInfix_append_mid _ _ _

/-- under the adjacency condition, a part name that occurs in the text occurs inside a token -/
theorem items_occ_infix (items : List Item) (hs : safeItemsK items []) {m : Str} (hm : m ∈ partNames)
    (h : isInfix m (srcAll items) = true) : ∃ n, Item.tok n ∈ items ∧ isInfix m n = true := by
  unfold isInfix at h
  cases hf : findIdx m (srcAll items) with
  | none => rw [hf] at h; cases h
  | some i =>
    have hp := findIdx_some_prefix hf
    have hlen := prefix_drop_lt (name_ne_nil hm) hp
    have h0 : 0 < m.length := List.length_pos_iff.mpr (name_ne_nil hm)
    obtain ⟨t, ht, -, -, a3⟩ := occ_inside items [] 0 hs i (by omega) m hm (by rw [List.append_nil]; exact hp)
    exact ⟨t.name, (toks_facts items 0 t ht).2.2.2.1, isInfix_of_prefix_drop a3⟩

/-! ### the flags -/

theorem filter_count_flag {α} (l : List α) (Z : α → Bool) :
    (decide ((l.filter Z).length > 0) && ((l.filter Z).length == l.length)) = (!l.isEmpty && l.all Z) := by
  have hle := List.length_filter_le Z l
  by_cases hall : l.all Z = true
  · have : l.filter Z = l := List.filter_eq_self.mpr (fun a ha => List.all_eq_true.mp hall a ha)
    rw [this, hall]
    cases l <;> simp
  · have hall' : l.all Z = false := by simpa using hall
    have hne : (l.filter Z).length ≠ l.length := by
      intro e
      have := List.length_filter_eq_length_iff.mp e
      exact hall (List.all_eq_true.mpr (fun a ha => this a ha))
    have : ((l.filter Z).length == l.length) = false := by simpa using hne
    rw [this, hall']
    simp

structure RunHyp (v : VInfo) (run : List Atom) : Prop where
  names : ∀ n, Atom.tok n ∈ run → n ∈ partNames
  safeT : safeItemsK (run.map Atom.titem) []
  vals : ∀ n, Atom.tok n ∈ run → ∃ w, partText v n = some w

def usedOf (v : VInfo) (seg : Str) : List (Str × Str) := (formatPartValues v).filter (fun pv => isInfix pv.1 seg)

theorem tok_used {v : VInfo} {run : List Atom} {n w : Str} (hn : Atom.tok n ∈ run)
    (hw : partText v n = some w) : (n, w) ∈ usedOf v (runText run) := by
  refine List.mem_filter.mpr ⟨(mem_pvs_iff v n w).mpr hw, ?_⟩
  rw [← srcAll_titems]
  exact isInfix_srcAll_of_mem _ n (tok_mem_titems.mpr hn)

theorem used_tok {v : VInfo} {run : List Atom} (h : RunHyp v run) {m w : Str}
    (hu : (m, w) ∈ usedOf v (runText run)) :
    partText v m = some w ∧ m ∈ partNames ∧ ∃ n, Atom.tok n ∈ run ∧ isInfix m n = true := by
  obtain ⟨h1, h2⟩ := List.mem_filter.mp hu
  have hm := pvs_name_mem v m w h1
  rw [← srcAll_titems] at h2
  obtain ⟨n, hn, hi⟩ := items_occ_infix _ h.safeT hm h2
  exact ⟨(mem_pvs_iff v m w).mp h1, hm, n, tok_mem_titems.mp hn, hi⟩

theorem used_isEmpty {v : VInfo} {run : List Atom} (h : RunHyp v run) :
    (usedOf v (runText run)).isEmpty = !run.any Atom.isTok := by
  cases hany : run.any Atom.isTok with
  | true =>
    obtain ⟨a, ha, ht⟩ := List.any_eq_true.mp hany
    cases a with
    | lit c => cases ht
    | tok n =>
      obtain ⟨w, hw⟩ := h.vals n ha
      have := tok_used ha hw
      cases hu : usedOf v (runText run) with
      | nil => rw [hu] at this; cases this
      | cons _ _ => rfl
  | false =>
    cases hu : usedOf v (runText run) with
    | nil => rfl
    | cons x xs =>
      exfalso
      obtain ⟨m, w⟩ := x
      obtain ⟨-, -, n, hn, -⟩ := used_tok h (by rw [hu]; exact List.mem_cons_self)
      have : run.any Atom.isTok = true := List.any_eq_true.mpr ⟨_, hn, rfl⟩
      rw [hany] at this; cases this

theorem used_all_zero {v : VInfo} {run : List Atom} (h : RunHyp v run) (htc : tagCoh v = true) :
    (usedOf v (runText run)).all (fun pv => isZeroVal pv.1 pv.2) = run.all (Atom.zero v) := by
  cases hz : run.all (Atom.zero v) with
  | true =>
    rw [List.all_eq_true]
    rintro ⟨m, w⟩ hu
    obtain ⟨hw, hm, n, hn, hi⟩ := used_tok h hu
    have hnz : partIsZero v n = true := List.all_eq_true.mp hz _ hn
    by_cases hmn : m = n
    · subst hmn
      simpa [partIsZero, hw] using hnz
    · have hnn := h.names n hn
      rcases inner_zero hm hnn hmn hi with hnone | ⟨rfl, rfl⟩
      · obtain ⟨w', hw'⟩ := h.vals n hn
        simp [partIsZero, hw', isZeroVal, hnone] at hnz
      · -- TAG inside PYTAG: coherence
        rw [partText_TAG] at hw
        have hw : v.tag = w := Option.some.inj hw
        subst hw
        have hp : v.pytag = [] := by
          simp only [partIsZero, partText_PYTAG] at hnz
          have e : isZeroVal "PYTAG".toList v.pytag = (v.pytag == []) := rfl
          rw [e] at hnz
          simpa using hnz
        simp only [tagCoh, hp, List.isEmpty_nil, Bool.not_true, Bool.false_or, beq_iff_eq] at htc
        show isZeroVal "TAG".toList v.tag = true
        rw [htc]; decide
  | false =>
    obtain ⟨a, ha, hna⟩ : ∃ a ∈ run, Atom.zero v a = false := by
      have : ¬ (∀ a ∈ run, Atom.zero v a = true) := by
        intro hall; rw [List.all_eq_true.mpr hall] at hz; cases hz
      apply Classical.byContradiction
      intro hcon
      apply this
      intro a ha
      cases hq : Atom.zero v a with
      | true => rfl
      | false => exact absurd ⟨a, ha, hq⟩ hcon
    cases a with
    | lit c => cases hna
    | tok n =>
      obtain ⟨w, hw⟩ := h.vals n ha
      have hu := tok_used ha hw
      have hzv : isZeroVal n w = false := by simpa [Atom.zero, partIsZero, hw] using hna
      cases hall : (usedOf v (runText run)).all (fun pv => isZeroVal pv.1 pv.2) with
      | false => rfl
      | true =>
        have := List.all_eq_true.mp hall _ hu
        simp only at this
        rw [hzv] at this; cases this

structure RunHyp2 (v : VInfo) (run : List Atom) : Prop extends RunHyp v run where
  lits : ∀ c, Atom.lit c ∈ run → litOk c = true
  valok : ∀ n, Atom.tok n ∈ run → ValOk v n
  finj : ∀ n n', Atom.tok n ∈ run → Atom.tok n' ∈ run → fieldOf n = fieldOf n' → n = n'

/-! ### un-escaping -/

/-- the text of an atom while the brackets in `bs` are still escaped -/
def Atom.esc (bs : List Char) : Atom → Str
  | .lit c => if bs.contains c then ['\\', c] else [c]
  | .tok n => n

theorem runText_esc (run : List Atom) : runText run = run.flatMap (Atom.esc ['[', ']']) := by
  have : Atom.text = Atom.esc ['[', ']'] := by
    funext a
    cases a with
    | lit c => simp [Atom.text, litText, Atom.esc]
    | tok n => rfl
  rw [runText, this]

theorem srcAll_uitems (run : List Atom) : srcAll (run.map Atom.uitem) = run.flatMap (Atom.esc []) := by
  induction run with
  | nil => rfl
  | cons a r ih => cases a <;> simp [srcAll_cons, Atom.uitem, Item.src, Atom.esc, ih]

theorem nameChar_ne_bs {n : Str} (hn : n ∈ partNames) : '\\' ∉ n :=
  fun h => absurd (name_chars hn _ h) (by decide)

/-- one un-escaping step of `_format_segment`: `\b` becomes `b` -/
theorem unescape (b : Char) (bs : List Char) (hb : b ∉ bs) (run : List Atom)
    (hl : ∀ c, Atom.lit c ∈ run → litOk c = true) (hn : ∀ n, Atom.tok n ∈ run → n ∈ partNames) :
    replaceAll ['\\', b] [b] (run.flatMap (Atom.esc (b :: bs))) = run.flatMap (Atom.esc bs) := by
  refine replaceAll_flatMap _ _ (by simp) _ _ run fun a ha => ?_
  cases a with
  | tok n => exact .inr ⟨rfl, fun R => no_occ_of_head '\\' [b] n R (nameChar_ne_bs (hn n ha))⟩
  | lit c =>
    have hc : c ≠ '\\' := litOk_ne_bs (hl c ha)
    by_cases hcb : c = b
    · subst hcb
      exact .inl ⟨by simp [Atom.esc], by simp [Atom.esc, hb]⟩
    · have e : Atom.esc (b :: bs) (.lit c) = Atom.esc bs (.lit c) := by
        simp [Atom.esc, hcb]
      refine .inr ⟨e.symm, fun R o ho => ?_⟩
      rw [e] at ho ⊢
      simp only [Atom.esc] at ho ⊢
      by_cases hm : bs.contains c = true
      · rw [if_pos hm] at ho ⊢
        have hbc : (b == c) = false := beq_eq_false_iff_ne.mpr fun e => hcb e.symm
        obtain rfl | rfl : o = 0 ∨ o = 1 := by simp at ho; omega
        · simp [List.isPrefixOf, hbc]
        · exact no_occ_of_head '\\' [b] [c] R (by simpa using hc.symm) 0 (by simp)
      · rw [if_neg hm] at ho ⊢
        exact no_occ_of_head '\\' [b] [c] R (by simpa using hc.symm) o ho

theorem not_mem_runText (x : Char) (run : List Atom) (hx : x ≠ '\\') (hnx : nameChar x = false)
    (hl : ∀ c, Atom.lit c ∈ run → c ≠ x) (hn : ∀ n, Atom.tok n ∈ run → n ∈ partNames) : x ∉ runText run := by
  intro h
  simp only [runText, List.mem_flatMap] at h
  obtain ⟨a, ha, hxa⟩ := h
  cases a with
  | tok n =>
    have := name_chars (hn n ha) x hxa
    rw [hnx] at this; cases this
  | lit c =>
    simp only [Atom.text, litText] at hxa
    split at hxa
    · simp only [List.mem_cons, List.not_mem_nil, or_false] at hxa
      rcases hxa with e | e
      · exact hx e
      · exact hl c ha e.symm
    · simp only [List.mem_cons, List.not_mem_nil, or_false] at hxa
      exact hl c ha hxa.symm

/-! ### the replacement loop -/

def mapL (L : List (Str × Str)) : List Item → List Item
  | [] => []
  | .raw s :: r => .raw s :: mapL L r
  | .tok n :: r => (match lookup n L with | some w => Item.raw w | none => Item.tok n) :: mapL L r

theorem substTok_mapL (m w : Str) (L : List (Str × Str)) (items : List Item) :
    substTok m w (mapL L items) = mapL (L ++ [(m, w)]) items := by
  induction items with
  | nil => rfl
  | cons x r ih =>
    cases x with
    | raw s => simp [mapL, substTok, ih]
    | tok n =>
      simp only [mapL, lookup_append]
      cases hl : lookup n L with
      | some w' => simp [substTok, ih]
      | none =>
        simp only [substTok, ih, lookup]
        by_cases hn : n = m
        · subst hn; simp
        · simp [hn]

theorem mapL_no_tok (m w : Str) (L : List (Str × Str)) (items : List Item)
    (h : ∀ n, Item.tok n ∈ items → n ≠ m) : mapL (L ++ [(m, w)]) items = mapL L items := by
  induction items with
  | nil => rfl
  | cons x r ih =>
    have ihr := ih (fun n hn => h n (List.mem_cons_of_mem _ hn))
    cases x with
    | raw s => simp [mapL, ihr]
    | tok n =>
      have hn := h n List.mem_cons_self
      simp only [mapL, lookup_append, ihr]
      cases hl : lookup n L with
      | some w' => rfl
      | none => simp [lookup, hn]

theorem lookup_pvs (v : VInfo) (n : Str) : lookup n (formatPartValues v) = partText v n := by
  cases hl : lookup n (formatPartValues v) with
  | some w => exact ((mem_pvs_iff v n w).mp (lookup_mem hl)).symm
  | none =>
    cases hp : partText v n with
    | none => rfl
    | some w => exact absurd hl (lookup_ne_none_of_mem ((mem_pvs_iff v n w).mpr hp))

theorem srcAll_mapL_pvs (v : VInfo) (run : List Atom) :
    srcAll (mapL (formatPartValues v) (run.map Atom.uitem)) = runRender v run := by
  induction run with
  | nil => rfl
  | cons a r ih =>
    simp only [runRender, List.flatMap_cons] at ih ⊢
    cases a with
    | lit c => simp [mapL, Atom.uitem, srcAll_cons, Item.src, Atom.render, ih]
    | tok n =>
      simp only [List.map_cons, Atom.uitem, mapL, lookup_pvs, srcAll_cons, Atom.render, ih]
      cases partText v n <;> rfl

theorem tok_mem_mapL {L : List (Str × Str)} {items : List Item} {n : Str} (h : Item.tok n ∈ mapL L items) :
    Item.tok n ∈ items ∧ lookup n L = none := by
  induction items with
  | nil => cases h
  | cons x r ih =>
    cases x with
    | raw s =>
      simp only [mapL, List.mem_cons] at h
      rcases h with e | e
      · cases e
      · exact ⟨List.mem_cons_of_mem _ (ih e).1, (ih e).2⟩
    | tok n' =>
      simp only [mapL, List.mem_cons] at h
      rcases h with e | e
      · cases hl : lookup n' L with
        | some w => rw [hl] at e; cases e
        | none =>
          rw [hl] at e
          injection e with e'
          subst e'
          exact ⟨List.mem_cons_self, hl⟩
      · exact ⟨List.mem_cons_of_mem _ (ih e).1, (ih e).2⟩

/-- facts about the name that is replaced next -/
structure NextHyp (v : VInfo) (run : List Atom) (pre post : List (Str × Str)) (m w : Str) : Prop where
  split : formatPartValues v = pre ++ (m, w) :: post
  used : isInfix m (runText run) = true

theorem unreplaced_le {v : VInfo} {run : List Atom} (h : RunHyp2 v run) {pre post : List (Str × Str)} {m w : Str}
    (hx : NextHyp v run pre post m w) {n : Str} (hn : Atom.tok n ∈ run) (hl : lookup n pre = none) :
    n.length ≤ m.length := by
  obtain ⟨wn, hwn⟩ := h.vals n hn
  have hmem := (mem_pvs_iff v n wn).mpr hwn
  have hs := pvs_sorted v
  rw [hx.split] at hmem hs
  have hnotpre : (n, wn) ∉ pre := fun hin => lookup_ne_none_of_mem hin hl
  rcases List.mem_append.mp hmem with e | e
  · exact absurd e hnotpre
  · rcases List.mem_cons.mp e with e | e
    · cases e; exact Nat.le_refl _
    · have := (List.pairwise_append.mp hs).2.1
      exact (List.pairwise_cons.mp this).1 _ e

theorem mapped_pre {v : VInfo} {run : List Atom} (h : RunHyp2 v run) {pre post : List (Str × Str)} {m w : Str}
    (hx : NextHyp v run pre post m w) :
    ∀ sub : List Atom, (∀ a ∈ sub, a ∈ run) → Mapped m (sub.map Atom.uitem) (mapL pre (sub.map Atom.uitem)) := by
  intro sub
  induction sub with
  | nil => intro _; exact Mapped.nil
  | cons a r ih =>
    intro hsub
    have ihr := ih (fun x hx' => hsub x (List.mem_cons_of_mem _ hx'))
    have ha := hsub a List.mem_cons_self
    cases a with
    | lit c =>
      have hc := h.lits c ha
      refine Mapped.text _ [c] _ _ ⟨by simp, ?_⟩ ihr
      intro x hxm
      have : x = c := by simpa using hxm
      subst this
      simp only [litOk, Bool.and_eq_true, Bool.not_eq_true'] at hc
      exact hc.1.1.1
    | tok n =>
      simp only [List.map_cons, Atom.uitem, mapL]
      cases hl : lookup n pre with
      | none => exact Mapped.keep n _ _ ⟨h.names n ha, unreplaced_le h hx ha hl⟩ ihr
      | some w' =>
        obtain ⟨w'', h1, h2, h3⟩ := h.valok n ha
        have hmem : (n, w') ∈ formatPartValues v := by
          rw [hx.split]; exact List.mem_append_left _ (lookup_mem hl)
        have := (mem_pvs_iff v n w').mp hmem
        rw [h1] at this
        have e : w'' = w' := Option.some.inj this
        subst e
        exact Mapped.text _ w'' _ _ ⟨h2, h3⟩ ihr

theorem clean_next {v : VInfo} {run : List Atom} (h : RunHyp2 v run) {pre post : List (Str × Str)} {m w : Str}
    (hx : NextHyp v run pre post m w) : cleanFor m (mapL pre (run.map Atom.uitem)) := by
  have hmem : (m, w) ∈ formatPartValues v := by rw [hx.split]; simp
  have hm := pvs_name_mem v m w hmem
  apply cleanFor_of_mapped m hm (mapped_pre h hx run (fun a ha => ha))
    (safeU_of_safeT run [] h.safeT)
  intro hled n hn hhd
  obtain ⟨hn1, hn2⟩ := tok_mem_mapL hn
  have hnr := tok_mem_uitems.mp hn1
  have hle := unreplaced_le h hx hnr hn2
  have hnn := h.names n hnr
  have hf : fieldOf n = fieldOf m := (digitLed_facts hm hnn hled).2.2 hhd hle
  -- m is a token of the run
  have hmtok : Atom.tok m ∈ run := by
    have hu : (m, w) ∈ usedOf v (runText run) := List.mem_filter.mpr ⟨hmem, hx.used⟩
    obtain ⟨-, -, n0, hn0, hi⟩ := used_tok h.toRunHyp hu
    rw [(digitLed_facts hm (h.names n0 hn0) hled).2.1 hi]; exact hn0
  have e := h.finj n m hnr hmtok hf
  subst e
  obtain ⟨k, X, hk, hX, hmk⟩ := digitLed_form hled
  obtain ⟨k', rfl⟩ : ∃ k', k = k' + 1 := ⟨k - 1, by omega⟩
  have h1 : n.head? = some '0' := by rw [hmk]; rfl
  have h2 : n.getLast? = some X := by
    rw [hmk, getLast?_append_ne_nil _ [X] (by simp)]; rfl
  rw [h1, h2] at hhd
  exact upper_ne_zero hX (Option.some.inj hhd).symm

theorem fold_used {v : VInfo} {run : List Atom} (h : RunHyp2 v run) :
    ∀ (post pre : List (Str × Str)), formatPartValues v = pre ++ post →
      (post.filter (fun pv => isInfix pv.1 (runText run))).foldl (fun acc pv => replaceAll pv.1 pv.2 acc)
          (srcAll (mapL pre (run.map Atom.uitem))) =
        srcAll (mapL (formatPartValues v) (run.map Atom.uitem)) := by
  intro post
  induction post with
  | nil => intro pre hs; rw [List.append_nil] at hs; rw [hs]; rfl
  | cons x post ih =>
    intro pre hs
    obtain ⟨m, w⟩ := x
    have hs' : formatPartValues v = (pre ++ [(m, w)]) ++ post := by rw [hs]; simp
    by_cases hP : isInfix m (runText run) = true
    · have hmem : (m, w) ∈ formatPartValues v := by rw [hs]; simp
      have hm := name_ne_nil (pvs_name_mem v m w hmem)
      rw [List.filter_cons_of_pos (by simpa using hP), List.foldl_cons]
      simp only
      rw [replaceAll_items m w hm _ (clean_next h ⟨hs, hP⟩), substTok_mapL]
      exact ih _ hs'
    · rw [List.filter_cons_of_neg (by simpa using hP)]
      have := ih _ hs'
      rw [mapL_no_tok] at this
      · exact this
      · intro n hn e
        subst e
        apply hP
        rw [← srcAll_titems]
        exact isInfix_srcAll_of_mem _ n (tok_mem_titems.mpr (tok_mem_uitems.mp hn))

/-- the flags of `_format_segment` on a run -/
theorem formatSegment_run_flags {v : VInfo} {run : List Atom} (h : RunHyp v run) (htc : tagCoh v = true) :
    (formatSegment (runText run) (formatPartValues v)).isLiteral = !run.any Atom.isTok ∧
    (formatSegment (runText run) (formatPartValues v)).isZero = (run.any Atom.isTok && run.all (Atom.zero v)) := by
  have he := used_isEmpty h
  have hz := used_all_zero h htc
  have hf := filter_count_flag (usedOf v (runText run)) (fun pv => isZeroVal pv.1 pv.2)
  unfold usedOf at he hz hf
  unfold formatSegment
  simp only
  cases hany : run.any Atom.isTok with
  | false =>
    rw [hany] at he
    simp only [Bool.not_false] at he
    simp [he]
  | true =>
    rw [hany] at he
    simp only [Bool.not_true] at he
    simp only [he, Bool.false_eq_true, if_false, Bool.true_and]
    rw [hf, he, hz]
    cases run.all (Atom.zero v) <;> simp

/-- THE TEXT of `_format_segment` on a run: literal characters and part values -/
theorem formatSegment_run_result {v : VInfo} {run : List Atom} (h : RunHyp2 v run) :
    (formatSegment (runText run) (formatPartValues v)).result = runRender v run := by
  have hres : (formatSegment (runText run) (formatPartValues v)).result =
      ((formatPartValues v).filter (fun pv => isInfix pv.1 (runText run))).foldl
        (fun acc pv => replaceAll pv.1 pv.2 acc)
        (replaceAll "\\]".toList "]".toList (replaceAll "\\[".toList "[".toList
          (replaceAll "$".toList [] (replaceAll "^".toList [] (runText run))))) := by
    unfold formatSegment
    simp only
    split
    · rfl
    · split <;> rfl
  rw [hres]
  have hl' : ∀ c, Atom.lit c ∈ run → litOk c = true := h.lits
  have e1 : replaceAll "^".toList [] (runText run) = runText run :=
    replaceAll_no_head '^' [] [] _ (not_mem_runText '^' run (by decide) (by decide)
      (fun c hc e => by have := hl' c hc; rw [e] at this; exact absurd this (by decide)) h.names)
  have e2 : replaceAll "$".toList [] (runText run) = runText run :=
    replaceAll_no_head '$' [] [] _ (not_mem_runText '$' run (by decide) (by decide)
      (fun c hc e => by have := hl' c hc; rw [e] at this; exact absurd this (by decide)) h.names)
  rw [e1, e2]
  have e3 : replaceAll ['\\', '['] ['['] (runText run) = run.flatMap (Atom.esc [']']) := by
    rw [runText_esc]; exact unescape '[' [']'] (by decide) run hl' h.names
  rw [show "\\[".toList = ['\\', '['] from rfl, show "[".toList = ['['] from rfl, e3,
    show "\\]".toList = ['\\', ']'] from rfl, show "]".toList = [']'] from rfl,
    unescape ']' [] (by decide) run hl' h.names, ← srcAll_uitems]
  have := fold_used h (formatPartValues v) [] rfl
  have hm0 : ∀ items : List Item, mapL [] items = items := by
    intro items
    induction items with
    | nil => rfl
    | cons x r ih => cases x <;> simp [mapL, lookup, ih]
  rw [hm0] at this
  rw [this, srcAll_mapL_pvs]

end BV
