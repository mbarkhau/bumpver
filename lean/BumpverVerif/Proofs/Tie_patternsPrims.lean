/-
  Proofs/Tie_patternsPrims.lean — a LEMMA LIBRARY (no tie in it) about the trusted primitives of the function translator
  `harness/translate_patterns.py` (Gen/PatternsPrims.lean, namespace `BV.PyP`): loops that can raise (`forM`,
  `mapM`), normal forms of `if` tests, slices / `getItem` / `find` at natural-number arguments, bounds of `findIdx`.
  Used by the ties of the group `patterns`.
-/
import BumpverVerif.Gen.PatternsPrims
import BumpverVerif.Proofs.PatternLemmas
namespace BV.PyP

/-- a raising loop whose body never raises on the states that occur is a `foldl`
    (`abs` relates a model state to the state of the generated loop) -/
theorem forM_abs {σ τ α : Type} (body : σ → α → Option σ) (f : τ → α → τ) (abs : τ → σ) (xs : List α)
    (h : ∀ x ∈ xs, ∀ t, body (abs t) x = some (abs (f t x))) (t : τ) :
    forM body xs (abs t) = some (abs (xs.foldl f t)) := by
  induction xs generalizing t with
  | nil => rfl
  | cons x xs ih =>
    simp only [forM, h x List.mem_cons_self t, List.foldl_cons]
    exact ih (fun y hy => h y (List.mem_cons_of_mem _ hy)) _

/-- "some iteration raises": `r s x` says that the body raises in state `s` on item `x`, `f` is the
    state transformer of the iterations that do not raise -/
def raisesAlong {σ α : Type} (r : σ → α → Bool) (f : σ → α → σ) : List α → σ → Bool
  | [], _ => false
  | x :: xs, s => r s x || raisesAlong r f xs (f s x)

/-- a raising loop, exactly: `none` iff some iteration raises, otherwise the `foldl` -/
theorem forM_raises {σ α : Type} (body : σ → α → Option σ) (f : σ → α → σ) (r : σ → α → Bool) (xs : List α)
    (h : ∀ x ∈ xs, ∀ s, body s x = if r s x then none else some (f s x)) (s : σ) :
    forM body xs s = if raisesAlong r f xs s then none else some (xs.foldl f s) := by
  induction xs generalizing s with
  | nil => rfl
  | cons x xs ih =>
    simp only [forM, h x List.mem_cons_self s, raisesAlong, List.foldl_cons]
    by_cases hr : r s x = true
    · simp [hr]
    · simp only [hr, Bool.false_eq_true, if_false, Bool.false_or]
      exact ih (fun y hy => h y (List.mem_cons_of_mem _ hy)) _

/-- no iteration raises when an invariant of the states excludes it -/
theorem raisesAlong_false {σ α : Type} (r : σ → α → Bool) (f : σ → α → σ) (P : σ → Prop) (xs : List α)
    (hr : ∀ x ∈ xs, ∀ s, P s → r s x = false) (hf : ∀ x ∈ xs, ∀ s, P s → P (f s x)) (s : σ) (hs : P s) :
    raisesAlong r f xs s = false := by
  induction xs generalizing s with
  | nil => rfl
  | cons x xs ih =>
    simp only [raisesAlong, hr x List.mem_cons_self s hs, Bool.false_or]
    exact ih (fun y hy => hr y (List.mem_cons_of_mem _ hy)) (fun y hy => hf y (List.mem_cons_of_mem _ hy)) _
      (hf x List.mem_cons_self s hs)

/-! ### normal form of `if` tests (so that `if not c: A else: B` and `if c: B else: A`, or two guards merged
    with `or`, give the same term) -/

theorem ite_bnot {α : Type} (c : Bool) (x y : α) :
    (if (!c) = true then x else y) = if c = true then y else x := by cases c <;> rfl

theorem ite_bor {α : Type} (a b : Bool) (x y : α) :
    (if (a || b) = true then x else y) = if a = true then x else if b = true then x else y := by
  cases a <;> cases b <;> rfl

theorem ite_band {α : Type} (a b : Bool) (x y : α) :
    (if (a && b) = true then x else y) = if a = true then (if b = true then x else y) else y := by
  cases a <;> cases b <;> rfl

/-- a loop that appends `f x` (which can raise) to a list is the raising comprehension -/
theorem forM_append_mapM {α β : Type} (f : α → Option β) (body : List β → α → Option (List β))
    (h : ∀ acc x, body acc x = match f x with | none => none | some y => some (acc ++ [y])) :
    ∀ (xs : List α) (acc : List β), forM body xs acc = (mapM f xs).map (acc ++ ·)
  | [], acc => by simp [forM, mapM]
  | x :: xs, acc => by
    simp only [forM, mapM, h]
    cases hx : f x with
    | none => rfl
    | some y =>
      simp only [forM_append_mapM f body h xs (acc ++ [y])]
      cases mapM f xs <;> simp

theorem mapM_some {α β : Type} (f : α → Option β) (g : α → β) (xs : List α)
    (h : ∀ x ∈ xs, f x = some (g x)) : mapM f xs = some (xs.map g) := by
  induction xs with
  | nil => rfl
  | cons x xs ih =>
    simp only [mapM, h x List.mem_cons_self, ih (fun y hy => h y (List.mem_cons_of_mem _ hy)), List.map_cons]

theorem clamp_natCast (n k : Nat) : clamp n (k : Int) = min n k := by
  have h0 : ¬ ((k : Int) < 0) := by omega
  simp only [clamp, h0, if_false, Int.toNat_natCast]

theorem sliceTo_natCast (s : Str) (k : Nat) : sliceTo s (k : Int) = s.take k := by
  simp only [sliceTo, clamp_natCast]
  rcases Nat.le_total s.length k with h | h
  · rw [Nat.min_eq_left h, List.take_of_length_le (Nat.le_refl _), List.take_of_length_le h]
  · rw [Nat.min_eq_right h]

theorem sliceFrom_natCast (s : Str) (k : Nat) : sliceFrom s (k : Int) = s.drop k := by
  simp only [sliceFrom, clamp_natCast]
  rcases Nat.le_total s.length k with h | h
  · rw [Nat.min_eq_left h, List.drop_of_length_le (Nat.le_refl _), List.drop_of_length_le h]
  · rw [Nat.min_eq_right h]

theorem sliceFrom_one (s : Str) : sliceFrom s 1 = s.drop 1 := sliceFrom_natCast s 1

/-- `s.find(sub, e)` for `0 ≤ e`, nothing found -/
theorem find_natCast_none (s sub : Str) (e : Nat)
    (h : findIdx sub (s.drop e) = none) : find s sub (e : Int) = -1 := by
  have h0 : ¬ ((e : Int) < 0) := by omega
  simp only [find, h0, if_false, Int.toNat_natCast, h]
  split <;> rfl

/-- `s.find(sub, e)` for `0 ≤ e`: the model's `findIdx` on the rest of the string -/
theorem find_natCast_some (s sub : Str) (e i : Nat) (hsub : sub ≠ [])
    (h : findIdx sub (s.drop e) = some i) : find s sub (e : Int) = ((e + i : Nat) : Int) := by
  have h0 : ¬ ((e : Int) < 0) := by omega
  have hlen : ¬ e > s.length := by
    intro hgt
    have hd : s.drop e = [] := List.drop_of_length_le (by omega)
    rw [hd] at h
    cases sub with
    | nil => exact hsub rfl
    | cons c cs => simp [findIdx] at h
  simp only [find, h0, if_false, Int.toNat_natCast, hlen, h]
  rfl

theorem find_zero_none (s sub : Str) (h : findIdx sub s = none) : find s sub 0 = -1 := by
  have := find_natCast_none s sub 0 (by simpa using h)
  simpa using this

theorem find_zero_some (s sub : Str) (i : Nat) (hsub : sub ≠ []) (h : findIdx sub s = some i) :
    find s sub 0 = (i : Int) := by
  have := find_natCast_some s sub 0 i hsub (by simpa using h)
  simpa using this

/-- `s[-2]` -/
theorem getItem_neg_two (s : Str) :
    getItem s (-1 - 1) = if s.length < 2 then none else (s[s.length - 2]?).map (fun c => [c]) := by
  have e : ((-1 : Int) - 1) = -2 := by omega
  rw [e]
  by_cases h : s.length < 2
  · have h1 : (-2 : Int) < 0 := by omega
    have h2 : ((s.length : Int) + -2) < 0 := by omega
    simp only [getItem, h1, if_true, Int.ofNat_eq_natCast, h2, h]
  · have h1 : (-2 : Int) < 0 := by omega
    have h2 : ¬ ((s.length : Int) + -2) < 0 := by omega
    have h3 : ((s.length : Int) + -2).toNat = s.length - 2 := by omega
    simp only [getItem, h1, if_true, Int.ofNat_eq_natCast, h2, if_false, h, h3]

theorem findIdx_le {sub s : Str} {i : Nat} (h : findIdx sub s = some i) : i ≤ s.length := by
  induction s generalizing i with
  | nil =>
    simp only [findIdx] at h
    split at h <;> simp_all
  | cons x xs ih =>
    simp only [findIdx] at h
    split at h
    · cases h; simp
    · cases hf : findIdx sub xs with
      | none => simp [hf] at h
      | some j =>
        simp [hf] at h
        subst h
        have := ih hf
        simp; omega

theorem findIdx_add_le {sub s : Str} {i : Nat} (h : findIdx sub s = some i) : i + sub.length ≤ s.length := by
  have hp := List.isPrefixOf_iff_prefix.mp (findIdx_some_prefix h)
  have hl := hp.length_le
  have := findIdx_le h
  simp only [List.length_drop] at hl
  omega

/-- an occurrence found by `findIdx` lies inside the string -/
theorem findIdx_bound {sub s : Str} {i : Nat} (h : findIdx sub s = some i) :
    i + sub.length ≤ s.length ∨ (sub = [] ∧ i ≤ s.length) ∨ s.length < i :=
  .inl (findIdx_add_le h)

theorem getItem_natCast (s : Str) (k : Nat) : getItem s (k : Int) = (s[k]?).map (fun c => [c]) := by
  have h0 : ¬ ((k : Int) < 0) := by omega
  simp only [getItem, h0, if_false, Int.toNat_natCast]

theorem replace_of_ne (pat rep s : Str) (h : pat ≠ []) : replace pat rep s = replaceAll pat rep s := by
  cases pat with
  | nil => exact absurd rfl h
  | cons c cs => simp [replace]

theorem replaceAll_nil (rep s : Str) : replaceAll [] rep s = s := by
  cases s with
  | nil => simp [replaceAll, replaceAllF]
  | cons c cs => simp [replaceAll, replaceAllF]

end BV.PyP
