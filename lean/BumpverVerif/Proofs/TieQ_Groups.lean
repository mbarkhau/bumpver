/-
  Proofs/TieQ_Groups.lean — the model-side matcher `groupsOf` (Model/PepGroups.lean: the recogniser of
  Model/Pep440.lean, reporting the TEXTS of the named groups) against the model's own parser `parsePep`:

      TieQ.SearchOk groupsOf   -- ∀ s, (groupsOf s).map ofGroups = parsePep s

  i.e. the reference `ofGroups` (to which the generated `Version.__init__` is tied for ALL group values,
  Proofs/Tie_pepVersionInit.lean) composed with the model's group extraction is the model's `parsePep`.
  Here, segment by segment:
    * `splitOn_join_dot`   : `".".join(pieces).split(".") = pieces` for dot-free pieces (the release group);
    * `letterGroups_spec`  : what `letterGroups` reports (letter word, digits) is, through the reference
                             `letterVersion`, exactly what the model's `letterSeg` reads (pre / post-letter / dev groups);
    * `firstPrefixW_spec`, `tables_norm` (the normal form of every word of the model's tables is `normLetter` of it).
  The assembly over `groupsCore` / `parseCore` (epoch head, `-N` post form, local group) is
  `TieQ.searchOk_groupsOf`, Proofs/TieQ_SearchOk.lean.
-/
import BumpverVerif.Proofs.Tie_pepParse
set_option linter.unusedSimpArgs false
namespace BV
namespace TieQ

/-! ### `split(".")` of a dotted join of dot-free pieces -/

theorem splitOnF_dot_cons (f : Nat) (cur : Str) (c : Char) (cs : Str) :
    splitOnF (f + 1) ['.'] cur (c :: cs)
      = if c = '.' then cur.reverse :: splitOnF f ['.'] [] cs else splitOnF f ['.'] (c :: cur) cs := by
  rw [splitOnF]
  by_cases h : c = '.'
  · subst h
    simp [List.isPrefixOf]
  · have h2 : ('.' == c) = false := by simpa using fun e => h e.symm
    simp [List.isPrefixOf, h, h2]

theorem splitOnF_nil (f : Nat) (cur : Str) : splitOnF f ['.'] cur [] = [cur.reverse] := by
  cases f <;> simp [splitOnF]

theorem splitOnF_dot_piece (p : Str) (hp : ∀ c ∈ p, c ≠ '.') : ∀ (f : Nat) (cur rest : Str),
    splitOnF (f + p.length) ['.'] cur (p ++ rest) = splitOnF f ['.'] (p.reverse ++ cur) rest := by
  induction p with
  | nil => intro f cur rest; simp
  | cons c cs ih =>
    intro f cur rest
    have hc : c ≠ '.' := hp c List.mem_cons_self
    have hlen : f + (c :: cs).length = (f + cs.length) + 1 := by simp only [List.length_cons]; omega
    rw [hlen, List.cons_append, splitOnF_dot_cons, if_neg hc, ih (fun d hd => hp d (List.mem_cons_of_mem _ hd))]
    simp [List.reverse_cons, List.append_assoc]

theorem splitOn_join_dot (p : Str) (ps : List Str) (h : ∀ q ∈ p :: ps, ∀ c ∈ q, c ≠ '.') :
    splitOn ['.'] (join ['.'] (p :: ps)) = p :: ps := by
  induction ps generalizing p with
  | nil =>
    have h1 := splitOnF_dot_piece p (h p List.mem_cons_self) 1 [] []
    simp only [List.append_nil] at h1
    simp only [join, splitOn]
    rw [Nat.add_comm, h1, splitOnF_nil, List.reverse_reverse]
  | cons q qs ih =>
    have hj : join ['.'] (p :: q :: qs) = p ++ ('.' :: join ['.'] (q :: qs)) := by simp [join]
    have hlen : (p ++ '.' :: join ['.'] (q :: qs)).length + 1 = ((join ['.'] (q :: qs)).length + 1 + 1) + p.length := by
      simp only [List.length_append, List.length_cons]; omega
    rw [hj, splitOn, hlen, splitOnF_dot_piece p (h p List.mem_cons_self), splitOnF_dot_cons, if_pos rfl]
    simp only [List.append_nil, List.reverse_reverse]
    congr 1
    have := ih q (fun r hr => h r (List.mem_cons_of_mem _ hr))
    rw [splitOn] at this
    exact this

/-! ### letter segments -/

theorem tables_norm : ∀ p ∈ preWords ++ postWords ++ devWords, normLetter p.1 = p.2 ∧ p.1.isEmpty = false := by decide +kernel

theorem firstPrefixW_spec (words : List (Str × Str)) (t : Str) :
    (firstPrefixW words t = none ∧ firstPrefix words t = none) ∨
    ∃ w norm r, (w, norm) ∈ words ∧ firstPrefixW words t = some (w, r) ∧ firstPrefix words t = some (norm, r) := by
  induction words with
  | nil => left; exact ⟨rfl, rfl⟩
  | cons p rest ih =>
    obtain ⟨w, nm⟩ := p
    simp only [firstPrefixW, firstPrefix]
    cases hd : dropPrefix? w t with
    | some r => right; exact ⟨w, nm, r, List.mem_cons_self, rfl, rfl⟩
    | none =>
      rcases ih with ⟨h1, h2⟩ | ⟨w', n', r', hm, h1, h2⟩
      · left; exact ⟨h1, h2⟩
      · right; exact ⟨w', n', r', List.mem_cons_of_mem _ hm, h1, h2⟩

theorem letterVersion_optDigits (w : Str) (hw : w.isEmpty = false) (d : Str) :
    letterVersion (some w) (optDigits d) = some (normLetter w, strToNat d) := by
  cases d with
  | nil => simp [letterVersion, optDigits, hw, strToNat]
  | cons c cs => simp [letterVersion, optDigits, hw]

/-- what `letterGroups` reports is what `letterSeg` reads -/
theorem letterGroups_spec (words : List (Str × Str)) (hsub : ∀ p ∈ words, p ∈ preWords ++ postWords ++ devWords)
    (s : Str) :
    (letterGroups words s = none ∧ letterSeg words s = none) ∨
    ∃ w n r x, letterGroups words s = some (w, n, r) ∧ letterSeg words s = some (x, r) ∧
      letterVersion (some w) n = some x := by
  simp only [letterGroups, letterSeg]
  rcases firstPrefixW_spec words (dropOptSep s) with ⟨h1, h2⟩ | ⟨w, nm, r, hm, h1, h2⟩
  · left; rw [h1, h2]; exact ⟨rfl, rfl⟩
  · right
    rw [h1, h2]
    have ht := tables_norm (w, nm) (hsub _ hm)
    refine ⟨w, _, _, _, rfl, rfl, ?_⟩
    rw [letterVersion_optDigits w ht.2, ht.1]

end TieQ

/-! ### `groupsOf` then `ofGroups` is `parsePep`, evaluated on samples -/

example : (groupsOf "v1!2.03-RC.4.post5-dev+Ab_1".toList).map ofGroups
    = some { epoch := 1, release := [2, 3], pre := some ("rc".toList, 4), post := some 5, dev := some 0,
             loc := some [.str "ab".toList, .num 1] } := by decide +kernel

example : (groupsOf "v1!2.03-RC.4.post5-dev+Ab_1".toList).map ofGroups = parsePep "v1!2.03-RC.4.post5-dev+Ab_1".toList := by decide +kernel
example : (groupsOf " 1.0-1 ".toList).map ofGroups = parsePep " 1.0-1 ".toList := by decide +kernel
example : (groupsOf "2024.1a".toList).map ofGroups = parsePep "2024.1a".toList := by decide +kernel
example : (groupsOf "1.0.dev".toList).map ofGroups = parsePep "1.0.dev".toList := by decide +kernel
example : (groupsOf "1.0rev2_alpha".toList).map ofGroups = parsePep "1.0rev2_alpha".toList := by decide +kernel
example : (groupsOf "1.0+".toList).map ofGroups = parsePep "1.0+".toList := by decide +kernel
example : (groupsOf "v201811.0007-beta".toList).map ofGroups = parsePep "v201811.0007-beta".toList := by decide +kernel

end BV
