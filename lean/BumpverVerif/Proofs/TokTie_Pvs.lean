/-
  Proofs/TokTie_Pvs.lean — `_format_part_values`: the (part, value) list is exactly the graph of `partText`,
  sorted by name length (longest first); and the values of parts in their domain (`partOk`) are non-empty texts
  without upper-case letters.
-/
import BumpverVerif.Proofs.TokTie_Clean
import BumpverVerif.Proofs.PartRows
namespace BV

/-! ### table facts -/

theorem tbl_tags :
    Gen.validReleaseTagValues.all (fun t => !t.isEmpty && t.all (fun c => !isUpper c)) = true ∧
    Gen.pep440TagByTag.all (fun e => e.2.all (fun c => !isUpper c)) = true := by
  decide +kernel

/-! ### insertion keeps members and order -/

theorem mem_insertByKeyLenDesc {x a : Str × Str} {l : List (Str × Str)} :
    x ∈ insertByKeyLenDesc a l ↔ x = a ∨ x ∈ l :=
  mem_insert_iff (fun x y : Str × Str => x.1.length > y.1.length) insertByKeyLenDesc (fun _ => rfl)
    (fun _ _ _ => rfl)

def LenSorted (l : List (Str × Str)) : Prop := l.Pairwise (fun a b => b.1.length ≤ a.1.length)

theorem insertByKeyLenDesc_sorted (a : Str × Str) (l : List (Str × Str)) (h : LenSorted l) :
    LenSorted (insertByKeyLenDesc a l) := by
  induction l with
  | nil => simp [insertByKeyLenDesc, LenSorted]
  | cons y ys ih =>
    have hy := List.pairwise_cons.mp h
    simp only [insertByKeyLenDesc]
    split
    · rename_i hgt
      refine List.pairwise_cons.mpr ⟨fun z hz => ?_, h⟩
      rcases List.mem_cons.mp hz with e | e
      · subst e; omega
      · have := hy.1 z e; omega
    · rename_i hle
      refine List.pairwise_cons.mpr ⟨fun z hz => ?_, ih hy.2⟩
      rcases mem_insertByKeyLenDesc.mp hz with e | e
      · subst e; omega
      · exact hy.1 z e

theorem foldl_insert_mem (items acc : List (Str × Str)) (x : Str × Str) :
    x ∈ items.foldl (fun acc x => insertByKeyLenDesc x acc) acc ↔ x ∈ acc ∨ x ∈ items :=
  (mem_foldl_insert_iff (fun x y : Str × Str => x.1.length > y.1.length) insertByKeyLenDesc (fun _ => rfl)
    (fun _ _ _ => rfl)).trans or_comm

theorem foldl_insert_sorted (items acc : List (Str × Str)) (h : LenSorted acc) :
    LenSorted (items.foldl (fun acc x => insertByKeyLenDesc x acc) acc) := by
  induction items generalizing acc with
  | nil => exact h
  | cons a items ih => exact ih _ (insertByKeyLenDesc_sorted a acc h)

theorem pvs_sorted (v : VInfo) : LenSorted (formatPartValues v) :=
  foldl_insert_sorted _ [] List.Pairwise.nil

/-! ### membership = `partText` -/

theorem mem_pvs_iff (v : VInfo) (n w : Str) : (n, w) ∈ formatPartValues v ↔ partText v n = some w := by
  unfold formatPartValues
  rw [foldl_insert_mem]
  simp only [List.not_mem_nil, false_or, List.mem_filterMap]
  constructor
  · rintro ⟨⟨n', f⟩, hmem, hg⟩
    have hl := lookup_of_mem_nodup tbl_names.2.2.2.1 hmem
    simp only at hg
    cases hget : v.get f with
    | none => rw [hget] at hg; cases hg
    | nat x =>
      rw [hget] at hg
      cases hk : lookup n' Gen.partFormats with
      | none => rw [hk] at hg; cases hg
      | some k =>
        rw [hk] at hg
        simp only [Option.some.injEq, Prod.mk.injEq] at hg
        obtain ⟨rfl, rfl⟩ := hg
        simp [partText, hl, hk, hget]
    | str s =>
      rw [hget] at hg
      cases hk : lookup n' Gen.partFormats with
      | none => rw [hk] at hg; cases hg
      | some k =>
        rw [hk] at hg
        simp only [Option.some.injEq, Prod.mk.injEq] at hg
        obtain ⟨rfl, rfl⟩ := hg
        simp [partText, hl, hk, hget]
  · intro h
    unfold partText at h
    cases hl : lookup n Gen.partFields with
    | none => rw [hl] at h; cases h
    | some f =>
      cases hk : lookup n Gen.partFormats with
      | none => rw [hl, hk] at h; cases h
      | some k =>
        rw [hl, hk] at h
        simp only at h
        refine ⟨(n, f), lookup_mem hl, ?_⟩
        simp only [hk]
        cases hget : v.get f with
        | none => rw [hget] at h; cases h
        | nat x => rw [hget] at h; simp only [Option.some.injEq] at h; rw [← h]
        | str s => rw [hget] at h; simp only [Option.some.injEq] at h; rw [← h]

theorem pvs_name_mem (v : VInfo) (n w : Str) (h : (n, w) ∈ formatPartValues v) : n ∈ partNames := by
  have h' := (mem_pvs_iff v n w).mp h
  unfold partText at h'
  cases hl : lookup n Gen.partFields with
  | none => rw [hl] at h'; cases h'
  | some f =>
    have := List.all_eq_true.mp tbl_names.2.2.2.2 (n, f) (lookup_mem hl)
    simp only [Bool.and_eq_true, List.contains_eq_mem, decide_eq_true_eq] at this
    exact this.1

/-! ### values of parts in their domain -/

def ValOk (v : VInfo) (n : Str) : Prop := ∃ w, partText v n = some w ∧ w ≠ [] ∧ noUpper w

theorem noUpper_of_allDigits {w : Str} (h : allDigits w = true) : noUpper w := by
  intro c hc
  exact digit_not_upper (List.all_eq_true.mp h c hc)

theorem val_of_partOk (v : VInfo) (n : Str) (hok : partOk v n = true) : ValOk v n := by
  have digits : ∀ w, partText v n = some w → w ≠ [] → allDigits w = true → ValOk v n :=
    fun w h1 h2 h3 => ⟨w, h1, h2, noUpper_of_allDigits h3⟩
  cases hl : lookup n partDoms with
  | none => simp only [partOk, hl] at hok; cases hok
  | some d =>
    have hok' := hok
    rw [partOk_eq hl] at hok
    cases partCase n d hl with
    | @cal _ _ _ kd _ _ row =>
      obtain ⟨x, hx, -⟩ := row.value v hok'
      exact digits _ (row.text v x hx) (fmtValue_ne_nil kd x) (allDigits_fmtValue kd x)
    | major => exact digits _ (partText_major v) (natToStr_ne_nil _) (allDigits_natToStr _)
    | minor => exact digits _ (partText_minor v) (natToStr_ne_nil _) (allDigits_natToStr _)
    | patch => exact digits _ (partText_patch v) (natToStr_ne_nil _) (allDigits_natToStr _)
    | num => exact digits _ (partText_num v) (natToStr_ne_nil _) (allDigits_natToStr _)
    | inc0 => exact digits _ (partText_inc0 v) (natToStr_ne_nil _) (allDigits_natToStr _)
    | inc1 => exact digits _ (partText_inc1 v) (natToStr_ne_nil _) (allDigits_natToStr _)
    | build =>
      have hb := (isDigitStr_iff _).mp hok
      exact digits _ (partText_BUILD v) hb.1 hb.2
    | bld => exact digits _ (partText_BLD v) (natToStr_ne_nil _) (allDigits_natToStr _)
    | tag =>
      simp only [tagOk, List.contains_eq_mem, decide_eq_true_eq] at hok
      have := List.all_eq_true.mp tbl_tags.1 v.tag hok
      simp only [Bool.and_eq_true, Bool.not_eq_true', List.isEmpty_eq_false_iff, List.all_eq_true] at this
      exact ⟨v.tag, partText_TAG v, this.1, fun c hc => by simpa using this.2 c hc⟩
    | pytag =>
      simp only [pytagOk, Bool.and_eq_true, beq_iff_eq, Bool.not_eq_true', List.isEmpty_eq_false_iff] at hok
      have := List.all_eq_true.mp tbl_tags.2 _ (lookup_mem hok.1.2)
      simp only [List.all_eq_true, Bool.not_eq_true'] at this
      exact ⟨v.pytag, partText_PYTAG v, hok.2, fun c hc => this c hc⟩

end BV
