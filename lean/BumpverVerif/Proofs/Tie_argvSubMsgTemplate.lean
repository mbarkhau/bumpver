/-
  Proofs/Tie_argvSubMsgTemplate.lean — source-level tie for `cli._sub_msg_template` (Gen/F_argvSubMsgTemplate.lean;
  property C12: the OLD / NEW shorthand of `--commit-message` / `--tag-message`).

  The generated definition is `re.sub(<pattern literal>, <replacement literal>, message)` with the two LITERALS of
  the source; `re.sub` is the small generic regex substitution `BV.TieK.reSub` of Model/EffK.lean (parse the
  pattern, parse the replacement template, scan left to right, first match in backtracking order).  The tie
  proves that for the literals of the working tree this is the hand-written state machine `subMsgTemplate`
  (Model/Vcs.lean) on EVERY message:

      tie_argvSubMsgTemplate : (∀ c ∈ m, w.isWord c = isWordChar c) →
          argvSubMsgTemplate m w s = (s, .ok (subMsgTemplate m))

  HYPOTHESIS (a genuine model / Python difference, reported): Python's `\b` is Unicode aware — for a `str` pattern
  `\w` contains every alphanumeric character of any script — while the hand model's `isWordChar` is ASCII only.
  `w.isWord` stands for Python's class; the tie needs it to agree with the model's on the characters of the
  message (in particular: every ASCII message).  Witness on the real code:
  `cli._sub_msg_template("éOLD") == "éOLD"` (no boundary between `é` and `O`), the model answers
  `"é{OLD_VERSION}"` (`subMsg_nonascii_witness` below); the driver answers `unsupported` for non-ASCII messages.
-/
import BumpverVerif.Gen.F_argvSubMsgTemplate
import BumpverVerif.Proofs.ArgvLemmas
namespace BV.TieK
open BV.TieK.Gen

/-! ### the matcher on literal words -/

theorem lit_m (isW : Char → Bool) : ∀ (w : Str) (c0 : Char) (st : RSt),
    (Rx.lit (c0 :: w)).m isW st =
      if (c0 :: w).isPrefixOf st.rest then
        [{ prev := (c0 :: w).getLast?, rest := st.rest.drop (c0 :: w).length, caps := st.caps }]
      else [] := by
  intro w
  induction w with
  | nil =>
    intro c0 st
    obtain ⟨prev, rest, caps⟩ := st
    cases rest with
    | nil => simp [Rx.lit, Rx.m]
    | cons x r =>
      by_cases h : x = c0
      · subst h; simp [Rx.lit, Rx.m]
      · have h' : ¬ c0 = x := fun e => h e.symm
        simp [Rx.lit, Rx.m, h, h']
  | cons c1 w ih =>
    intro c0 st
    obtain ⟨prev, rest, caps⟩ := st
    cases rest with
    | nil => simp [Rx.lit, Rx.m]
    | cons x r =>
      by_cases h : x = c0
      · subst h
        have hc : (Rx.chr x).m isW { prev := prev, rest := x :: r, caps := caps }
            = [{ prev := some x, rest := r, caps := caps }] := by simp [Rx.m]
        show ((Rx.chr x).m isW _).flatMap ((Rx.lit (c1 :: w)).m isW) = _
        rw [hc, List.flatMap_cons, List.flatMap_nil, List.append_nil, ih]
        simp only [List.isPrefixOf, beq_self_eq_true, Bool.true_and, List.getLast?_cons_cons, List.length_cons,
          List.drop_succ_cons]
      · have h' : ¬ c0 = x := fun e => h e.symm
        simp [Rx.lit, Rx.m, h, h']

theorem isPrefixOf_split {wd s : Str} (h : wd.isPrefixOf s = true) : ∃ r, s = wd ++ r :=
  (List.isPrefixOf_iff_prefix.1 h).imp fun _ hr => hr.symm

theorem ite_flatMap {α β : Type} (c : Prop) [Decidable c] (a : α) (f : α → List β) :
    (if c then [a] else []).flatMap f = if c then f a else [] := by
  split <;> simp

theorem ite_map {α β : Type} (c : Prop) [Decidable c] (a : α) (f : α → β) :
    (if c then [a] else []).map f = if c then [f a] else [] := by
  split <;> rfl

/-- the model's test "does the word `wd` start here, with a boundary on both sides" -/
def hitM (prevWord : Bool) (s wd : Str) : Bool :=
  !prevWord && wd.isPrefixOf s && !((s.drop wd.length).head?.map isWordChar).getD false

theorem bounded_alt_m (isW : Char → Bool) (i : Nat) (a b : Rx) (st : RSt) :
    (Rx.seq .wordB (.seq (.grp i (.alt a b)) (.seq .wordB .eps))).m isW st =
      (Rx.seq .wordB (.seq (.grp i a) (.seq .wordB .eps))).m isW st ++
        (Rx.seq .wordB (.seq (.grp i b) (.seq .wordB .eps))).m isW st := by
  simp only [Rx.m]
  split
  · simp only [List.flatMap_cons, List.flatMap_nil, List.append_nil, List.map_append, List.flatMap_append]
  · rfl

theorem bounded_lit_m (isW : Char → Bool) (i : Nat) (c0 : Char) (w : Str) (prev : Option Char) (s : Str)
    (hwd : ∀ c ∈ c0 :: w, isWordChar c = true)
    (hs : ∀ c ∈ s, isW c = isWordChar c) (hp : ∀ c, prev = some c → isW c = isWordChar c) :
    (Rx.seq .wordB (.seq (.grp i (Rx.lit (c0 :: w))) (.seq .wordB .eps))).m isW { prev := prev, rest := s, caps := [] } =
      if hitM ((prev.map isWordChar).getD false) s (c0 :: w) then
        [{ prev := (c0 :: w).getLast?, rest := s.drop (c0 :: w).length, caps := [(i, c0 :: w)] }]
      else [] := by
  have hprev : (prev.map isW).getD false = (prev.map isWordChar).getD false := by
    cases prev with
    | none => rfl
    | some c => simp [hp c rfl]
  by_cases hpre : (c0 :: w).isPrefixOf s = true
  · obtain ⟨r, rfl⟩ := isPrefixOf_split hpre
    have hW : ∀ c ∈ c0 :: w, isW c = true := fun c hc => by rw [hs c (List.mem_append_left r hc)]; exact hwd c hc
    have hlast : (((c0 :: w).getLast?).map isW).getD false = true := by
      rw [List.getLast?_eq_some_getLast (List.cons_ne_nil c0 w)]
      exact hW _ (List.getLast_mem _)
    have hnext : (r.head?.map isW).getD false = (r.head?.map isWordChar).getD false := by
      cases r with
      | nil => rfl
      | cons x r => simp [hs x (by simp)]
    have hdrop : ((c0 :: w) ++ r).drop (c0 :: w).length = r := List.drop_left
    have htake : ((c0 :: w) ++ r).take (((c0 :: w) ++ r).length - r.length) = c0 :: w := by
      rw [List.length_append, Nat.add_sub_cancel]; exact List.take_left
    have hhead : (((c0 :: w) ++ r).head?.map isW).getD false = true := hW c0 (List.mem_cons_self ..)
    simp only [Rx.m, lit_m, ite_flatMap, ite_map, hpre, if_true, hdrop, htake, atBoundary, hprev, hlast, hnext, hhead, hitM, Bool.and_true]
    cases (prev.map isWordChar).getD false <;> cases (r.head?.map isWordChar).getD false <;> rfl
  · have hpre' : (c0 :: w).isPrefixOf s = false := Bool.eq_false_iff.mpr hpre
    simp only [Rx.m, lit_m, ite_flatMap, ite_map, hitM, hpre', Bool.and_false, Bool.false_and, Bool.false_eq_true,
      if_false, ite_self]

/-! ### the regex and the replacement of the working tree -/

def OLDs : Str := ['O', 'L', 'D']
def NEWs : Str := ['N', 'E', 'W']

/-- `\b(OLD|NEW)\b` -/
def msgRx : Rx := .seq .wordB (.seq (.grp 1 (.alt (Rx.lit OLDs) (Rx.lit NEWs))) (.seq .wordB .eps))

/-- `{\1_VERSION}` -/
def msgRepl : List RPiece :=
  [.lit '{', .ref 1, .lit '_', .lit 'V', .lit 'E', .lit 'R', .lit 'S', .lit 'I', .lit 'O', .lit 'N', .lit '}']

/-- what the regex finds at a position: the first (and only) match, if the word starts here -/
theorem msgRx_head (isW : Char → Bool) (prev : Option Char) (s : Str)
    (hs : ∀ c ∈ s, isW c = isWordChar c) (hp : ∀ c, prev = some c → isW c = isWordChar c) :
    ((msgRx.m isW { prev := prev, rest := s, caps := [] }).head?) =
      if hitM ((prev.map isWordChar).getD false) s OLDs then
        some { prev := some 'D', rest := s.drop 3, caps := [(1, OLDs)] }
      else if hitM ((prev.map isWordChar).getD false) s NEWs then
        some { prev := some 'W', rest := s.drop 3, caps := [(1, NEWs)] }
      else none := by
  rw [msgRx, bounded_alt_m, OLDs, NEWs, bounded_lit_m isW 1 _ _ prev s (by decide) hs hp,
    bounded_lit_m isW 1 _ _ prev s (by decide) hs hp]
  split
  · rfl
  · split <;> rfl

/-! ### the scanning loop is the model's state machine -/

theorem subMsgGo_zero_cons (pw : Bool) (c : Char) (r : Str) :
    subMsgGo 0 pw (c :: r) =
      if hitM pw (c :: r) OLDs then "{OLD_VERSION}".toList ++ subMsgGo 2 true r
      else if hitM pw (c :: r) NEWs then "{NEW_VERSION}".toList ++ subMsgGo 2 true r
      else c :: subMsgGo 0 (isWordChar c) r := rfl

theorem reSubGo_eq (isW : Char → Bool) : ∀ (n : Nat) (s : Str) (prev : Option Char), s.length ≤ n →
    (∀ c ∈ s, isW c = isWordChar c) → (∀ c, prev = some c → isW c = isWordChar c) →
    reSubGo isW msgRx msgRepl 0 prev s = subMsgGo 0 ((prev.map isWordChar).getD false) s := by
  intro n
  induction n with
  | zero =>
    intro s prev hn _ _
    cases s with
    | nil => rfl
    | cons c r => simp at hn
  | succ n ih =>
    intro s prev hn hs hp
    cases s with
    | nil => rfl
    | cons c r =>
      -- after a hit on a word of three word characters both machines pass over its last two and go on alike
      have hit : ∀ wd : Str, wd.length = 3 → (∀ d ∈ wd, isWordChar d = true) → wd.isPrefixOf (c :: r) = true →
          reSubGo isW msgRx msgRepl ((c :: r).length - ((c :: r).drop 3).length - 1) (some c) r = subMsgGo 2 true r := by
        intro wd hlen hwd hpre
        obtain ⟨r', hr'⟩ := isPrefixOf_split hpre
        match wd, hlen with
        | [c0, c1, c2], _ =>
          simp only [List.cons_append, List.nil_append, List.cons.injEq] at hr'
          obtain ⟨rfl, rfl⟩ := hr'
          have h2 := hwd c2 (by simp)
          have := ih r' (some c2) (by simp at hn ⊢; omega) (fun d hd => hs d (by simp [hd]))
            (fun d hd => by cases hd; exact hs c2 (by simp))
          rw [Option.map_some, Option.getD_some, h2] at this
          have hlen' : (c :: c1 :: c2 :: r').length - ((c :: c1 :: c2 :: r').drop 3).length - 1 = 2 := by
            simp only [List.length_cons, List.drop_succ_cons, List.drop_zero]; omega
          rw [hlen']
          simp only [reSubGo, subMsgGo, this]
      -- the replacement text, so that no string literal is left in the goal
      have eO : expandRepl [(1, OLDs)] msgRepl = "{OLD_VERSION}".toList := by decide +kernel
      have eN : expandRepl [(1, NEWs)] msgRepl = "{NEW_VERSION}".toList := by decide +kernel
      rw [subMsgGo_zero_cons, ← eO, ← eN, reSubGo, msgRx_head isW prev (c :: r) hs hp]
      by_cases hO : hitM ((prev.map isWordChar).getD false) (c :: r) OLDs = true
      · rw [if_pos hO, if_pos hO]
        exact congrArg (expandRepl [(1, OLDs)] msgRepl ++ ·) (hit OLDs rfl (by decide) (by simp only [hitM, Bool.and_eq_true] at hO; exact hO.1.2))
      · rw [if_neg hO, if_neg hO]
        by_cases hN : hitM ((prev.map isWordChar).getD false) (c :: r) NEWs = true
        · rw [if_pos hN, if_pos hN]
          exact congrArg (expandRepl [(1, NEWs)] msgRepl ++ ·) (hit NEWs rfl (by decide) (by simp only [hitM, Bool.and_eq_true] at hN; exact hN.1.2))
        · rw [if_neg hN, if_neg hN]
          exact congrArg (c :: ·) (ih r (some c) (by simp at hn ⊢; omega) (fun d hd => hs d (by simp [hd]))
            (fun d hd => by cases hd; exact hs c (by simp)))

/-! ### the tie -/

theorem parse_msgRx :
    parseRx ['\\', 'b', '(', 'O', 'L', 'D', '|', 'N', 'E', 'W', ')', '\\', 'b'] = some msgRx := by decide +kernel

theorem parse_msgRepl :
    parseRepl ['{', '\\', '1', '_', 'V', 'E', 'R', 'S', 'I', 'O', 'N', '}'] = some msgRepl := by decide +kernel

/-- `re.sub(r"\b(OLD|NEW)\b", r"{\1_VERSION}", m)` is the hand model's `subMsgTemplate m` -/
theorem reSub_msg (isW : Char → Bool) (m : Str) (hm : ∀ c ∈ m, isW c = isWordChar c) :
    reSub isW ['\\', 'b', '(', 'O', 'L', 'D', '|', 'N', 'E', 'W', ')', '\\', 'b']
      ['{', '\\', '1', '_', 'V', 'E', 'R', 'S', 'I', 'O', 'N', '}'] m = some (subMsgTemplate m) := by
  unfold reSub
  rw [parse_msgRx, parse_msgRepl]
  have h1 : (msgRx.nullable || decide (msgRx.groups < RPiece.maxRef msgRepl)) = false := by decide
  simp only [h1, Bool.false_eq_true, if_false]
  rw [reSubGo_eq isW m.length m none (Nat.le_refl _) hm (fun c hc => by cases hc)]
  rfl

theorem tie_argvSubMsgTemplate (m : Str) (w : World) (s : List KEv) (hm : ∀ c ∈ m, w.isWord c = isWordChar c) :
    argvSubMsgTemplate m w s = (s, .ok (subMsgTemplate m)) := by
  unfold argvSubMsgTemplate
  simp only [Eff.bind_pure_right, Eff.reSub, reSub_msg w.isWord m hm]

/-- in particular for every ASCII message, when the world's word class is Python's on ASCII -/
theorem tie_argvSubMsgTemplate_ascii (m : Str) (w : World) (s : List KEv)
    (hw : ∀ c : Char, c.toNat < 128 → w.isWord c = isWordChar c) (hm : ∀ c ∈ m, c.toNat < 128) :
    argvSubMsgTemplate m w s = (s, .ok (subMsgTemplate m)) :=
  tie_argvSubMsgTemplate m w s (fun c hc => hw c (hm c hc))

/-- the witness for the hypothesis: with a word class that contains `é` (as Python's does) the generic `re.sub`
    leaves `éOLD` alone, the ASCII model rewrites it -/
theorem subMsg_nonascii_witness :
    reSub (fun c => isWordChar c || c == 'é') ['\\', 'b', '(', 'O', 'L', 'D', '|', 'N', 'E', 'W', ')', '\\', 'b']
        ['{', '\\', '1', '_', 'V', 'E', 'R', 'S', 'I', 'O', 'N', '}'] ['é', 'O', 'L', 'D'] = some ['é', 'O', 'L', 'D']
      ∧ subMsgTemplate ['é', 'O', 'L', 'D'] = 'é' :: "{OLD_VERSION}".toList := by
  constructor <;> decide +kernel

end BV.TieK
