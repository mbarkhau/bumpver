/-
  Proofs/TokTie_Seg.lean — `_parse_segtree` (the stack machine over `"[" + raw + "]"`) on the source text of a
  tree: the segment tree is the structural one (`parseSegtree_text`): maximal runs of literals / parts become one
  text segment, optional groups become branches.
-/
import BumpverVerif.Proofs.TokTie_Text
namespace BV

/-- the pending text as a segment (an empty text segment is never emitted) -/
def flushS (cur : Str) : List Seg := if cur.isEmpty then [] else [Seg.lit cur]

/-- the structural segment tree; `cur` = pending text of the current segment -/
def Pat.segsGo : Pat → Str → List Seg
  | .done, cur => flushS cur
  | .lit c rest, cur => Pat.segsGo rest (cur ++ litText c)
  | .part n rest, cur => Pat.segsGo rest (cur ++ n)
  | .opt body rest, cur => flushS cur ++ Seg.grp (Pat.segsGo body []) :: Pat.segsGo rest []

def flushSeg (cur : Str) (top : List Seg) : List Seg := if cur.isEmpty then top else Seg.lit cur.reverse :: top

/-- the state of the stack machine after reading the text of a tree: (items of the open branch reversed,
    pending text reversed) -/
def pushPat : Pat → List Seg × Str → List Seg × Str
  | .done, st => st
  | .lit c rest, (top, cur) => pushPat rest (top, (litText c).reverse ++ cur)
  | .part n rest, (top, cur) => pushPat rest (top, n.reverse ++ cur)
  | .opt body rest, (top, cur) =>
    let b := pushPat body ([], [])
    pushPat rest (Seg.grp (flushSeg b.2 b.1).reverse :: flushSeg cur top, [])

theorem flushSeg_reverse (cur : Str) (top : List Seg) :
    (flushSeg cur top).reverse = top.reverse ++ flushS cur.reverse := by
  cases cur <;> simp [flushSeg, flushS]

theorem flush_pushPat (p : Pat) (top : List Seg) (cur : Str) :
    (flushSeg (pushPat p (top, cur)).2 (pushPat p (top, cur)).1).reverse = top.reverse ++ p.segsGo cur.reverse := by
  induction p generalizing top cur with
  | done => simp only [pushPat, Pat.segsGo, flushSeg_reverse]
  | lit c rest ih => simp only [pushPat, Pat.segsGo, ih, List.reverse_append, List.reverse_reverse]
  | part n rest ih => simp only [pushPat, Pat.segsGo, ih, List.reverse_append, List.reverse_reverse]
  | opt body rest ihb ihr =>
    simp only [pushPat, Pat.segsGo, ihr, ihb, List.reverse_nil, List.nil_append, List.reverse_cons, flushSeg_reverse,
      List.append_assoc, List.cons_append]

/-- a character that is not a bracket is appended to the pending text -/
theorem segtreeGo_plain (stack : List (List Seg)) (cur : Str) (prev : Option Char) (c : Char) (r : Str)
    (h1 : c ≠ '[') (h2 : c ≠ ']') :
    segtreeGo stack cur prev (c :: r) = segtreeGo stack (c :: cur) (some c) r := by
  have e1 : (c == '[') = false := by simpa using h1
  have e2 : (c == ']') = false := by simpa using h2
  simp [segtreeGo, e1, e2]

theorem segtreeGo_name (stack : List (List Seg)) (n : Str) (hn : ∀ c ∈ n, nameChar c = true) (hne : n ≠ []) :
    ∀ (cur : Str) (prev : Option Char) (k : Str),
      ∃ prev', prev' ≠ some '\\' ∧
        segtreeGo stack cur prev (n ++ k) = segtreeGo stack (n.reverse ++ cur) prev' k := by
  induction n with
  | nil => exact absurd rfl hne
  | cons c r ih =>
    intro cur prev k
    obtain ⟨h1, h2, h3⟩ := plainCh_iff.mp (nameChar_not_special (hn c List.mem_cons_self)).2
    rw [List.cons_append, segtreeGo_plain _ _ _ _ _ h1 h2]
    cases r with
    | nil => exact ⟨some c, by simpa using h3, by simp⟩
    | cons d r' =>
      obtain ⟨prev', hp, e⟩ := ih (fun x hx => hn x (List.mem_cons_of_mem _ hx)) (by simp) (c :: cur) (some c) k
      exact ⟨prev', hp, by rw [e]; simp⟩

theorem segtreeGo_litText (stack : List (List Seg)) (c : Char) (hc : litOk c = true) (cur : Str) (prev : Option Char)
    (_hprev : prev ≠ some '\\') (k : Str) :
    ∃ prev', prev' ≠ some '\\' ∧
      segtreeGo stack cur prev (litText c ++ k) = segtreeGo stack ((litText c).reverse ++ cur) prev' k := by
  have hbs : c ≠ '\\' := litOk_ne_bs hc
  by_cases h1 : c = '['
  · subst h1
    refine ⟨some '[', by decide, ?_⟩
    have e : litText '[' = ['\\', '['] := by decide
    rw [e]
    simp only [List.cons_append, List.nil_append]
    rw [segtreeGo_plain _ _ _ _ _ (by decide) (by decide)]
    simp [segtreeGo]
  · by_cases h2 : c = ']'
    · subst h2
      refine ⟨some ']', by decide, ?_⟩
      have e : litText ']' = ['\\', ']'] := by decide
      rw [e]
      simp only [List.cons_append, List.nil_append]
      rw [segtreeGo_plain _ _ _ _ _ (by decide) (by decide)]
      simp [segtreeGo]
    · have e : litText c = [c] := by simp [litText, h1, h2]
      rw [e]
      refine ⟨some c, by simpa using hbs, ?_⟩
      simp only [List.cons_append, List.nil_append]
      rw [segtreeGo_plain _ _ _ _ _ h1 h2]
      simp

/-- the stack machine on the text of a tree -/
theorem segtreeGo_text (p : Pat) : ∀ (top : List Seg) (rest : List (List Seg)) (cur : Str) (prev : Option Char) (k : Str),
    prev ≠ some '\\' → p.shapeOk = true →
    ∃ prev', prev' ≠ some '\\' ∧
      segtreeGo (top :: rest) cur prev (p.text ++ k) =
        segtreeGo ((pushPat p (top, cur)).1 :: rest) (pushPat p (top, cur)).2 prev' k := by
  induction p with
  | done => intro top rest cur prev k hp _; exact ⟨prev, hp, rfl⟩
  | lit c r ih =>
    intro top rest cur prev k hp hs
    simp only [Pat.shapeOk, Bool.and_eq_true] at hs
    obtain ⟨p1, hp1, e1⟩ := segtreeGo_litText (top :: rest) c hs.1 cur prev hp (r.text ++ k)
    obtain ⟨p2, hp2, e2⟩ := ih top rest ((litText c).reverse ++ cur) p1 k hp1 hs.2
    exact ⟨p2, hp2, by simp only [Pat.text_lit, List.append_assoc, pushPat]; rw [e1, e2]⟩
  | part n r ih =>
    intro top rest cur prev k hp hs
    simp only [Pat.shapeOk, Bool.and_eq_true] at hs
    have hm := mem_partNames_of_lookup hs.1.1
    obtain ⟨p1, hp1, e1⟩ := segtreeGo_name (top :: rest) n (name_chars hm) (name_ne_nil hm) cur prev (r.text ++ k)
    obtain ⟨p2, hp2, e2⟩ := ih top rest (n.reverse ++ cur) p1 k hp1 hs.2
    exact ⟨p2, hp2, by simp only [Pat.text_part, List.append_assoc, pushPat]; rw [e1, e2]⟩
  | opt b r ihb ihr =>
    intro top rest cur prev k hp hs
    simp only [Pat.shapeOk, Bool.and_eq_true] at hs
    have hesc : (prev == some '\\') = false := by simpa using hp
    obtain ⟨p1, hp1, e1⟩ := ihb [] (flushSeg cur top :: rest) [] (some '[') (']' :: (r.text ++ k)) (by decide) hs.1.2
    have hesc1 : (p1 == some '\\') = false := by simpa using hp1
    obtain ⟨p2, hp2, e2⟩ := ihr (Seg.grp (flushSeg (pushPat b ([], [])).2 (pushPat b ([], [])).1).reverse :: flushSeg cur top)
      rest [] (some ']') k (by decide) hs.2
    refine ⟨p2, hp2, ?_⟩
    simp only [Pat.text_opt, List.cons_append, List.append_assoc, pushPat]
    rw [← e2]
    have step1 : segtreeGo (top :: rest) cur prev ('[' :: (b.text ++ ']' :: (r.text ++ k))) =
        segtreeGo ([] :: flushSeg cur top :: rest) [] (some '[') (b.text ++ ']' :: (r.text ++ k)) := by
      simp [segtreeGo, hesc, flushSeg]
    rw [step1, e1]
    simp [segtreeGo, hesc1, flushSeg]

/-- `_parse_segtree` on the source text of a tree -/
theorem parseSegtree_text (p : Pat) (h : p.shapeOk = true) : parseSegtree p.text = .ok (p.segsGo []) := by
  unfold parseSegtree
  have step1 : segtreeGo [[]] [] none ('[' :: p.text ++ [']']) =
      segtreeGo ([] :: [[]]) [] (some '[') (p.text ++ [']']) := by
    simp [segtreeGo]
  obtain ⟨p1, hp1, e1⟩ := segtreeGo_text p [] [[]] [] (some '[') [']'] (by decide) h
  have hesc1 : (p1 == some '\\') = false := by simpa using hp1
  rw [step1, e1]
  have hf := flush_pushPat p [] []
  simp only [List.reverse_nil, List.nil_append] at hf
  simp [segtreeGo, hesc1]
  simpa only [flushSeg, List.isEmpty_iff] using hf

end BV
