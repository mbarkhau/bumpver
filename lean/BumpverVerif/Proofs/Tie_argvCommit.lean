/-
  Proofs/Tie_argvCommit.lean — source-level tie for the VALUES `vcs.VCSAPI.commit` passes to `VCSAPI.__call__`
  (Gen/F_argvCommit.lean; property C12).  Proofs/Tie_vcsCommit.lean fixes the SEQUENCE of
  subcommands; here the keyword arguments, the environment and — for Mercurial's commit — the temporary log file are
  visible.  `tie_argvCommit`: generated definition = reference, for EVERY `VCSAPI` object (any name, any template
  table), all strings, worlds and traces; stated with `callRef` (= `__call__`, Proofs/Tie_argvCall.lean).
  The composition down to the argument vector of the process that runs: Proofs/Tie_argvEndToEnd.lean.
-/
import BumpverVerif.Gen.F_argvCommit
import BumpverVerif.Proofs.Tie_argvCall
set_option linter.unusedSimpArgs false
namespace BV.TieK
open BV.TieK.Gen

/-- `VCSAPI.commit(message)`.  git: the message is the keyword argument `message`, the environment a copy of
    `os.environ`.  Otherwise (hg): the message is written (UTF-8) to a fresh temporary file, which is closed; the
    command gets the file's NAME as keyword argument `path` and `HGENCODING=utf-8` in its environment; the file is
    unlinked whatever the command did. -/
def commitRef (self : VcsApi) (message : Str) : Eff Unit := fun w s =>
  if self.name = ['g', 'i', 't'] then
    unitOf (callRef self ['c', 'o', 'm', 'm', 'i', 't'] (some w.environ) [(['m', 'e', 's', 's', 'a', 'g', 'e'], message)] w s)
  else
    let p := w.tmpName s
    let s1 := KEv.tmpClose p :: KEv.tmpWrite p (utf8Encode message) :: KEv.tmpCreate p :: s
    let r := callRef self ['c', 'o', 'm', 'm', 'i', 't'] (some (dictSet ['H', 'G', 'E', 'N', 'C', 'O', 'D', 'I', 'N', 'G'] ['u', 't', 'f', '-', '8'] w.environ))
      [(['p', 'a', 't', 'h'], p)] w s1
    (KEv.unlink p :: r.1, r.2.map (fun _ => ()))

theorem tie_argvCommit (self : VcsApi) (message : Str) : argvCommit self message = commitRef self message := by
  funext w s
  unfold argvCommit commitRef
  simp only [tie_argvCall]
  by_cases hg : self.name = ['g', 'i', 't']
  · have hg' : (self.name == ['g', 'i', 't']) = true := by rw [hg]; rfl
    have hgn : (self.name != ['g', 'i', 't']) = false := by simp only [bne, hg', Bool.not_true]
    rw [if_pos hg]
    simp only [hg', hgn, Bool.false_eq_true, ↓reduceIte, Eff.bind, Eff.mkTemp, Eff.tryFinally, Eff.tmpWrite, Eff.tmpClose,
      Eff.unlink, Eff.environ, Eff.pure, unitOf]
    rcases callRef self _ _ _ w s with ⟨s', r⟩
    cases r <;> rfl
  · have hg' : (self.name == ['g', 'i', 't']) = false := by
      apply Bool.eq_false_iff.mpr
      intro h; exact hg (by simpa using h)
    have hgn : (self.name != ['g', 'i', 't']) = true := by simp only [bne, hg', Bool.not_false]
    rw [if_neg hg]
    simp only [hg', hgn, Bool.false_eq_true, ↓reduceIte, Eff.bind, Eff.environ, Eff.pure, Eff.mkTemp, Eff.tryFinally,
      Eff.tmpWrite, Eff.tmpClose, Eff.unlink]
    rcases callRef self _ _ _ w _ with ⟨s', r⟩
    cases r <;> rfl

end BV.TieK
