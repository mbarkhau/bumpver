/-
  Proofs/TokTie_Format.lean — THE RENDERING TIE: `format_version` (segment tree + `_format_segment_tree` +
  `_format_segment`'s sequential `str.replace`) on the source text of a `tokSafe` tree renders exactly what the
  structural renderer `Pat.render` renders, for every tag/pytag-coherent record (`tagCoh`) in which every rendered
  part has a value that is a non-empty text without upper-case letters (`TieN.valok`,
  `formatVersion_text_of_valok`); in particular for every record in the domain of the rendered parts (`Pat.vok`,
  `formatVersion_text`).
-/
import BumpverVerif.Proofs.TokTie_Run
import BumpverVerif.Proofs.TokTie_Seg
namespace BV

/-! ### the adjacency condition along a run -/

/-- the pending run `run` while the rest `p` of a tree (followed by the text `k`) is walked -/
structure Static (run : List Atom) (p : Pat) (k : Str) : Prop where
  names : ∀ n, Atom.tok n ∈ run → n ∈ partNames
  lits : ∀ c, Atom.lit c ∈ run → litOk c = true
  safeT : safeItemsK (run.map Atom.titem) (p.text ++ k)
  sh : p.shapeOk = true
  sk : p.safeK k = true
  kok : np k = []

/-- a complete run: what follows it is the end of the text or a bracket -/
structure RunS (run : List Atom) : Prop where
  names : ∀ n, Atom.tok n ∈ run → n ∈ partNames
  lits : ∀ c, Atom.lit c ∈ run → litOk c = true
  safeT : safeItemsK (run.map Atom.titem) []

theorem tok_mem_snoc_lit {run : List Atom} {c : Char} {n : Str} :
    Atom.tok n ∈ run ++ [.lit c] ↔ Atom.tok n ∈ run := by simp

theorem tok_mem_snoc_tok {run : List Atom} {m n : Str} :
    Atom.tok n ∈ run ++ [.tok m] ↔ Atom.tok n ∈ run ∨ n = m := by simp

theorem lit_mem_snoc_lit {run : List Atom} {c d : Char} :
    Atom.lit d ∈ run ++ [.lit c] ↔ Atom.lit d ∈ run ∨ d = c := by simp

theorem lit_mem_snoc_tok {run : List Atom} {m : Str} {d : Char} :
    Atom.lit d ∈ run ++ [.tok m] ↔ Atom.lit d ∈ run := by simp

theorem static_done {run : List Atom} {k : Str} (h : Static run .done k) : RunS run :=
  ⟨h.names, h.lits, safeItemsK_np _ (by simpa [Pat.text_done, np] using h.kok) h.safeT⟩

theorem safeT_snoc {run : List Atom} {a : Atom} {X : Str} (h : safeItemsK (run.map Atom.titem) (a.text ++ X))
    (ha : safeItemsK [a.titem] X) : safeItemsK ((run ++ [a]).map Atom.titem) X := by
  rw [List.map_append, safeItemsK_append]
  refine ⟨?_, ha⟩
  cases a <;> simpa [srcAll, Atom.titem, Item.src, Atom.text] using h

theorem static_lit {run : List Atom} {c : Char} {r : Pat} {k : Str} (h : Static run (.lit c r) k) :
    Static (run ++ [.lit c]) r k := by
  have hsh := h.sh
  have hsk := h.sk
  simp only [Pat.shapeOk, Bool.and_eq_true] at hsh
  simp only [Pat.safeK, Bool.and_eq_true] at hsk
  refine ⟨fun n hn => h.names n (tok_mem_snoc_lit.mp hn),
    fun d hd => (lit_mem_snoc_lit.mp hd).elim (h.lits d) (fun e => e ▸ hsh.1),
    safeT_snoc (by simpa only [Pat.text_lit, List.append_assoc, Atom.text] using h.safeT) ⟨?_, trivial⟩, hsh.2, hsk.2, h.kok⟩
  -- a name that begins in `litText c` would begin at the backslash or at `c`
  intro o ho m hm
  have hc : m.isPrefixOf (c :: (r.text ++ k)) = false := by
    simpa using List.all_eq_true.mp hsk.1 m hm
  have hb : nameChar '\\' = false := by decide
  simp only [srcAll, List.flatMap_nil, List.nil_append, litText] at ho ⊢
  by_cases hbr : (c == '[' || c == ']') = true
  · rw [if_pos hbr] at ho ⊢
    obtain rfl | rfl : o = 0 ∨ o = 1 := by simp only [List.length_cons, List.length_nil] at ho; omega
    · exact not_prefix_of_head hm _ _ hb
    · exact hc
  · rw [if_neg hbr] at ho ⊢
    obtain rfl : o = 0 := by simp only [List.length_cons, List.length_nil] at ho; omega
    exact hc

theorem static_part {run : List Atom} {n : Str} {r : Pat} {k : Str} (h : Static run (.part n r) k) :
    Static (run ++ [.tok n]) r k := by
  have hsh := h.sh
  have hsk := h.sk
  simp only [Pat.shapeOk, Bool.and_eq_true] at hsh
  simp only [Pat.safeK, Bool.and_eq_true] at hsk
  refine ⟨fun m hm => (tok_mem_snoc_tok.mp hm).elim (h.names m) (fun e => e ▸ mem_partNames_of_lookup hsh.1.1),
    fun d hd => h.lits d (lit_mem_snoc_tok.mp hd),
    safeT_snoc (by simpa only [Pat.text_part, List.append_assoc, Atom.text] using h.safeT) ⟨?_, trivial⟩, hsh.2, hsk.2, h.kok⟩
  intro o ho m hm hp
  have := List.all_eq_true.mp (List.all_eq_true.mp hsk.1 o (List.mem_range.mpr ho)) m hm
  simp only [srcAll, List.flatMap_nil, List.nil_append] at hp
  simpa [hp] using this

theorem static_nil (p : Pat) (k : Str) (hsh : p.shapeOk = true) (hsk : p.safeK k = true) (hk : np k = []) :
    Static [] p k := ⟨by simp, by simp, trivial, hsh, hsk, hk⟩

theorem static_opt {run : List Atom} {b r : Pat} {k : Str} (h : Static run (.opt b r) k) :
    RunS run ∧ Static [] b (']' :: (r.text ++ k)) ∧ Static [] r k := by
  have hsh := h.sh
  have hsk := h.sk
  simp only [Pat.shapeOk, Bool.and_eq_true] at hsh
  simp only [Pat.safeK, Bool.and_eq_true] at hsk
  have e1 : nameChar '[' = false := by decide
  have e2 : nameChar ']' = false := by decide
  have hnp : np ((Pat.opt b r).text ++ k) = np [] := by simp [Pat.text_opt, np_cons, e1]; rfl
  exact ⟨⟨h.names, h.lits, safeItemsK_np _ hnp h.safeT⟩,
    static_nil b _ hsh.1.2 hsk.1 (by simp [np_cons, e2]), static_nil r k hsh.2 hsk.2 h.kok⟩

/-! ### runs and segments -/

theorem runText_snoc_lit (run : List Atom) (c : Char) : runText (run ++ [.lit c]) = runText run ++ litText c := by
  simp [runText, Atom.text]

theorem runText_snoc_tok (run : List Atom) (n : Str) : runText (run ++ [.tok n]) = runText run ++ n := by
  simp [runText, Atom.text]

theorem runText_eq_nil {run : List Atom} (hn : ∀ n, Atom.tok n ∈ run → n ∈ partNames) (h : runText run = []) :
    run = [] := by
  cases run with
  | nil => rfl
  | cons a r =>
    exfalso
    simp only [runText, List.flatMap_cons, List.append_eq_nil_iff] at h
    cases a with
    | lit c => exact absurd h.1 (by show litText c ≠ []; unfold litText; split <;> simp)
    | tok n => exact name_ne_nil (hn n List.mem_cons_self) h.1

theorem all_zero_of_no_tok (v : VInfo) (run : List Atom) (h : run.any Atom.isTok = false) :
    run.all (Atom.zero v) = true := by
  rw [List.all_eq_true]
  intro a ha
  cases a with
  | lit c => rfl
  | tok n =>
    have : run.any Atom.isTok = true := List.any_eq_true.mpr ⟨_, ha, rfl⟩
    rw [h] at this; cases this

theorem flush_flag (v : VInfo) (run : List Atom) (rest : List Seg) (hr : RunS run)
    (hv : ∀ n, Atom.tok n ∈ run → ∃ w, partText v n = some w) (htc : tagCoh v = true) :
    (formatSegs (formatPartValues v) (flushS (runText run) ++ rest)).1 =
      (run.all (Atom.zero v) && (formatSegs (formatPartValues v) rest).1) := by
  unfold flushS
  by_cases he : (runText run).isEmpty = true
  · have : run = [] := runText_eq_nil hr.names (by simpa using he)
    subst this
    simp [runText]
  · simp only [he, Bool.false_eq_true, if_false, List.cons_append, List.nil_append]
    rw [formatSegs, formatSeg]
    obtain ⟨f1, f2⟩ := formatSegment_run_flags (v := v) (run := run) ⟨hr.names, hr.safeT, hv⟩ htc
    simp only [f1, f2]
    cases hany : run.any Atom.isTok with
    | false => simp [all_zero_of_no_tok v run hany]
    | true => simp

theorem flush_text (v : VInfo) (run : List Atom) (rest : List Seg) (h2 : RunHyp2 v run) :
    (formatSegs (formatPartValues v) (flushS (runText run) ++ rest)).2 =
      runRender v run ++ (formatSegs (formatPartValues v) rest).2 := by
  unfold flushS
  by_cases he : (runText run).isEmpty = true
  · have : run = [] := runText_eq_nil h2.names (by simpa using he)
    subst this
    simp [runText, runRender]
  · simp only [he, Bool.false_eq_true, if_false, List.cons_append, List.nil_append]
    rw [formatSegs, formatSeg]
    simp only [formatSegment_run_result h2]

/-! ### the flags of the segment tree -/

theorem segsGo_flag (v : VInfo) (htc : tagCoh v = true) (p : Pat) : ∀ (run : List Atom) (k : Str),
    Static run p k → (∀ n, Atom.tok n ∈ run → ∃ w, partText v n = some w) →
    (∀ n ∈ p.parts, ∃ w, partText v n = some w) →
    (formatSegs (formatPartValues v) (p.segsGo (runText run))).1 = (run.all (Atom.zero v) && p.allZero v) := by
  induction p with
  | done =>
    intro run k hst hv _
    have := flush_flag v run [] (static_done hst) hv htc
    rw [List.append_nil] at this
    rw [Pat.segsGo, this, formatSegs, Pat.allZero]
  | lit c r ih =>
    intro run k hst hv hp
    have := ih (run ++ [.lit c]) k (static_lit hst) (fun n hn => hv n (tok_mem_snoc_lit.mp hn)) hp
    rw [runText_snoc_lit] at this
    rw [Pat.segsGo, this, Pat.allZero]
    simp [Atom.zero]
  | part n r ih =>
    intro run k hst hv hp
    have := ih (run ++ [.tok n]) k (static_part hst)
      (fun m hm => (tok_mem_snoc_tok.mp hm).elim (hv m) (fun e => e ▸ hp n (by simp [Pat.parts])))
      (fun m hm => hp m (by simp [Pat.parts, hm]))
    rw [runText_snoc_tok] at this
    rw [Pat.segsGo, this, Pat.allZero]
    simp [Atom.zero, Bool.and_assoc]
  | opt b r ihb ihr =>
    intro run k hst hv hp
    obtain ⟨hrs, hsb, hsr⟩ := static_opt hst
    have hb := ihb [] _ hsb (by simp) (fun n hn => hp n (by simp [Pat.parts, hn]))
    have hr := ihr [] _ hsr (by simp) (fun n hn => hp n (by simp [Pat.parts, hn]))
    simp only [runText, List.flatMap_nil, List.all_nil, Bool.true_and] at hb hr
    rw [Pat.segsGo, flush_flag v run _ hrs hv htc, formatSegs, formatSeg, Pat.allZero]
    simp only [hb, hr, Bool.false_eq_true, if_false]

/-! ### the text of the segment tree -/

theorem hasVals_of_allZero (v : VInfo) (p : Pat) (h : p.allZero v = true) :
    ∀ n ∈ p.parts, ∃ w, partText v n = some w := by
  induction p with
  | done => intro n hn; cases hn
  | lit c r ih => exact ih (by simpa [Pat.allZero] using h)
  | part m r ih =>
    simp only [Pat.allZero, Bool.and_eq_true] at h
    intro n hn
    rcases List.mem_cons.mp hn with e | e
    · subst e
      cases hp : partText v n with
      | none => simp [partIsZero, hp] at h
      | some w => exact ⟨w, rfl⟩
    · exact ih h.2 n e
  | opt b r ihb ihr =>
    simp only [Pat.allZero, Bool.and_eq_true] at h
    intro n hn
    rcases List.mem_append.mp hn with e | e
    · exact ihb h.1 n e
    · exact ihr h.2 n e

namespace TieN

/-- every part that is rendered has a value, a non-empty text without upper-case letters -/
def valok (v : VInfo) : Pat → Prop
  | .done => True
  | .lit _ rest => valok v rest
  | .part n rest => ValOk v n ∧ valok v rest
  | .opt body rest => (Pat.allZero v body = true ∨ valok v body) ∧ valok v rest

theorem valok_of_vok (v : VInfo) : ∀ p : Pat, p.vok v = true → valok v p
  | .done, _ => trivial
  | .lit _ rest, h => valok_of_vok v rest (by simpa [Pat.vok] using h)
  | .part n rest, h => by
    simp only [Pat.vok, Bool.and_eq_true] at h
    exact ⟨val_of_partOk v n h.1, valok_of_vok v rest h.2⟩
  | .opt body rest, h => by
    simp only [Pat.vok, Bool.and_eq_true, Bool.or_eq_true] at h
    exact ⟨h.1.imp id (valok_of_vok v body), valok_of_vok v rest h.2⟩

theorem hasVals_of_valok (v : VInfo) (p : Pat) (h : valok v p) :
    ∀ n ∈ p.parts, ∃ w, partText v n = some w := by
  induction p with
  | done => intro n hn; cases hn
  | lit c r ih => exact ih h
  | part m r ih =>
    intro n hn
    rcases List.mem_cons.mp hn with e | e
    · subst e
      obtain ⟨w, hw, -⟩ := h.1
      exact ⟨w, hw⟩
    · exact ih h.2 n e
  | opt b r ihb ihr =>
    intro n hn
    rcases List.mem_append.mp hn with e | e
    · rcases h.1 with hz | hv
      · exact hasVals_of_allZero v b hz n e
      · exact ihb hv n e
    · exact ihr h.2 n e

/-- the text of the segment tree; `A` = names whose fields are pairwise distinct (the parts of the whole tree) -/
theorem segsGo_valok (v : VInfo) (htc : tagCoh v = true) (A : List Str)
    (hA : ∀ n ∈ A, ∀ n' ∈ A, fieldOf n = fieldOf n' → n = n') (p : Pat) : ∀ (run : List Atom) (k : Str),
    Static run p k → (∀ n, Atom.tok n ∈ run → ValOk v n ∧ n ∈ A) → valok v p → (∀ n ∈ p.parts, n ∈ A) →
    (formatSegs (formatPartValues v) (p.segsGo (runText run))).2 = runRender v run ++ p.render v := by
  have mk2 : ∀ run : List Atom, RunS run → (∀ n, Atom.tok n ∈ run → ValOk v n ∧ n ∈ A) → RunHyp2 v run := by
    intro run hr hv
    exact { names := hr.names, safeT := hr.safeT,
            vals := fun n hn => by obtain ⟨w, hw, -⟩ := (hv n hn).1; exact ⟨w, hw⟩,
            lits := hr.lits, valok := fun n hn => (hv n hn).1,
            finj := fun n n' hn hn' hf => hA n (hv n hn).2 n' (hv n' hn').2 hf }
  induction p with
  | done =>
    intro run k hst hv _ _
    have := flush_text v run [] (mk2 run (static_done hst) hv)
    rw [List.append_nil] at this
    rw [Pat.segsGo, this, formatSegs, Pat.render]
  | lit c r ih =>
    intro run k hst hv hvok hsub
    have := ih (run ++ [.lit c]) k (static_lit hst) (fun n hn => hv n (tok_mem_snoc_lit.mp hn)) hvok
      (fun n hn => hsub n (by simpa [Pat.parts] using hn))
    rw [runText_snoc_lit] at this
    rw [Pat.segsGo, this]
    simp [runRender, Atom.render, Pat.render]
  | part n r ih =>
    intro run k hst hv hvok hsub
    have := ih (run ++ [.tok n]) k (static_part hst)
      (fun m hm => (tok_mem_snoc_tok.mp hm).elim (hv m) (fun e => e ▸ ⟨hvok.1, hsub n (by simp [Pat.parts])⟩))
      hvok.2 (fun m hm => hsub m (by simp [Pat.parts, hm]))
    rw [runText_snoc_tok] at this
    rw [Pat.segsGo, this]
    simp [runRender, Atom.render, Pat.render]
  | opt b r ihb ihr =>
    intro run k hst hv hvok hsub
    obtain ⟨hrs, hsb, hsr⟩ := static_opt hst
    have hbvals : ∀ n ∈ b.parts, ∃ w, partText v n = some w :=
      hvok.1.elim (hasVals_of_allZero v b) (hasVals_of_valok v b)
    have hbflag := segsGo_flag v htc b [] _ hsb (by simp) hbvals
    have hr := ihr [] _ hsr (by simp) hvok.2 (fun n hn => hsub n (by simp [Pat.parts, hn]))
    simp only [runText, List.flatMap_nil, List.all_nil, Bool.true_and, runRender, List.nil_append] at hbflag hr
    rw [Pat.segsGo, flush_text v run _ (mk2 run hrs hv), formatSegs, formatSeg, Pat.render]
    simp only [hbflag, hr]
    congr 2
    cases hz : b.allZero v with
    | true => simp
    | false =>
      have hv' : valok v b := hvok.1.resolve_left (by simp [hz])
      have hb := ihb [] _ hsb (by simp) hv' (fun n hn => hsub n (by simp [Pat.parts, hn]))
      simp only [runText, List.flatMap_nil, runRender, List.nil_append] at hb
      simp [hb]

end TieN

theorem formatVersion_text_of_valok (p : Pat) (v : VInfo) (hs : tokSafe p = true) (hv : TieN.valok v p)
    (htc : tagCoh v = true) : formatVersion v p.text = .ok (p.render v) := by
  have c := ctx_of_tokSafe p hs
  have hsk : p.safeK [] = true := by
    simp only [tokSafe, Bool.and_eq_true] at hs
    exact hs.1.1.2
  have hnd := nodup_of_nodupStr _ c.nd
  rw [fields_eq p c.sh] at hnd
  have hA := inj_of_nodup_map fieldOf p.parts hnd
  have := TieN.segsGo_valok v htc p.parts hA p [] [] (static_nil p [] c.sh hsk rfl) (by simp) hv (fun n hn => hn)
  simp only [runText, List.flatMap_nil, runRender, List.nil_append] at this
  unfold formatVersion
  rw [parseSegtree_text p c.sh]
  simp only [this]

/-- THE RENDERING TIE -/
theorem formatVersion_text (p : Pat) (v : VInfo) (hs : tokSafe p = true) (hv : p.vok v = true)
    (htc : tagCoh v = true) : formatVersion v p.text = .ok (p.render v) :=
  formatVersion_text_of_valok p v hs (TieN.valok_of_vok v p hv) htc

end BV
