/-
  Proofs/Tie_v1RewritePrelude.lean — what the ties of the LEGACY rewrite path (Tie_v1RewriteLines …
  Tie_v1Diff) share.  Namespace `BV.TieM`.

  * `Wf1` : the well-formedness of a `patterns.Pattern` made by `v1patterns.compile_pattern`: its `regexp`
    is `_compile_pattern_re` of its (normalized) `raw_pattern`, i.e. the model's `v1CompileRe`;
  * with it the engine-generic lemmas of Tie_iterMatches / Tie_rewriteLines (`TieM.iterMatches_tie`,
    `TieM.pyForE_applyMatches`, `TieM.foundEq_agree` / `foundDiff_agree`) apply at `v1Engine`.
-/
import BumpverVerif.Gen.F_iterMatches
import BumpverVerif.Model.V1Rewrite
import BumpverVerif.Proofs.RewriteGeneric
import BumpverVerif.Proofs.V1RewriteLemmas
import BumpverVerif.Proofs.Tie_iterMatches
import BumpverVerif.Proofs.Tie_rewriteLines
set_option linter.unusedSimpArgs false
namespace BV.TieM

open GenF (PatternMatch Pattern)

/-- a `Pattern` as `v1patterns.compile_pattern` builds it: `regexp` is `_compile_pattern_re(raw_pattern)`
    (`raw_pattern` is the normalized pattern) -/
def Wf1 (p : Pattern) : Prop := v1CompileRe p.raw_pattern = .ok p.regexp

theorem wf1_compile {p : Pattern} (h : Wf1 p) : v1Engine.compile p.abs = some p.regexp := by
  rw [v1Engine_compile]
  unfold v1RegexOf
  have : p.abs.raw = p.raw_pattern := rfl
  rw [this, h]

theorem abs_inj1 {p q : Pattern} (hp : Wf1 p) (hq : Wf1 q) (h : p.abs = q.abs) : p = q := by
  cases p; cases q
  simp only [GenF.Pattern.abs, CPat.mk.injEq] at h
  obtain ⟨h1, h2⟩ := h
  simp only [Wf1] at hp hq
  subst h1 h2
  rw [hp] at hq
  cases hq
  rfl

/-- the hypothesis is satisfiable for every pattern the legacy compiler accepts -/
theorem wf1_of_compile (vp raw : Str) (r : Re) (h : v1CompilePattern vp raw = .ok r) :
    Wf1 ({ version_pattern := vp, raw_pattern := v1NormalizedPattern vp raw, regexp := r } : Pattern) := h

end BV.TieM
