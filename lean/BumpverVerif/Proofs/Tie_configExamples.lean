/-
  Proofs/Tie_configExamples.lean — non-vacuity of the ties of the group `config`: the GENERATED
  definitions evaluated (in the kernel) on concrete inputs, with a result on the success side and on
  each kind of failure.  Nothing here is used by other files.
-/
import BumpverVerif.Proofs.Tie_parseConfig
import BumpverVerif.Proofs.Tie_parseCfg
import BumpverVerif.Proofs.Tie_parseToml
import BumpverVerif.Proofs.Tie_parseCurrentVersionDefaultPattern
import BumpverVerif.Proofs.Tie_initProjectCtx
namespace BV
open TieH
open GenF

/-- an environment in which everything validates, compiles and exists -/
def envYes : CfgEnv := {
  validVersion := fun _ _ _ => true, compileOk := fun _ _ _ => true,
  pathExists := fun _ => true, glob := fun _ => [] }

/-- setup.cfg: `[bumpver]` with a quoted version, `commit = True`, `tag = yes`, one file -/
def iniDoc1 : IniDoc := { sections := [
  ("metadata".toList, [("name".toList, "x".toList)]),
  ("bumpver".toList, [("current_version".toList, "\"1.2.3\"".toList), ("version_pattern".toList, "MAJOR.MINOR.PATCH".toList),
                      ("commit".toList, "True".toList), ("tag".toList, "yes".toList), ("tag_scope".toList, "'branch'".toList)]),
  ("bumpver:file_patterns".toList, [("README.md".toList, "\n{version}\n  {pep440_version}".toList)])] }

example : GenF.parseCfg iniDoc1 = .ok
    { opts := [("current_version".toList, .str "\"1.2.3\"".toList), ("version_pattern".toList, .str "MAJOR.MINOR.PATCH".toList),
               ("commit".toList, .bool true), ("tag".toList, .bool true), ("tag_scope".toList, .str "'branch'".toList),
               ("push".toList, .none)],
      filePatterns := some [("README.md".toList, ["{version}".toList, "{pep440_version}".toList])] } := by decide +kernel

/-- … read on by `_parse_config`: quotes stripped, tag scope an enum member, push defaults to False -/
example :
    ((GenF.parseCfg iniDoc1).bind (GenF.parseConfig (α := FilePatterns) (validateOf envYes) id (compileOf envYes) envYes.pathExists)).map
        (fun c => (c.current_version, c.tag_scope, c.push))
      = .ok ("1.2.3".toList, Cfg.TagScope.BRANCH, RawVal.bool false) := by decide +kernel

example :
    ((GenF.parseCfg iniDoc1).bind (GenF.parseConfig (α := FilePatterns) (validateOf envYes) id (compileOf envYes) envYes.pathExists)).map
        (fun c => (c.commit.truthy && c.tag.truthy && c.is_new_pattern, c.file_patterns))
      = .ok (true, [("README.md".toList, ["{version}".toList, "{pep440_version}".toList])]) := by decide +kernel

/-- tag without commit: ValueError; a bool where a str is needed: AttributeError; no section: ValueError -/
example : GenF.parseConfig (α := FilePatterns) (validateOf envYes) id (compileOf envYes) envYes.pathExists
    { opts := [("current_version".toList, .str "1".toList), ("version_pattern".toList, .str "MAJOR".toList),
               ("commit".toList, .bool false), ("tag".toList, .bool true), ("push".toList, .none)],
      filePatterns := some [] } = .error "ValueError".toList := by decide +kernel

example : GenF.parseConfig (α := FilePatterns) (validateOf envYes) id (compileOf envYes) envYes.pathExists
    { opts := [("current_version".toList, .bool true), ("version_pattern".toList, .str "MAJOR".toList)],
      filePatterns := some [] } = .error "AttributeError".toList := by decide +kernel

example : GenF.parseCfg { sections := [("metadata".toList, [])] } = .error "ValueError".toList := by decide +kernel

/-- pyproject.toml: `[tool.bumpver]` wins over `[bumpver]`; missing version_pattern is a TypeError -/
example : GenF.parseToml { tool := some { bumpver := some { opts := [("current_version".toList, .str "1".toList)], filePatterns := none } },
                           bumpver := some { opts := [], filePatterns := none }, pycalver := none } = .error "TypeError".toList := by
  decide +kernel

/-- the config file's own line: found inside the section only, quoting kept -/
example : GenF.parseCurrentVersionDefaultPattern
    { opts := [("current_version".toList, .str "\"1.2.3\"".toList), ("version_pattern".toList, .str "MAJOR.MINOR.PATCH".toList)],
      filePatterns := none }
    "[metadata]\ncurrent_version = 0\n[bumpver]\ncurrent_version = \"1.2.3\"\n".toList
      = .ok "current_version = \"MAJOR.MINOR.PATCH\"".toList := by decide +kernel

/-- an empty directory: bumpver.toml, format toml, no VCS; then `write_content` creates the file -/
def dirRel : Py.ProjDir := { isAbs := false, child := fun n => n }

example : (GenF.initProjectCtx (fun _ => none) dirRel).map
    (fun c => (c.config_filepath, c.config_rel_path, c.config_format, c.vcs_type))
      = .ok ("bumpver.toml".toList, "bumpver.toml".toList, "toml".toList, none) := by decide +kernel

example : ((GenF.initProjectCtx (fun _ => none) dirRel).bind
      (GenF.writeContent "2026.1001-alpha".toList (fun _ => none))).map
    (fun fs' => (fs' "bumpver.toml".toList).map
      (fun s => "[bumpver]\ncurrent_version = \"2026.1001-alpha\"\nversion_pattern".toList.isPrefixOf s))
      = .ok (some true) := by decide +kernel

end BV
