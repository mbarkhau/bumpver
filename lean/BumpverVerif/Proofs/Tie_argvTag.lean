/-
  Proofs/Tie_argvTag.lean — source-level tie for the VALUES `vcs.VCSAPI.tag` passes to `VCSAPI.__call__`
  (Gen/F_argvTag.lean; property C12).  Proofs/Tie_vcsCommit.lean fixes the SEQUENCE of subcommands; here the
  keyword arguments are visible, and that an empty tag message selects `tag_light`.  `tie_argvTag`: generated definition = reference, for EVERY `VCSAPI` object (any name, any template
  table), all strings, worlds and traces; stated with `callRef` (= `__call__`, Proofs/Tie_argvCall.lean).
  The composition down to the argument vector of the process that runs: Proofs/Tie_argvEndToEnd.lean.
-/
import BumpverVerif.Gen.F_argvTag
import BumpverVerif.Proofs.Tie_argvCall
namespace BV.TieK
open BV.TieK.Gen

/-- `VCSAPI.tag(tag_name, tag_message)`: an annotated tag carries both values; an EMPTY message means a
    lightweight tag (subcommand `tag_light`, which has no message argument at all) -/
def tagRef (self : VcsApi) (tag_name tag_message : Str) : Eff Unit := fun w s =>
  if tag_message ≠ [] then
    unitOf (callRef self ['t', 'a', 'g'] none [(['t', 'a', 'g'], tag_name), (['m', 'e', 's', 's', 'a', 'g', 'e'], tag_message)] w s)
  else
    unitOf (callRef self ['t', 'a', 'g', '_', 'l', 'i', 'g', 'h', 't'] none [(['t', 'a', 'g'], tag_name)] w s)

theorem tie_argvTag (self : VcsApi) (tag_name tag_message : Str) :
    argvTag self tag_name tag_message = tagRef self tag_name tag_message := by
  funext w s
  unfold argvTag tagRef
  simp only [tie_argvCall, bind_unit_id]
  cases tag_message with
  | nil =>
    simp only [List.isEmpty, Bool.not_true, Bool.false_eq_true, if_false, ne_eq, not_true_eq_false]
    exact bind_unit _ w s
  | cons c r =>
    simp only [List.isEmpty, Bool.not_false, if_true, ne_eq, reduceCtorEq, not_false_eq_true]
    -- the keyword arguments may be written in either order
    have hswap := callRef_kw_congr self ['t', 'a', 'g'] none
      (lookup_swap2 ['m', 'e', 's', 's', 'a', 'g', 'e'] ['t', 'a', 'g'] (c :: r) tag_name (by decide))
    first
      | exact bind_unit _ w s
      | (rw [hswap]; exact bind_unit _ w s)

end BV.TieK
