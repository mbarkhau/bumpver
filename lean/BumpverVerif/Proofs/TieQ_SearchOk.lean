/-
  Proofs/TieQ_SearchOk.lean — THE MATCHER OF THE MODEL:  `TieQ.searchOk_groupsOf : TieQ.SearchOk groupsOf`, i.e.

      ∀ s, (groupsOf s).map ofGroups = parsePep s

  the reference `ofGroups` (to which the generated `Version.__init__` is tied for ALL group values,
  Proofs/Tie_pepVersionInit.lean) composed with the model-side group extraction `groupsOf` (Model/PepGroups.lean)
  IS the model's parser `parsePep` (Model/Pep440.lean), on every string.

  Structure: both `groupsCore` and `parseCore` are shown equal to a head phase followed by a common PHASE-WISE tail
  (`gTail` / `pTail`: release tail, pre, post, dev, local), and one lemma per phase relates what the group side reports
  to what the model side reads (`head_groups`, then inside `tail_groups`: `preSeg_groups`, `postSeg_groups`, `devSeg_groups`,
  `localSeg_groups`).  The segment lemmas of Proofs/TieQ_Groups.lean (`letterGroups_spec`, `splitOn_join_dot`) do the work
  inside the phases.

  After it: `TieQ.splitOk_legacyTokens` (the model's own split satisfies `SplitOk`), and the model-level ties and the
  C16 / C15 source-level corollaries instantiated with `regex_search := groupsOf` (`…_groupsOf`) and also with
  `legacy_split := legacyTokens` (`…_closed`), WITHOUT the hypotheses `SearchOk` / `SplitOk`.
-/
import BumpverVerif.Proofs.TieQ_Groups
import BumpverVerif.Proofs.TieQ_Source
set_option linter.unusedSimpArgs false
namespace BV
namespace TieQ

/-! ### digits contain no dot -/

theorem digit_ne_dot (c : Char) (h : isDigit c = true) : c ≠ '.' := by
  intro e; subst e; exact absurd h (by decide)

theorem mem_takeWhile_holds {α : Type} (p : α → Bool) : ∀ (l : List α), ∀ c ∈ l.takeWhile p, p c = true := by
  intro l
  induction l with
  | nil => intro c hc; simp at hc
  | cons a as ih =>
    intro c hc
    simp only [List.takeWhile_cons] at hc
    split at hc
    · next ha =>
      rcases List.mem_cons.mp hc with rfl | hc
      · exact ha
      · exact ih c hc
    · simp at hc

theorem takeWhile_digit_nodot (s : Str) : ∀ c ∈ s.takeWhile isDigit, c ≠ '.' :=
  fun c hc => digit_ne_dot c (mem_takeWhile_holds isDigit s c hc)

theorem relTailF_nodot (f : Nat) (s : Str) : ∀ q ∈ (relTailF f s).1, ∀ c ∈ q, c ≠ '.' := by
  induction f, s using relTailF.induct with
  | case1 s => intro q hq; simp [relTailF] at hq
  | case2 f c cs hc ih =>
    intro q hq
    simp only [relTailF, hc, if_true, List.mem_cons] at hq
    rcases hq with rfl | hq
    · exact takeWhile_digit_nodot _
    · exact ih q hq
  | case3 f c cs hc =>
    intro q hq
    simp [relTailF, hc] at hq
  | case4 n s hs =>
    intro q hq
    have : relTailF (n + 1) s = ([], s) := by
      -- the three equations of `relTailF`; `hs` excludes the middle one (the text starts with `.c`)
      unfold relTailF
      split
      all_goals first
        | rfl
        | exact (hs _ _ rfl).elim
        | (rename_i h; exact absurd h (by simp))
    rw [this] at hq
    simp at hq

/-! ### the optional letter segments: pre, post, dev -/

/-- the text after an optional letter segment -/
def restOf (lg : Option (Str × Option Str × Str)) (x : Str) : Str :=
  match lg with
  | some (_, _, r) => r
  | none => x

/-- PHASE pre: what the group side reports is what the model reads -/
theorem preSeg_groups (x : Str) :
    preSeg x = (letterVersion ((letterGroups preWords x).map (·.1)) ((letterGroups preWords x).bind (·.2.1)),
                restOf (letterGroups preWords x) x) := by
  simp only [preSeg]
  rcases letterGroups_spec preWords sub_pre x with ⟨h1, h2⟩ | ⟨w, n, r, v, h1, h2, h3⟩
  · rw [h1, h2]; rfl
  · rw [h1, h2]
    simp only [Option.map_some, Option.bind_some, h3, restOf]

/-- PHASE dev -/
theorem devSeg_groups (x : Str) :
    devSeg x = ((letterVersion ((letterGroups devWords x).map (·.1)) ((letterGroups devWords x).bind (·.2.1))).map (·.2),
                restOf (letterGroups devWords x) x) := by
  simp only [devSeg]
  rcases letterGroups_spec devWords sub_dev x with ⟨h1, h2⟩ | ⟨w, n, r, v, h1, h2, h3⟩
  · rw [h1, h2]; rfl
  · rw [h1, h2]
    obtain ⟨vl, vn⟩ := v
    simp only [Option.map_some, Option.bind_some, h3, restOf]

/-- the post groups through a letter word (group side) -/
def gVia (s : Str) : Option Str × Option Str × Option Str × Str :=
  match letterGroups postWords s with
  | some (w, n, r) => (none, some w, n, r)
  | none => (none, none, none, s)

/-- the post release through a letter word (model side) -/
def mVia (s : Str) : Option Nat × Str :=
  match letterSeg postWords s with
  | some ((_, n), r) => (some n, r)
  | none => (none, s)

/-- the post-release number the three post groups denote -/
def postVal (pg : Option Str × Option Str × Option Str × Str) : Option Nat :=
  (letterVersion pg.2.1 (orGroup pg.1 pg.2.2.1)).map (·.2)

theorem via_groups (s : Str) : mVia s = (postVal (gVia s), (gVia s).2.2.2) := by
  simp only [mVia, gVia, postVal]
  rcases letterGroups_spec postWords sub_post s with ⟨h1, h2⟩ | ⟨w, n, r, v, h1, h2, h3⟩
  · rw [h1, h2]; rfl
  · rw [h1, h2]
    obtain ⟨vl, vn⟩ := v
    simp only [orGroup, h3, Option.map_some]

theorem postSeg_eq (s : Str) :
    postSeg s = match s with
      | '-' :: c :: cs =>
        if isDigit c then (some (strToNat ((c :: cs).takeWhile isDigit)), (c :: cs).dropWhile isDigit) else mVia s
      | _ => mVia s := by
  unfold postSeg mVia
  rfl

theorem postGroups_eq (s : Str) :
    postGroups s = match s with
      | '-' :: c :: cs =>
        if isDigit c then (some ((c :: cs).takeWhile isDigit), none, none, (c :: cs).dropWhile isDigit) else gVia s
      | _ => gVia s := by
  unfold postGroups gVia
  rfl

/-- PHASE post -/
theorem postSeg_groups (s : Str) : postSeg s = (postVal (postGroups s), (postGroups s).2.2.2) := by
  rw [postSeg_eq, postGroups_eq]
  split
  · next c cs =>
    by_cases hc : isDigit c = true
    · simp only [hc, if_true]
      have hne : ((c :: cs).takeWhile isDigit).isEmpty = false := by
        simp [List.takeWhile_cons, hc]
      simp only [postVal, letterVersion, orGroup, hne, implicitPost, Bool.false_eq_true, if_false, Option.map_some]
    · simp only [hc, if_false, Bool.false_eq_true]
      exact via_groups _
  · exact via_groups _

/-! ### the local group -/

/-- PHASE local -/
theorem localSeg_groups (x : Str) : localSeg x = (localGroup x).map (Option.map localOf) := by
  cases x with
  | nil => rfl
  | cons a t =>
    by_cases ha : a = '+'
    · subst ha
      simp only [localSeg, localGroup]
      by_cases hall : ((splitSeps [] t).all (fun p => !p.isEmpty && p.all isLocalChar)) = true
      · simp only [hall, if_true, Option.map_some, localOf, Option.some.injEq]
        apply List.map_congr_left
        intro p hp
        rw [List.all_eq_true] at hall
        have := hall p hp
        simp only [Bool.and_eq_true] at this
        exact (localPartOf_lower p (lowerStr_of_localChars p this.2)).symm
      · simp only [hall, if_false, Bool.false_eq_true, Option.map_none]
    · have h1 : localSeg (a :: t) = none := by
        unfold localSeg
        split
        · next h => cases h
        · next h => injection h with h _; exact absurd h ha
        · rfl
      have h2 : localGroup (a :: t) = none := by
        unfold localGroup
        split
        · next h => cases h
        · next h => injection h with h _; exact absurd h ha
        · rfl
      rw [h1, h2]; rfl

/-! ### the head: `(epoch!)?` and the first release component -/

/-- the common skeleton of `headSeg` (model) and of the head of `groupsCore` (groups) -/
def headWith {α : Type} (s : Str) (mk1 : Str → α) (mk0 : α) : Option (α × Str × Str) :=
  let d1 := s.takeWhile isDigit
  if d1.isEmpty then none else
  match s.dropWhile isDigit with
  | '!' :: r =>
    if (r.takeWhile isDigit).isEmpty then none
    else some (mk1 d1, r.takeWhile isDigit, r.dropWhile isDigit)
  | r1 => some (mk0, d1, r1)

theorem headSeg_eq (s : Str) : headSeg s = headWith s strToNat 0 := rfl

/-- PHASE head: the model's epoch is `epochOf` of the epoch group -/
theorem head_groups (s : Str) :
    headSeg s = (headWith s some none).map (fun t => (epochOf t.1, t.2.1, t.2.2)) := by
  rw [headSeg_eq]
  unfold headWith
  by_cases hd : (s.takeWhile isDigit).isEmpty = true
  · simp only [hd, if_true, Option.map_none]
  · have hd' : (s.takeWhile isDigit).isEmpty = false := by simpa using hd
    simp only [hd', Bool.false_eq_true, if_false]
    split
    · next _ r _ =>
      by_cases hr : (r.takeWhile isDigit).isEmpty = true
      · simp only [hr, if_true, Option.map_none]
      · have hr' : (r.takeWhile isDigit).isEmpty = false := by simpa using hr
        simp only [hr', Bool.false_eq_true, if_false, Option.map_some, epochOf, hd']
    · simp only [Option.map_some, epochOf]

/-- the first release component has no dot -/
theorem head_first_nodot (s : Str) (e : Option Str) (f r : Str) (h : headWith s some none = some (e, f, r)) :
    ∀ c ∈ f, c ≠ '.' := by
  unfold headWith at h
  by_cases hd : (s.takeWhile isDigit).isEmpty = true
  · simp only [hd, if_true] at h; cases h
  · have hd' : (s.takeWhile isDigit).isEmpty = false := by simpa using hd
    simp only [hd', Bool.false_eq_true, if_false] at h
    split at h
    · next _ r' _ =>
      by_cases hr : (r'.takeWhile isDigit).isEmpty = true
      · simp only [hr, if_true] at h; cases h
      · have hr' : (r'.takeWhile isDigit).isEmpty = false := by simpa using hr
        simp only [hr', Bool.false_eq_true, if_false, Option.some.injEq, Prod.mk.injEq] at h
        rw [← h.2.1]; exact takeWhile_digit_nodot r'
    · simp only [Option.some.injEq, Prod.mk.injEq] at h
      rw [← h.2.1]; exact takeWhile_digit_nodot s

/-! ### the phase-wise tails and their agreement -/

/-- everything after the head, group side (the body of `groupsCore`) -/
def gTail (epoch : Option Str) (first r2 : Str) : Option PepGroups :=
  let rel := relTailF r2.length r2
  let pre := letterGroups preWords rel.2
  let post := postGroups (restOf pre rel.2)
  let dev := letterGroups devWords post.2.2.2
  match localGroup (restOf dev post.2.2.2) with
  | none => none
  | some loc =>
    some { epoch := epoch, release := join ['.'] (first :: rel.1),
           pre_l := pre.map (·.1), pre_n := pre.bind (·.2.1),
           post_n1 := post.1, post_l := post.2.1, post_n2 := post.2.2.1,
           dev_l := dev.map (·.1), dev_n := dev.bind (·.2.1), loc := loc }

/-- everything after the head, model side (the body of `parseCore`) -/
def pTail (epoch : Nat) (first r2 : Str) : Option PepVersion :=
  let rel := relTailF r2.length r2
  let pre := preSeg rel.2
  let post := postSeg pre.2
  let dev := devSeg post.2
  match localSeg dev.2 with
  | none => none
  | some loc =>
    some { epoch := epoch, release := (first :: rel.1).map strToNat,
           pre := pre.1, post := post.1, dev := dev.1, loc := loc }

theorem parseCore_eq (s : Str) :
    parseCore s = match headSeg s with
      | none => none
      | some (e, f, r) => pTail e f r := by
  unfold parseCore pTail
  rfl

theorem groupsCore_eq (s : Str) :
    groupsCore s = match headWith s some none with
      | none => none
      | some (e, f, r) => gTail e f r := by
  unfold groupsCore headWith
  by_cases hd : (s.takeWhile isDigit).isEmpty = true
  · simp only [hd, if_true]
  · have hd' : (s.takeWhile isDigit).isEmpty = false := by simpa using hd
    simp only [hd', Bool.false_eq_true, if_false]
    rfl

/-- PHASES release tail, pre, post, dev, local composed -/
theorem tail_groups (epoch : Option Str) (first r2 : Str) (hfirst : ∀ c ∈ first, c ≠ '.') :
    (gTail epoch first r2).map ofGroups = pTail (epochOf epoch) first r2 := by
  simp only [gTail, pTail]
  have hR := relTailF_nodot r2.length r2
  generalize relTailF r2.length r2 = R at hR ⊢
  have hrel : (splitOn ['.'] (join ['.'] (first :: R.1))).map strToNat = (first :: R.1).map strToNat := by
    rw [splitOn_join_dot]
    intro q hq
    rcases List.mem_cons.mp hq with rfl | hq
    · exact hfirst
    · exact hR q hq
  rw [preSeg_groups R.2]
  dsimp only
  generalize letterGroups preWords R.2 = pre
  rw [postSeg_groups (restOf pre R.2)]
  dsimp only
  generalize postGroups (restOf pre R.2) = post
  rw [devSeg_groups post.2.2.2]
  dsimp only
  generalize letterGroups devWords post.2.2.2 = dev
  rw [localSeg_groups]
  cases localGroup (restOf dev post.2.2.2) with
  | none => rfl
  | some loc =>
    simp only [Option.map_some, ofGroups, rawOfGroups, PepRaw.abs, hrel, postVal]

/-- the recogniser on stripped lower-case text -/
theorem groupsCore_ofGroups (s : Str) : (groupsCore s).map ofGroups = parseCore s := by
  rw [groupsCore_eq, parseCore_eq, head_groups]
  cases hh : headWith s some none with
  | none => rfl
  | some t =>
    obtain ⟨e, f, r⟩ := t
    simp only [Option.map_some]
    exact tail_groups e f r (head_first_nodot s e f r hh)

end TieQ

/-- THE MATCHER OF THE MODEL: the reference `ofGroups` after the model's group extraction `groupsOf` is the model's
    `parsePep`, on EVERY string -/
theorem TieQ.searchOk_groupsOf : TieQ.SearchOk groupsOf := by
  intro s
  simp only [groupsOf, parsePep]
  exact TieQ.groupsCore_ofGroups _

/-! ### the model-side split: `legacyTokens` satisfies `SplitOk` (all its items are non-empty) -/

theorem TieQ.legacyTokGo_nonempty (cls : LClass) (cur s : Str) : ∀ p ∈ legacyTokGo cls cur s, p.isEmpty = false := by
  induction s generalizing cls cur with
  | nil =>
    intro p hp
    simp only [legacyTokGo, flushTok] at hp
    split at hp
    · simp at hp
    · next h =>
      simp only [List.mem_singleton] at hp
      subst hp
      cases cur with
      | nil => simp at h
      | cons c cs => simp
  | cons c cs ih =>
    intro p hp
    simp only [legacyTokGo] at hp
    split at hp
    · exact ih _ _ p hp
    · rcases List.mem_append.mp hp with hp | hp
      · simp only [flushTok] at hp
        split at hp
        · simp at hp
        · next h =>
          simp only [List.mem_singleton] at hp
          subst hp
          cases cur with
          | nil => simp at h
          | cons a as => simp
      · exact ih _ _ p hp

/-- the model's own tokeniser is a `legacy_split` in the sense of `SplitOk` -/
theorem TieQ.splitOk_legacyTokens : TieQ.SplitOk legacyTokens := by
  intro t
  apply List.filter_eq_self.mpr
  intro p hp
  simp only [Bool.not_eq_true']
  exact TieQ.legacyTokGo_nonempty _ _ _ p hp

/-! ### the model-level ties and the C16 / C15 corollaries WITHOUT the hypothesis `SearchOk` (`regex_search := groupsOf`) -/
open TieQ

/-- the object the translated `parse` returns with the model's matcher IS the model's `parseVersion s` -/
theorem tie_pepParse_model_groupsOf (s : Str) : absPy (pyOf groupsOf s) = parseVersion s :=
  tie_pepParse_model groupsOf s searchOk_groupsOf

/-- … and its `_key` is the model's key -/
theorem tie_pepParse_key_groupsOf (s : Str) : keyPy (pyOf groupsOf s) = keyOf (parseVersion s) :=
  tie_pepParse_key groupsOf s searchOk_groupsOf

/-- the translated `parse`, run with the model's matcher: never raises, returns (an object denoting) `parseVersion s` -/
theorem tie_pepParse_groupsOf (legacy_split : Str → List Str) (s : Str) (hs : SplitOk legacy_split) :
    (GenQ.pepParse groupsOf legacy_split s).map absPy = .ok (parseVersion s) := by
  rw [tie_pepParse _ _ _ hs]
  simp only [Except.map, tie_pepParse_model_groupsOf]

/-- the translated `to_pep440`, run with the model's matcher, is `str(parse(s))` of the model -/
theorem tie_pepToPep440_model_groupsOf (legacy_split : Str → List Str) (s : Str) (hs : SplitOk legacy_split) :
    GenQ.pepToPep440 groupsOf legacy_split s = .ok (verStr (parseVersion s)) :=
  tie_pepToPep440_model groupsOf legacy_split s hs searchOk_groupsOf

/-- C16 (a)/(b) at source level, no hypothesis on the matcher -/
theorem C16_sourceQ_le_groupsOf (legacy_split : Str → List Str) (s t : Str) (a b : PyVersion)
    (hsp : SplitOk legacy_split)
    (ha : GenQ.pepParseVersion groupsOf legacy_split s = .ok a)
    (hb : GenQ.pepParseVersion groupsOf legacy_split t = .ok b) :
    (cmpKey (keyPy a) (keyPy b) != .gt) = verLe (parseVersion s) (parseVersion t) :=
  C16_sourceQ_le groupsOf legacy_split s t a b hsp searchOk_groupsOf ha hb

/-- C15 at source level, no hypothesis on the matcher -/
theorem C15_sourceQ_to_pep440_groupsOf (legacy_split : Str → List Str) (s : Str) (hsp : SplitOk legacy_split) :
    GenQ.pepToPep440 groupsOf legacy_split s = .ok (pyToPep440 s) :=
  C15_sourceQ_to_pep440 groupsOf legacy_split s hsp searchOk_groupsOf

/-- C16 (c) at source level, no hypothesis on the matcher -/
theorem C16_sourceQ_to_pep440_idempotent_groupsOf (legacy_split : Str → List Str) (s out : Str)
    (hsp : SplitOk legacy_split) (h : GenQ.pepToPep440 groupsOf legacy_split s = .ok out) :
    GenQ.pepToPep440 groupsOf legacy_split out = .ok out :=
  C16_sourceQ_to_pep440_idempotent groupsOf legacy_split s out hsp searchOk_groupsOf h

/-! ### both primitives instantiated with the model's own (`groupsOf`, `legacyTokens`): no hypothesis at all -/

/-- the translated `version.parse_version`, closed -/
theorem tie_pepParseVersion_closed (s : Str) :
    (GenQ.pepParseVersion groupsOf legacyTokens s).map absPy = .ok (parseVersion s) := by
  rw [tie_pepParseVersion _ _ _ splitOk_legacyTokens]
  simp only [Except.map, tie_pepParse_model_groupsOf]

/-- … and the `_key` of the object it returns is the model's key -/
theorem tie_pepParseVersion_key_closed (s : Str) :
    (GenQ.pepParseVersion groupsOf legacyTokens s).map keyPy = .ok (keyOf (parseVersion s)) := by
  rw [tie_pepParseVersion _ _ _ splitOk_legacyTokens]
  simp only [Except.map, tie_pepParse_key_groupsOf]

/-- C15: the translated `version.to_pep440`, closed, is the model's `to_pep440` -/
theorem C15_sourceQ_to_pep440_closed (s : Str) :
    GenQ.pepToPep440 groupsOf legacyTokens s = .ok (pyToPep440 s) :=
  C15_sourceQ_to_pep440_groupsOf legacyTokens s splitOk_legacyTokens

/-- C16: Python's `<=` on the objects the translated `parse_version` returns, closed, is the model's `verLe` -/
theorem C16_sourceQ_le_closed (s t : Str) (a b : PyVersion)
    (ha : GenQ.pepParseVersion groupsOf legacyTokens s = .ok a)
    (hb : GenQ.pepParseVersion groupsOf legacyTokens t = .ok b) :
    (cmpKey (keyPy a) (keyPy b) != .gt) = verLe (parseVersion s) (parseVersion t) :=
  C16_sourceQ_le_groupsOf legacyTokens s t a b splitOk_legacyTokens ha hb

/-- non-vacuity: the closed translated `to_pep440` on the README example (evaluated through the theorem) -/
example : GenQ.pepToPep440 groupsOf legacyTokens "v201811.0007-beta".toList = .ok "201811.7b0".toList := by
  rw [C15_sourceQ_to_pep440_closed]; decide +kernel

end BV
