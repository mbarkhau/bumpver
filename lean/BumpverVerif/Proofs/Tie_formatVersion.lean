/-
  Proofs/Tie_formatVersion.lean — the definition GENERATED from the Python source of `v2version.format_version`
  (Gen/F_formatVersion.lean: it calls the generated `_format_part_values`, `_parse_segtree` and
  `_format_segment_tree(…, is_root=True)`) equals the hand model `BV.formatVersion` for EVERY version info and EVERY
  raw pattern — no hypothesis: the "no empty part name" condition of `tie_formatSegment` is discharged by
  `formatPartValues_keys_ne` (the keys are those of the generated table `Gen.partFields`).

  Exceptions: Python raises ValueError exactly when the model returns `.error` (always `.valueError`, from the pattern's
  brackets), never anything else.
-/
import BumpverVerif.Gen.F_formatVersion
import BumpverVerif.Proofs.Tie_formatPartValues
import BumpverVerif.Proofs.Tie_parseSegtree
import BumpverVerif.Proofs.Tie_formatSegmentTree
namespace BV.TieF
open GenF GenF.FP

theorem _root_.BV.tie_formatVersion (v : VInfo) (raw : Str) : GenF.formatVersion v raw = absE (formatVersion v raw) := by
  simp only [GenF.formatVersion, tie_formatPartValues, bindE_ok, tie_parseSegtree, formatVersion]
  cases parseSegtree raw with
  | error e => simp [absE]
  | ok items =>
    simp only [absE, bindE_ok]
    -- `.result` taken of a local, or directly of the call (then the goal is the projection of a `let`-free term)
    first
      | rw [tie_formatSegmentTree_root items _ (formatPartValues_keys_ne v)]
      | simp [tie_formatSegmentTree_root items _ (formatPartValues_keys_ne v)]

/-- success: the same string -/
theorem _root_.BV.tie_formatVersion_ok (v : VInfo) (raw s : Str) :
    GenF.formatVersion v raw = .ok s ↔ formatVersion v raw = .ok s := by
  rw [tie_formatVersion]
  cases formatVersion v raw <;> simp [absE]

end BV.TieF
