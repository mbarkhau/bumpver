/-
  Proofs/TokTie_Clean.lean — while `_format_segment` replaces part names by values (longest name first), the name
  `m` that is replaced next occurs in the partly rendered segment ONLY as a whole, not yet replaced token `m`
  (`cleanFor_of_mapped`): values and literals contain no upper-case letters, so an occurrence either lies in
  untouched text (where it is inside a token, by the adjacency condition) or would need leading zeros / a trailing
  digit from a value — excluded by the SHAPES of the part names (all upper-case / zeros + one letter / letters + one
  digit), which are table facts on the regenerated `PART_PATTERNS`.
-/
import BumpverVerif.Proofs.TokTie_Repl
namespace BV

/-- zeros followed by ONE upper-case letter: `0M`, `00J` -/
def isDigitLed (m : Str) : Bool :=
  m.head? == some '0' && (match m.dropWhile (· == '0') with | [X] => isUpper X | _ => false)

/-- upper-case letters followed by ONE digit: `INC0` -/
def isDigitTrailed (m : Str) : Bool :=
  match m.reverse with
  | d :: u => isDigit d && !u.isEmpty && u.all isUpper
  | [] => false

/-- upper-case letters only: `MAJOR` -/
def isPureUpper (m : Str) : Bool := !m.isEmpty && m.all isUpper

/-! ### table facts (one kernel evaluation on the regenerated tables) -/

/-- * every part name is all upper-case (MAJOR), zeros followed by ONE letter (0M, 00J), or letters followed by ONE
      digit (INC0);
    * a zeros+letter name `m` is determined by its letter, is contained in no other name, and a name that starts with
      its letter and is not longer than `m` has `m`'s field (0M / MM, 00J / JJJ, …);
    * no name ends with the last LETTER of a letters+digit name (no name ends in `C`);
    * a name contained in a name that has a zero value is TAG inside PYTAG -/
theorem tbl_shapes :
    partNames.all (fun m => isPureUpper m || isDigitLed m || isDigitTrailed m) = true ∧
    partNames.all (fun m => !isDigitLed m || partNames.all (fun n =>
      (!(isDigitLed n && m.getLast? == n.getLast?) || m == n) && (!isInfix m n || m == n) &&
      (!(n.head? == m.getLast? && decide (n.length ≤ m.length)) || fieldOf n == fieldOf m))) = true ∧
    partNames.all (fun m => !isDigitTrailed m || partNames.all (fun t => t.getLast? != (m.dropLast).getLast?)) = true ∧
    partNames.all (fun n => (lookup n Gen.partZeroValues).isNone || partNames.all (fun m =>
      m == n || !isInfix m n || (n == "PYTAG".toList && m == "TAG".toList))) = true := by
  decide +kernel

theorem tbl_shape : partNames.all (fun m => isPureUpper m || isDigitLed m || isDigitTrailed m) = true := tbl_shapes.1

theorem digitLed_facts {m n : Str} (hm : m ∈ partNames) (hn : n ∈ partNames) (h : isDigitLed m = true) :
    (isDigitLed n = true → m.getLast? = n.getLast? → m = n) ∧ (isInfix m n = true → m = n) ∧
    (n.head? = m.getLast? → n.length ≤ m.length → fieldOf n = fieldOf m) := by
  have key := List.all_eq_true.mp tbl_shapes.2.1 m hm
  simp [h] at key
  obtain ⟨⟨k1, k2⟩, k3⟩ := key n hn
  refine ⟨fun h1 h2 => ?_, fun h1 => ?_, fun h1 h2 => ?_⟩
  · rcases k1 with (r | r) | r
    · rw [h1] at r; cases r
    · exact absurd h2 r
    · exact r
  · rcases k2 with r | r
    · rw [h1] at r; cases r
    · exact r
  · rcases k3 with (r | r) | r
    · exact absurd h1 r
    · omega
    · exact r

theorem inner_zero {m n : Str} (hm : m ∈ partNames) (hn : n ∈ partNames) (hne : m ≠ n) (hi : isInfix m n = true) :
    lookup n Gen.partZeroValues = none ∨ (n = "PYTAG".toList ∧ m = "TAG".toList) := by
  have key := List.all_eq_true.mp tbl_shapes.2.2.2 n hn
  simp only [Bool.or_eq_true, Option.isNone_iff_eq_none, List.all_eq_true] at key
  refine key.imp id fun k => ?_
  simpa [hne, hi] using k m hm

/-! ### shapes as equations -/

def zeros (k : Nat) : Str := List.replicate k '0'

theorem zeros_succ (k : Nat) : zeros (k + 1) = '0' :: zeros k := rfl

theorem takeWhile_zero_eq (m : Str) : m.takeWhile (· == '0') = zeros (m.takeWhile (· == '0')).length := by
  induction m with
  | nil => rfl
  | cons c r ih =>
    simp only [List.takeWhile_cons]
    by_cases h : (c == '0') = true
    · have : c = '0' := by simpa using h
      subst this
      simp only [beq_self_eq_true, if_true, List.length_cons, zeros_succ]
      rw [← ih]
    · simp [h, zeros]

theorem digitLed_form {m : Str} (h : isDigitLed m = true) :
    ∃ k X, 1 ≤ k ∧ isUpper X = true ∧ m = zeros k ++ [X] := by
  simp only [isDigitLed, Bool.and_eq_true, beq_iff_eq] at h
  obtain ⟨hh, hd⟩ := h
  have hsplit := List.takeWhile_append_dropWhile (p := (· == '0')) (l := m)
  cases hdw : m.dropWhile (· == '0') with
  | nil => rw [hdw] at hd; cases hd
  | cons X rest =>
    rw [hdw] at hd hsplit
    cases rest with
    | cons _ _ => cases hd
    | nil =>
      refine ⟨(m.takeWhile (· == '0')).length, X, ?_, hd, ?_⟩
      · cases m with
        | nil => cases hh
        | cons c r =>
          simp only [List.head?_cons, Option.some.injEq] at hh
          subst hh
          simp
      · rw [← takeWhile_zero_eq]; exact hsplit.symm

theorem digitTrailed_form {m : Str} (h : isDigitTrailed m = true) :
    ∃ U d, U ≠ [] ∧ (∀ c ∈ U, isUpper c = true) ∧ isDigit d = true ∧ m = U ++ [d] := by
  unfold isDigitTrailed at h
  cases hr : m.reverse with
  | nil => rw [hr] at h; cases h
  | cons d u =>
    rw [hr] at h
    simp only [Bool.and_eq_true, Bool.not_eq_true', List.all_eq_true] at h
    refine ⟨u.reverse, d, ?_, ?_, h.1.1, ?_⟩
    · intro e
      have : u = [] := by simpa using e
      subst this; simp at h
    · intro c hc; exact h.2 c (List.mem_reverse.mp hc)
    · have := congrArg List.reverse hr
      simpa using this

theorem pureUpper_form {m : Str} (h : isPureUpper m = true) : m ≠ [] ∧ ∀ c ∈ m, isUpper c = true := by
  simp only [isPureUpper, Bool.and_eq_true, Bool.not_eq_true', List.all_eq_true] at h
  exact ⟨by intro e; subst e; simp at h, h.2⟩

theorem upper_ne_zero {c : Char} (h : isUpper c = true) : c ≠ '0' := by
  intro e; subst e; exact absurd h (by decide)

/-! ### general facts about lists and characters -/

theorem getLast?_append_ne_nil {α} (a b : List α) (h : b ≠ []) : (a ++ b).getLast? = b.getLast? := by
  rw [List.getLast?_append]
  cases hb : b.getLast? with
  | none => simp [List.getLast?_eq_none_iff] at hb; exact absurd hb h
  | some x => simp

theorem drop_ne_nil {w : Str} {o : Nat} (h : o < w.length) : w.drop o ≠ [] := by
  intro e
  have := congrArg List.length e
  simp only [List.length_drop, List.length_nil] at this
  omega

theorem digit_not_upper {c : Char} (h : isDigit c = true) : isUpper c = false := by
  simp only [isDigit, isUpper, Bool.and_eq_true, decide_eq_true_eq] at h ⊢
  cases hu : (decide ('A' ≤ c) && decide (c ≤ 'Z')) with
  | false => rfl
  | true =>
    simp only [Bool.and_eq_true, decide_eq_true_eq] at hu
    have h1 : c.val ≤ '9'.val := h.2
    have h2 : 'A'.val ≤ c.val := hu.1
    have : ('9' : Char).val < ('A' : Char).val := by decide
    exact absurd (Nat.lt_of_lt_of_le (Nat.lt_of_le_of_lt h1 this) h2) (Nat.lt_irrefl _)


theorem prefix_append_split {a b X : Str} (h : a.isPrefixOf (b ++ X) = true) :
    a.isPrefixOf b = true ∨ ∃ a', a = b ++ a' ∧ a'.isPrefixOf X = true := by
  have hp := List.isPrefixOf_iff_prefix.mp h
  by_cases hl : a.length ≤ b.length
  · exact Or.inl (List.isPrefixOf_iff_prefix.mpr
      (List.prefix_of_prefix_length_le hp (List.prefix_append b X) hl))
  · right
    have hb : b <+: a := List.prefix_of_prefix_length_le (List.prefix_append b X) hp (by omega)
    obtain ⟨a', ha'⟩ := hb
    refine ⟨a', ha'.symm, ?_⟩
    rw [← ha'] at hp
    exact List.isPrefixOf_iff_prefix.mpr ((List.prefix_append_right_inj b).mp hp)

theorem prefix_append_of_prefix {a b : Str} (Y : Str) (h : a.isPrefixOf b = true) : a.isPrefixOf (b ++ Y) = true :=
  List.isPrefixOf_iff_prefix.mpr ((List.isPrefixOf_iff_prefix.mp h).trans (List.prefix_append b Y))

theorem prefix_append_append {a' Y : Str} (b : Str) (h : a'.isPrefixOf Y = true) :
    (b ++ a').isPrefixOf (b ++ Y) = true :=
  List.isPrefixOf_iff_prefix.mpr ((List.prefix_append_right_inj b).mpr (List.isPrefixOf_iff_prefix.mp h))

/-- zeros+letter against zeros+letter -/
theorem zeros_match (j q : Nat) (X X' : Char) (Z : Str) (hX : X ≠ '0') (hX' : X' ≠ '0')
    (h : (zeros j ++ [X]).isPrefixOf (zeros q ++ X' :: Z) = true) : j = q ∧ X = X' := by
  induction j generalizing q with
  | zero =>
    cases q with
    | zero => simpa [zeros] using h
    | succ q' =>
      simp only [zeros, List.replicate_zero, List.nil_append, List.replicate_succ, List.cons_append,
        List.isPrefixOf, Bool.and_eq_true, beq_iff_eq] at h
      exact absurd h.1 hX
  | succ j' ih =>
    cases q with
    | zero =>
      simp only [zeros, List.replicate_succ, List.cons_append, List.replicate_zero, List.nil_append,
        List.isPrefixOf, Bool.and_eq_true, beq_iff_eq] at h
      exact absurd h.1.symm hX'
    | succ q' =>
      simp only [zeros_succ, List.cons_append, List.isPrefixOf, beq_self_eq_true, Bool.true_and] at h
      obtain ⟨e1, e2⟩ := ih q' h
      exact ⟨by omega, e2⟩

/-- zeros+letter against a chunk without upper-case letters: the chunk is consumed by the zeros -/
theorem zeros_chunk (w : Str) (j : Nat) (X : Char) (Z : Str) (hX : isUpper X = true)
    (hw : ∀ c ∈ w, isUpper c = false) (h : (zeros j ++ [X]).isPrefixOf (w ++ Z) = true) :
    w.length ≤ j ∧ (zeros (j - w.length) ++ [X]).isPrefixOf Z = true := by
  induction w generalizing j with
  | nil => simpa using h
  | cons c r ih =>
    cases j with
    | zero =>
      simp only [zeros, List.replicate_zero, List.nil_append, List.cons_append, List.isPrefixOf,
        Bool.and_eq_true, beq_iff_eq] at h
      have := hw c List.mem_cons_self
      rw [← h.1, hX] at this; cases this
    | succ j' =>
      simp only [zeros_succ, List.cons_append, List.isPrefixOf, Bool.and_eq_true, beq_iff_eq] at h
      obtain ⟨e1, e2⟩ := ih j' (fun d hd => hw d (List.mem_cons_of_mem _ hd)) h.2
      refine ⟨by simp only [List.length_cons]; omega, ?_⟩
      have : j' + 1 - (c :: r).length = j' - r.length := by simp only [List.length_cons]; omega
      rw [this]; exact e2

/-- zeros+letter against text that starts with an upper-case letter -/
theorem zeros_upper (j : Nat) (X c : Char) (Z : Str) (hc : isUpper c = true)
    (h : (zeros j ++ [X]).isPrefixOf (c :: Z) = true) : j = 0 ∧ X = c := by
  cases j with
  | zero => simpa [zeros] using h
  | succ j' =>
    simp only [zeros_succ, List.cons_append, List.isPrefixOf, Bool.and_eq_true, beq_iff_eq] at h
    exact absurd h.1.symm (upper_ne_zero hc)

theorem zeros_drop (q o : Nat) (X : Char) (h : o ≤ q) : (zeros q ++ [X]).drop o = zeros (q - o) ++ [X] := by
  rw [List.drop_append_of_le_length (by simp [zeros]; exact h)]
  simp [zeros]

def noUpper (w : Str) : Prop := ∀ c ∈ w, isUpper c = false

/-- `Mapped m orig its`: the partly rendered item list `its` is the original list `orig` with every item either a token
    kept (a part name not longer than `m`, the name replaced next) or turned into a non-empty text without upper-case
    letters (a literal, or a token replaced by its value) -/
inductive Mapped (m : Str) : List Item → List Item → Prop
  | nil : Mapped m [] []
  | text (x : Item) (w : Str) (r r' : List Item) (hw : w ≠ [] ∧ noUpper w) (h : Mapped m r r') :
      Mapped m (x :: r) (.raw w :: r')
  | keep (n : Str) (r r' : List Item) (hn : n ∈ partNames ∧ n.length ≤ m.length) (h : Mapped m r r') :
      Mapped m (.tok n :: r) (.tok n :: r')

theorem head_noUpper_mismatch {a w : Str} (Z : Str) (ha : ∃ c r, a = c :: r ∧ isUpper c = true)
    (hw : w ≠ [] ∧ noUpper w) : a.isPrefixOf (w ++ Z) = false := by
  obtain ⟨c, r, rfl, hc⟩ := ha
  cases w with
  | nil => exact absurd rfl hw.1
  | cons x xs =>
    have hx := hw.2 x List.mem_cons_self
    have : (c == x) = false := by
      cases hq : c == x with
      | false => rfl
      | true => have : c = x := by simpa using hq
                subst this; rw [hc] at hx; cases hx
    simp [List.isPrefixOf, this]

theorem allUpper_head {a : Str} (ha : ∀ c ∈ a, isUpper c = true) (hne : a ≠ []) :
    ∃ c r, a = c :: r ∧ isUpper c = true := by
  cases a with
  | nil => exact absurd rfl hne
  | cons c r => exact ⟨c, r, rfl, ha c List.mem_cons_self⟩

/-! ### all upper-case text matched in the rendered list is matched in the original -/

theorem upperMatch_transfer (m : Str) {r r' : List Item} (hM : Mapped m r r') :
    ∀ a : Str, (∀ c ∈ a, isUpper c = true) → a.isPrefixOf (srcAll r') = true → a.isPrefixOf (srcAll r) = true := by
  induction hM with
  | nil => intro a _ h; exact h
  | text x w r r' hw _ ih =>
    intro a ha h
    by_cases hne : a = []
    · subst hne; simp
    · simp only [srcAll_cons, Item.src] at h
      rw [head_noUpper_mismatch _ (allUpper_head ha hne) hw] at h; cases h
  | keep n r r' hn _ ih =>
    intro a ha h
    simp only [srcAll_cons, Item.src] at h ⊢
    rcases prefix_append_split h with h1 | ⟨a', rfl, h2⟩
    · exact prefix_append_of_prefix _ h1
    · exact prefix_append_append n (ih a' (fun c hc => ha c (List.mem_append_right _ hc)) h2)

/-! ### letters + one digit -/

/-- letters + digit `U ++ [d]` against a chunk `C` that does not end with the last letter of `U`: the match passes
    through `C` only with a shorter `U'' ++ [d]` left over, for which `ih` transfers the match from `Y'` to `Y` -/
theorem lettersDigit_step {U C Y Y' : Str} {d : Char} (hlast : C.getLast? ≠ U.getLast?)
    (ih : ∀ U'', U'' ≠ [] → U''.getLast? = U.getLast? → (∀ c ∈ U'', c ∈ U) →
      (U'' ++ [d]).isPrefixOf Y' = true → (U'' ++ [d]).isPrefixOf Y = true)
    (h : (U ++ [d]).isPrefixOf (C ++ Y') = true) : (U ++ [d]).isPrefixOf (C ++ Y) = true := by
  rcases prefix_append_split h with h1 | ⟨a', e, h2⟩
  · exact prefix_append_of_prefix _ h1
  · by_cases hl : C.length ≤ U.length
    · obtain ⟨U'', hU''⟩ : C <+: U :=
        List.prefix_of_prefix_length_le ⟨a', e.symm⟩ (List.prefix_append U [d]) hl
      have ea : a' = U'' ++ [d] := by
        rw [← hU'', List.append_assoc] at e
        exact (List.append_cancel_left e).symm
      subst ea
      by_cases hne'' : U'' = []
      · subst hne''
        rw [List.append_nil] at hU''
        exact absurd (by rw [hU'']) hlast
      · rw [← hU'', List.append_assoc]
        exact prefix_append_append C (ih U'' hne'' (by rw [← hU'', getLast?_append_ne_nil C U'' hne''])
          (fun c hc => by rw [← hU'']; exact List.mem_append_right _ hc) h2)
    · -- `C` is all of `U ++ [d]`
      have hlen : (U ++ [d]).length = C.length + a'.length := by rw [e]; simp
      simp only [List.length_append, List.length_cons, List.length_nil] at hlen
      have ha' : a' = [] := List.eq_nil_of_length_eq_zero (by omega)
      subst ha'
      rw [List.append_nil] at e
      rw [e]; simp

/-- `hlast`: otherwise the digit could come from a rendered text right after a kept token -/
theorem lettersDigit_transfer (m : Str) (d : Char) {r r' : List Item} (hM : Mapped m r r') :
    ∀ U : Str, U ≠ [] → (∀ c ∈ U, isUpper c = true) → (∀ t ∈ partNames, t.getLast? ≠ U.getLast?) →
      (U ++ [d]).isPrefixOf (srcAll r') = true → (U ++ [d]).isPrefixOf (srcAll r) = true := by
  induction hM with
  | nil => intro U _ _ _ h; exact h
  | text x w r r' hw _ ih =>
    intro U hne hU _ h
    obtain ⟨c, u, rfl, hc⟩ := allUpper_head hU hne
    simp only [srcAll_cons, Item.src] at h
    have := head_noUpper_mismatch (a := (c :: u) ++ [d]) (srcAll r') ⟨c, u ++ [d], rfl, hc⟩ hw
    rw [this] at h; cases h
  | keep n r r' hn _ ih =>
    intro U hne hU hlast h
    simp only [srcAll_cons, Item.src] at h ⊢
    exact lettersDigit_step (hlast n hn.1)
      (fun U'' h1 h2 h3 => ih U'' h1 (fun c hc => hU c (h3 c hc)) (fun t ht => h2 ▸ hlast t ht)) h

/-! ### zeros + one letter -/

theorem name_shape {n : Str} (hn : n ∈ partNames) :
    isPureUpper n = true ∨ isDigitLed n = true ∨ isDigitTrailed n = true := by
  have := List.all_eq_true.mp tbl_shape n hn
  simpa [Bool.or_eq_true, or_assoc] using this

theorem shape_head_upper {n : Str} (h : isPureUpper n = true ∨ isDigitTrailed n = true) :
    ∃ c r, n = c :: r ∧ isUpper c = true := by
  rcases h with h | h
  · obtain ⟨hne, hu⟩ := pureUpper_form h
    exact allUpper_head hu hne
  · obtain ⟨U, d, hne, hu, -, rfl⟩ := digitTrailed_form h
    obtain ⟨c, r, rfl, hc⟩ := allUpper_head hu hne
    exact ⟨c, r ++ [d], rfl, hc⟩

/-- in the rendered list, zeros + the letter of `m` can only be the whole token `m` -/
theorem zerosLetter_scan (m : Str) (k : Nat) (X : Char) (hm : m ∈ partNames) (hled : isDigitLed m = true)
    (hmk : m = zeros k ++ [X]) (hX : isUpper X = true) {r r' : List Item} (hM : Mapped m r r')
    (hhead : ∀ n, Item.tok n ∈ r' → n.head? ≠ some X) :
    ∀ j, j ≤ k → (zeros j ++ [X]).isPrefixOf (srcAll r') = true → j = k ∧ ∃ r'', r' = .tok m :: r'' := by
  induction hM with
  | nil => intro j _ h; simp [srcAll] at h
  | text x w r r' hw _ ih =>
    intro j hj h
    simp only [srcAll_cons, Item.src] at h
    -- `w` is covered by `w.length ≤ j` of the zeros; the remaining `j - w.length` zeros would have to be all `k`
    obtain ⟨h1, h2⟩ := zeros_chunk w j X _ hX hw.2 h
    have hpos : 0 < w.length := List.length_pos_iff.mpr hw.1
    have := (ih (fun n hn => hhead n (List.mem_cons_of_mem _ hn)) (j - w.length) (by omega) h2).1
    omega
  | keep n r r' hn _ ih =>
    intro j hj h
    simp only [srcAll_cons, Item.src] at h
    rcases name_shape hn.1 with hs | hs | hs
    · obtain ⟨c, t, rfl, hc⟩ := shape_head_upper (Or.inl hs)
      obtain ⟨-, e⟩ := zeros_upper j X c _ hc h
      exact absurd (by simp [e]) (hhead _ List.mem_cons_self)
    · obtain ⟨q, X', hq, hX', rfl⟩ := digitLed_form hs
      rw [List.append_assoc] at h
      obtain ⟨e1, e2⟩ := zeros_match j q X X' _ (upper_ne_zero hX) (upper_ne_zero hX') h
      subst e1; subst e2
      have : m = zeros j ++ [X] := (digitLed_facts hm hn.1 hled).1 hs (by rw [hmk]; simp)
      refine ⟨?_, r', by rw [this]⟩
      have hl := congrArg List.length (hmk.symm.trans this)
      simpa [zeros] using hl.symm
    · obtain ⟨c, t, rfl, hc⟩ := shape_head_upper (Or.inr hs)
      obtain ⟨-, e⟩ := zeros_upper j X c _ hc h
      exact absurd (by simp [e]) (hhead _ List.mem_cons_self)

/-! ### the name replaced next occurs only as a whole token -/

theorem noUpper_drop {w : Str} (h : noUpper w) (o : Nat) : noUpper (w.drop o) :=
  fun c hc => h c (List.mem_of_mem_drop hc)

theorem occ_is_token {n m X : Str} {o : Nat} (hle : o + m.length ≤ n.length) (hnm : n.length ≤ m.length)
    (h : m.isPrefixOf (n.drop o ++ X) = true) : Item.tok n = Item.tok m ∧ o = 0 := by
  have ho : o = 0 := by omega
  subst ho
  rw [List.drop_zero] at h
  have h1 := List.isPrefixOf_iff_prefix.mp h
  have h2 : n <+: n ++ X := List.prefix_append n X
  have := (List.prefix_of_prefix_length_le h1 h2 (by omega)).eq_of_length (by omega)
  exact ⟨by rw [this], rfl⟩

theorem cleanFor_headUpper (m : Str) (hm : m ∈ partNames) (hhd : ∃ c r, m = c :: r ∧ isUpper c = true)
    (transfer : ∀ {r r' : List Item}, Mapped m r r' → ∀ n ∈ partNames, ∀ o, o < n.length →
      m.isPrefixOf (n.drop o ++ srcAll r') = true → m.isPrefixOf (n.drop o ++ srcAll r) = true)
    {orig its : List Item} (hM : Mapped m orig its) (hs : safeItemsK orig []) : cleanFor m its := by
  induction hM with
  | nil => trivial
  | text x w r r' hw _ ih =>
    refine ⟨?_, ih (safeItemsK_tail hs)⟩
    intro o ho h
    rw [head_noUpper_mismatch _ hhd ⟨drop_ne_nil ho, noUpper_drop hw.2 o⟩] at h; cases h
  | keep n r r' hn hM' ih =>
    refine ⟨?_, ih hs.2⟩
    intro o ho h
    have horig := transfer hM' n hn.1 o ho h
    exact occ_is_token (hs.1 o ho m hm (by rw [List.append_nil]; exact horig)) hn.2 horig

theorem cleanFor_pureUpper (m : Str) (hm : m ∈ partNames) (hu : isPureUpper m = true)
    {orig its : List Item} (hM : Mapped m orig its) (hs : safeItemsK orig []) : cleanFor m its := by
  obtain ⟨hne, hup⟩ := pureUpper_form hu
  refine cleanFor_headUpper m hm (allUpper_head hup hne) (fun hM' n _ o _ h => ?_) hM hs
  rcases prefix_append_split h with h1 | ⟨a', e, h2⟩
  · exact prefix_append_of_prefix _ h1
  · rw [e]
    exact prefix_append_append _ (upperMatch_transfer m hM' a'
      (fun c hc => hup c (by rw [e]; exact List.mem_append_right _ hc)) h2)

theorem cleanFor_digitTrailed (m : Str) (hm : m ∈ partNames) (hu : isDigitTrailed m = true)
    {orig its : List Item} (hM : Mapped m orig its) (hs : safeItemsK orig []) : cleanFor m its := by
  obtain ⟨U, d, hne, hup, hd, rfl⟩ := digitTrailed_form hu
  obtain ⟨c0, u0, hU0, hc0⟩ := allUpper_head hup hne
  have hlast : ∀ t ∈ partNames, t.getLast? ≠ U.getLast? := by
    intro t ht
    have := List.all_eq_true.mp tbl_shapes.2.2.1 _ hm
    rw [hu] at this
    exact (by simpa using this : ∀ x ∈ partNames, ¬ x.getLast? = U.getLast?) t ht
  refine cleanFor_headUpper _ hm ⟨c0, u0 ++ [d], by rw [hU0]; rfl, hc0⟩ (fun hM' n hn o ho h => ?_) hM hs
  have hClast : (n.drop o).getLast? = n.getLast? := by
    have := getLast?_append_ne_nil (n.take o) (n.drop o) (drop_ne_nil ho)
    rw [List.take_append_drop] at this
    exact this.symm
  exact lettersDigit_step (hClast ▸ hlast n hn)
    (fun U'' h1 h2 h3 => lettersDigit_transfer _ d hM' U'' h1 (fun c hc => hup c (h3 c hc)) (fun t ht => h2 ▸ hlast t ht)) h

theorem cleanFor_digitLed (m : Str) (hm : m ∈ partNames) (hu : isDigitLed m = true)
    {orig its : List Item} (hM : Mapped m orig its)
    (hhead : ∀ n, Item.tok n ∈ its → n.head? ≠ m.getLast?) : cleanFor m its := by
  obtain ⟨k, X, hk, hX, hmk⟩ := digitLed_form hu
  have hlastm : m.getLast? = some X := by rw [hmk]; simp
  rw [hlastm] at hhead
  induction hM with
  | nil => trivial
  | text x w r r' hw hM' ih =>
    have hh' : ∀ n, Item.tok n ∈ r' → n.head? ≠ some X := fun n hn => hhead n (List.mem_cons_of_mem _ hn)
    refine ⟨?_, ih hh'⟩
    intro o ho h
    simp only [Item.src] at ho h
    rw [hmk] at h
    -- the non-empty `w.drop o` uses up some of the `k` zeros, yet the scan of the rest needs all `k`
    obtain ⟨h1, h2⟩ := zeros_chunk _ k X _ hX (noUpper_drop hw.2 o) h
    have := (zerosLetter_scan m k X hm hu hmk hX hM' hh' _ (by omega) h2).1
    simp only [List.length_drop] at h1 this
    omega
  | keep n r r' hn hM' ih =>
    have hh' : ∀ n, Item.tok n ∈ r' → n.head? ≠ some X := fun n hn => hhead n (List.mem_cons_of_mem _ hn)
    refine ⟨?_, ih hh'⟩
    intro o ho h
    simp only [Item.src] at ho h
    by_cases ho0 : o = 0
    · subst ho0
      rw [List.drop_zero, hmk] at h
      have hsc := zerosLetter_scan m k X hm hu hmk hX (Mapped.keep n r r' hn hM') hhead k (Nat.le_refl _)
        (by simpa [srcAll_cons, Item.src] using h)
      obtain ⟨-, r'', e⟩ := hsc
      injection e with e1 _
      exact ⟨e1, rfl⟩
    · exfalso
      rw [hmk] at h
      rcases name_shape hn.1 with hsn | hsn | hsn
      · obtain ⟨-, hup⟩ := pureUpper_form hsn
        obtain ⟨c, t, hct, hc⟩ := allUpper_head (fun c hc => hup c (List.mem_of_mem_drop hc)) (drop_ne_nil ho)
        rw [hct] at h
        -- `n.drop o` begins with a letter: `k = 0`, against `1 ≤ k`
        have := (zeros_upper k X c _ hc h).1
        omega
      · obtain ⟨q, X', hq, hX', rfl⟩ := digitLed_form hsn
        have hoq : o ≤ q := by simp [zeros] at ho; omega
        rw [zeros_drop q o X' hoq, List.append_assoc] at h
        obtain ⟨e1, e2⟩ := zeros_match k (q - o) X X' _ (upper_ne_zero hX) (upper_ne_zero hX') h
        subst e2
        have hmn : m = zeros q ++ [X] := (digitLed_facts hm hn.1 hu).1 hsn (by rw [hmk]; simp)
        -- `n` ends in the letter of `m`, so `n = m` and `q = k`; the match gives `k = q - o` with `o ≠ 0`
        have hl := congrArg List.length (hmk.symm.trans hmn)
        simp [zeros] at hl
        omega
      · obtain ⟨U', d', hne', hup', hd', rfl⟩ := digitTrailed_form hsn
        by_cases hlt : o < U'.length
        · rw [List.drop_append_of_le_length (Nat.le_of_lt hlt)] at h
          obtain ⟨c, t, hct, hc⟩ := allUpper_head (fun c hc => hup' c (List.mem_of_mem_drop hc)) (drop_ne_nil hlt)
          rw [hct] at h
          have := (zeros_upper k X c _ hc h).1  -- again `k = 0`
          omega
        · have hoe : o = U'.length := by simp at ho; omega
          have hdrop : (U' ++ [d']).drop o = [d'] := by rw [hoe]; simp
          rw [hdrop] at h
          have hnu : noUpper [d'] := by
            intro c hc
            have : c = d' := by simpa using hc
            rw [this]; exact digit_not_upper hd'
          -- only the digit `d'` is left of `n`: it takes one of the `k` zeros, and the scan of the rest needs all `k`
          obtain ⟨h1, h2⟩ := zeros_chunk [d'] k X _ hX hnu h
          have := (zerosLetter_scan m k X hm hu hmk hX hM' hh' _ (by omega) h2).1
          simp only [List.length_cons, List.length_nil] at h1 this
          omega

/-- THE NEXT NAME OCCURS ONLY AS WHOLE TOKENS -/
theorem cleanFor_of_mapped (m : Str) (hm : m ∈ partNames) {orig its : List Item} (hM : Mapped m orig its)
    (hs : safeItemsK orig [])
    (hhead : isDigitLed m = true → ∀ n, Item.tok n ∈ its → n.head? ≠ m.getLast?) : cleanFor m its := by
  rcases name_shape hm with h | h | h
  · exact cleanFor_pureUpper m hm h hM hs
  · exact cleanFor_digitLed m hm h hM (hhead h)
  · exact cleanFor_digitTrailed m hm h hM hs

end BV
