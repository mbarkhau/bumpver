/-
  Proofs/TieParseLemmas.lean — small lemmas shared by the ties of the `parse` group
  (Proofs/Tie_dateFromDoy … Tie_isValid): the eliminators harness/translate_parse.py emits
  (`Except.bind`, `Except.tryCatch`, `Option.elim`), the Python dict primitives of Model/PyPrims.lean,
  and the abstraction of a Python `Dict[str, str]` to the model's `FVals`.
-/
import BumpverVerif.Model.PyPrims
namespace BV

/-! ### `Except.bind` / `Except.tryCatch` -/

@[simp] theorem exBind_ok {ε α β : Type} (a : α) (f : α → Except ε β) : Except.bind (.ok a) f = f a := rfl
@[simp] theorem exBind_error {ε α β : Type} (e : ε) (f : α → Except ε β) :
    Except.bind (.error e : Except ε α) f = .error e := rfl
@[simp] theorem exBind_ok_right {ε α : Type} (x : Except ε α) : Except.bind x (fun a => .ok a) = x := by
  cases x <;> rfl
@[simp] theorem exTry_ok {ε α : Type} (a : α) (h : ε → Except ε α) : Except.tryCatch (.ok a) h = .ok a := rfl
@[simp] theorem exTry_error {ε α : Type} (e : ε) (h : ε → Except ε α) :
    Except.tryCatch (.error e : Except ε α) h = h e := rfl

@[simp] theorem pyTry_ok {α β : Type} (a : α) (f : α → Except PErr β) (h : PErr → Except PErr β) :
    pyTry (.ok a) f h = f a := rfl
@[simp] theorem pyTry_error {α β : Type} (e : PErr) (f : α → Except PErr β) (h : PErr → Except PErr β) :
    pyTry (.error e : Except PErr α) f h = h e := rfl

/-! ### the Python dict `field_values : Dict[str, str]` and the model's `FVals` -/

/-- abstraction: the model's group dict has `Option Str` values, a Python `Dict[str, str]` only present ones -/
def absFV (fv : PyDict Str) : FVals := fv.map (fun kv => (kv.1, some kv.2))

theorem lookup_absFV (k : Str) (fv : PyDict Str) : lookup k (absFV fv) = (lookup k fv).map some := by
  induction fv with
  | nil => rfl
  | cons kv rest ih =>
    obtain ⟨k', v⟩ := kv
    simp only [absFV, List.map_cons, lookup] at ih ⊢
    split <;> simp_all

/-- `int(d[k]) if k in d else None`, as emitted (`k in d` narrows `d[k]`) -/
@[simp] theorem optElim_map {α β : Type} (o : Option α) (f : α → β) :
    Option.elim o none (fun v => some (f v)) = o.map f := by
  cases o <;> rfl

theorem strField_absFV (fv : PyDict Str) (k : String) :
    strField (absFV fv) k = (lookup k.toList fv).getD [] := by
  simp only [strField, lookup_absFV]
  cases lookup k.toList fv <;> rfl

/-- Python truthiness of an `Optional[int]` (`None` and `0` are falsy).  The translator emits it as
    `(o != none && o != some 0)`, the model writes `truthy o`; the ties rewrite both to `pyTr o`, which `simp`
    does not unfold (so that a truth value stays ONE atom). -/
def pyTr (o : Option Nat) : Bool := (o != none && o != some 0)

theorem bne_pyTr (o : Option Nat) : (o != none && o != some 0) = pyTr o := rfl

theorem truthy_pyTr (o : Option Nat) : truthy o = pyTr o := by
  cases o with
  | none => rfl
  | some n => by_cases h : n = 0 <;> simp [truthy, pyTr, bne, h]

@[simp] theorem pyTr_none : pyTr none = false := rfl
@[simp] theorem pyTr_some (n : Nat) : pyTr (some n) = (n != 0) := by
  by_cases h : n = 0 <;> simp [pyTr, bne, h]

theorem pyTr_iff (o : Option Nat) : pyTr o = true ↔ o.getD 0 ≠ 0 := by
  cases o with
  | none => exact ⟨nofun, fun h => (h rfl).elim⟩
  | some n => rw [pyTr_some, Option.getD_some]; exact bne_iff_ne

/-- Python's `if x:` on an `Optional[int]` (`x` narrowed in the branch), as emitted -/
theorem optElim_truthy {β : Type} (o : Option Nat) (z : β) (f : Nat → β) :
    Option.elim o z (fun x => if (x != 0) = true then f x else z) = if pyTr o = true then f (o.getD 0) else z := by
  cases o with
  | none => rfl
  | some y => simp only [Option.elim_some, pyTr_some, Option.getD_some]

/-- `if x and y:` -/
theorem ite_pyTr_and {β : Type} (a : Option Nat) (b : Bool) (x z : β) :
    (if pyTr a = true then (if b = true then x else z) else z) = if (pyTr a && b) = true then x else z := by
  cases pyTr a <;> cases b <;> rfl

theorem ite_swap_not {α : Type} {c d : Bool} (h : c = !d) (x y : α) :
    (if c = true then x else y) = if d = true then y else x := by
  subst h; cases d <;> rfl

end BV
