/-
  Proofs/Tie_v1ParseFieldValues.lean — the definition GENERATED from the Python source of
  `v1version._parse_field_values` (Gen/F_v1ParseFieldValues.lean, harness/translate_v1.py) equals the hand model
  `BV.v1ParseFieldValues` (Model/V1.lean) on ALL inputs, exceptions included and in the same ORDER:
  tag, bid, year (+2000 below 100), doy, month/dom FROM the day of the year (OverflowError) or from the fields,
  then day of year / weeks from the date (ValueError for an impossible date), THEN the quarter from the month,
  major, minor, patch; `int(None)` is a TypeError at the position Python raises it.

  One hypothesis: the group `bid` is not `None` (`hbid`).  Python would store `None` into the `str` field and
  carry on; the generated code reports that at the constructor (`pyTyped`), the model at the lookup — so with
  `{'bid': None, 'year': None}` the model answers `unsupported`, the generated code `typeError`
  (`tie_v1ParseFieldValues_bid_none_witness`).  No pattern puts a `bid` part into an optional group, so
  `match.groupdict()` never has `bid = None`.

  Method: `pfv_model_eq_spec` (Proofs/TieV1Spec.lean) turns the model into an explicit chain of binds; the
  generated definition is such a chain too; `v1_ebind_congr` walks both in lockstep.  The heads are compared by
  case analysis on the looked-up group / the calendar values, not by the syntactic shape of the generated term.
-/
import BumpverVerif.Gen.F_v1ParseFieldValues
import BumpverVerif.Proofs.TieV1Spec
set_option linter.unusedSimpArgs false
set_option linter.unusedVariables false
namespace BV
open GenV1

/-- lockstep where the generated side still carries `Optional[T]` and the model already `T` -/
theorem v1_ebind_congr_some {ε α β} {a : Except ε (Option α)} {b : Except ε α} {f : Option α → Except ε β}
    {g : α → Except ε β} (h : a = Except.map some b) (hfg : ∀ x, f (some x) = g x) :
    Except.bind a f = Except.bind b g :=
  v1_ebind_congr_map some h hfg

/-- head of a bind: a generated `int(fvals[k]) if k in fvals else None` against the model's `v1IntField` -/
macro "pfv_field" k:term : tactic => `(tactic| (
  try unfold pyGetItem
  try unfold pyInt
  unfold v1IntField
  rcases lookup ($k : String).toList _ with _ | _ | s <;> rfl))

/-- … `else 0` against `v1IntFieldOr0` -/
macro "pfv_field0" k:term : tactic => `(tactic| (
  try unfold pyGetItem
  try unfold pyInt
  unfold v1IntFieldOr0 v1IntField
  rcases lookup ($k : String).toList _ with _ | _ | s <;> rfl))

/-- month and dom read from the fields, in this order -/
macro "pfv_chain" : tactic => `(tactic|
  exact v1_ebind_congr (by pfv_field "month") (fun _ => v1_ebind_congr (by pfv_field "dom") (fun _ => rfl)))

/-- quarter, major, minor, patch, then the record (quarter derived from the month AFTER the date steps) -/
macro "pfv_tail" md:ident : tactic => `(tactic| (
    refine v1_ebind_congr (by pfv_field "quarter") (fun q0 => ?_)
    refine v1_ebind_congr (by pfv_field0 "major") (fun major => ?_)
    refine v1_ebind_congr (by pfv_field0 "minor") (fun minor => ?_)
    refine v1_ebind_congr (by pfv_field0 "patch") (fun patch => ?_)
    simp only [pyTyped, v1_ebind_ok]
    refine congrArg Except.ok ?_
    congr 1
    · -- quarter
      unfold pfvQuarter
      rcases $md:ident with ⟨_ | m, dm⟩ <;> rcases q0 with _ | q <;>
        first | rfl | (by_cases hm : m = 0 <;> simp [truthy, hm])
    · -- tag
      unfold pfvTag
      rcases lookup "tag".toList _ with _ | _ | t <;> rfl))

/-- the simp set that decides the truthiness tests once every tested value is `none`, `some 0` or `some n` with
    `(n != 0) = true` in the context -/
macro "pfv_simp" hs:(ppSpace colGt ident)* : tactic => `(tactic|
  simp only [truthy, if_true, if_false, Bool.true_and, Bool.and_true, Bool.false_and, Bool.and_false, Bool.and_self,
    Bool.not_true, Bool.not_false, Bool.false_eq_true, bne_self_eq_false, Option.getD_some, Option.getD_none,
    ite_self, ne_eq, not_true_eq_false, not_false_eq_true, Bool.not_eq_true', $[$hs:term],*])

/-- month / dom when there is NO year: always from the fields -/
macro "pfv_md_noyear" doy0:ident : tactic => `(tactic| (
    unfold pfvMD
    rcases $doy0:ident with _ | d
    · (try pfv_simp); pfv_chain
    · by_cases hd : d = 0
      · subst hd; (try pfv_simp); pfv_chain
      · have hdb : (d != 0) = true := by simpa using hd
        (try pfv_simp hdb); pfv_chain))

/-- month / dom for a year `Y ≠ 0`: from the day of the year when there is one (and it is not 0), else the fields -/
macro "pfv_md_year" Y:ident hYb:ident doy0:ident : tactic => `(tactic| (
    unfold pfvMD
    rcases $doy0:ident with _ | d
    · pfv_simp $hYb; pfv_chain
    · by_cases hd : d = 0
      · subst hd; pfv_simp $hYb; pfv_chain
      · have hdb : (d != 0) = true := by simpa using hd
        pfv_simp $hYb hdb
        unfold pyDateFromDoy
        cases dateFromDoy $Y:ident d <;> rfl))

/-- day of year and weeks when there is NO year: the `doy` field is kept -/
macro "pfv_dw_noyear" md:ident : tactic => `(tactic| (
    unfold pfvDW
    rcases $md:ident with ⟨_ | m, _ | dm⟩ <;> (try pfv_simp) <;>
      (try (by_cases hm : m = 0 <;> by_cases hdm : dm = 0 <;> simp [hm, hdm]))))

/-- day of year and weeks from the (validated) date for a year `Y ≠ 0` -/
macro "pfv_dw_year" Y:ident hYb:ident md:ident : tactic => `(tactic| (
    unfold pfvDW
    rcases $md:ident with ⟨_ | m, _ | dm⟩
    · pfv_simp $hYb
    · by_cases hdm : dm = 0
      · subst hdm; pfv_simp $hYb
      · have hdb : (dm != 0) = true := by simpa using hdm
        pfv_simp $hYb hdb
    · by_cases hm : m = 0
      · subst hm; pfv_simp $hYb
      · have hmb : (m != 0) = true := by simpa using hm
        pfv_simp $hYb hmb
    · by_cases hm : m = 0
      · subst hm
        by_cases hdm : dm = 0
        · subst hdm; pfv_simp $hYb
        · have hdb : (dm != 0) = true := by simpa using hdm
          pfv_simp $hYb hdb
      · have hmb : (m != 0) = true := by simpa using hm
        by_cases hdm : dm = 0
        · subst hdm; pfv_simp $hYb hmb
        · have hdb : (dm != 0) = true := by simpa using hdm
          pfv_simp $hYb hmb hdb
          unfold pyDate
          cases validDate $Y:ident m dm <;> rfl))

theorem tie_v1ParseFieldValues (fv : FVals) (hbid : lookup "bid".toList fv ≠ some none) :
    GenV1.v1ParseFieldValues fv = v1ParseFieldValues fv := by
  rw [pfv_model_eq_spec]
  unfold GenV1.v1ParseFieldValues pfvSpec
  dsimp only
  -- bid
  refine v1_ebind_congr_some ?_ (fun bid => ?_)
  · unfold pfvBid
    try unfold pyGetItem
    rcases h : lookup "bid".toList fv with _ | _ | b
    · rfl
    · exact absurd h hbid
    · rfl
  -- year, doy
  refine v1_ebind_congr (by pfv_field "year") (fun year0 => ?_)
  refine v1_ebind_congr (by pfv_field "doy") (fun doy0 => ?_)
  rcases year0 with _ | y
  · -- no year: nothing is derived
    dsimp only [pfvAdj, Option.map]
    refine v1_ebind_congr (by pfv_md_noyear doy0) (fun md => ?_)
    refine v1_ebind_congr (by pfv_dw_noyear md) (fun dw => ?_)
    pfv_tail md
  · -- a year: `year < 100` is moved into this century; either way it is not 0
    by_cases hy : y < 100
    · have hYb : (y + 2000 != 0) = true := by simp
      simp only [pfvAdj, Option.map, hy, decide_true, decide_false, if_true, if_false, gt_iff_lt, Bool.false_eq_true]
      try simp only [Nat.add_comm 2000 y]
      obtain ⟨Y, hYe⟩ : ∃ Y, y + 2000 = Y := ⟨_, rfl⟩     -- (not `generalize … at`: slow to check here)
      simp only [hYe] at hYb ⊢
      refine v1_ebind_congr (by pfv_md_year Y hYb doy0) (fun md => ?_)
      refine v1_ebind_congr (by pfv_dw_year Y hYb md) (fun dw => ?_)
      pfv_tail md
    · have hYb : (y != 0) = true := by
        have : y ≠ 0 := by omega
        simpa using this
      simp only [pfvAdj, Option.map, hy, decide_true, decide_false, if_true, if_false, gt_iff_lt, Bool.false_eq_true]
      refine v1_ebind_congr (by pfv_md_year y hYb doy0) (fun md => ?_)
      refine v1_ebind_congr (by pfv_dw_year y hYb md) (fun dw => ?_)
      pfv_tail md

/-- `hbid` is needed: with `bid = None` AND a second defective group the two sides report different errors
    (the model at the lookup of `bid`, the generated code — like a typed Python would — at the constructor) -/
theorem tie_v1ParseFieldValues_bid_none_witness :
    GenV1.v1ParseFieldValues [("bid".toList, none), ("year".toList, none)] = .error .typeError ∧
    v1ParseFieldValues [("bid".toList, none), ("year".toList, none)] = .error .unsupported := by
  decide +kernel

/-- with `bid = None` alone both sides answer `unsupported` -/
theorem tie_v1ParseFieldValues_bid_none_alone :
    GenV1.v1ParseFieldValues [("bid".toList, none)] = .error .unsupported ∧
    v1ParseFieldValues [("bid".toList, none)] = .error .unsupported := by
  decide +kernel

/-- non-vacuity, and the order of the derivation steps: day 366 of a
    non-leap year runs into 1 January of the NEXT year's calendar fields (month 1, dom 1), the day of the year is
    recomputed from that date, and the quarter is derived from the month obtained from the day of the year -/
example :
    GenV1.v1ParseFieldValues [("year".toList, some "2023".toList), ("doy".toList, some "366".toList)] =
      .ok { year := some 2023, quarter := some 1, month := some 1, dom := some 1, doy := some 1, isoWeek := some 0,
            usWeek := some 1, major := 0, minor := 0, patch := 0, bid := "0001".toList, tag := "final".toList } := by
  rw [tie_v1ParseFieldValues _ (by decide)]; decide +kernel

end BV
