/-
  Proofs/V1Lemmas.lean — lemmas about the legacy engine (Model/V1.lean) for Props/C20.lean and the ties:
  `\d` matches as `[0-9]` does, substring search and the engine dispatch, `lexid.next_id` without padding, the `{pycalver}` key,
  `v1Bump`; `format_version` as a chain (`v1FormatVersion_spec`: head, kwargs before the loop over
  ID_FIELDS_BY_PART, the loop step) and, from it, the rendering of a pattern that is one part whose template
  is one replacement field (`v1FormatVersion_single`).
-/
import BumpverVerif.Model.V1
import BumpverVerif.Proofs.Digits
import BumpverVerif.Proofs.PartLemmas
import BumpverVerif.Proofs.PatternLemmas
import BumpverVerif.Proofs.TieV1Spec
namespace BV

/-! ### `\d` matches as `[0-9]` does -/

/-- `\d` as `parseRe` builds it -/
def dCls : Re := .cls false [.digit]

theorem dCls_m_eq : dCls.m = digitCls.m := by
  funext st
  simp only [dCls, digitCls, Re.m, List.any_cons, List.any_nil, Bool.or_false, range09_matches]
  rfl

/-! ### lists -/

theorem all_and_eq_true {α} (l : List α) (f g : α → Bool) (hf : l.all f = true) (hg : l.all g = true) :
    l.all (fun x => f x && g x) = true := by
  rw [List.all_eq_true] at hf hg ⊢
  intro x hx
  rw [hf x hx, hg x hx]
  rfl

/-! ### substring search -/

theorem findIdx_of_prefix (pat s : Str) (h : pat.isPrefixOf s = true) : (findIdx pat s).isSome = true := by
  cases s with
  | nil =>
    cases pat with
    | nil => simp [findIdx]
    | cons c cs => simp at h
  | cons x xs => simp [findIdx, h]

theorem findIdx_append_isSome (pat : Str) : ∀ (a b : Str), (findIdx pat (a ++ (pat ++ b))).isSome = true := by
  intro a
  induction a with
  | nil =>
    intro b
    exact findIdx_of_prefix pat _ (List.isPrefixOf_iff_prefix.mpr (List.prefix_append pat b))
  | cons x a ih =>
    intro b
    have := ih b
    simp only [List.cons_append, findIdx]
    split
    · rfl
    · cases hf : findIdx pat (a ++ (pat ++ b)) with
      | none => rw [hf] at this; cases this
      | some i => simp

theorem isInfix_append (pat a b : Str) : isInfix pat (a ++ (pat ++ b)) = true :=
  findIdx_append_isSome pat a b

theorem mem_of_isInfix {pat s : Str} (h : isInfix pat s = true) : ∀ c ∈ pat, c ∈ s := by
  unfold isInfix at h
  cases hf : findIdx pat s with
  | none => simp [hf] at h
  | some i => exact findIdx_some_subset hf

/-! ### which engine: patterns built from documented legacy parts and brace-free text -/

/-- a token of a legacy pattern: literal text or a `{part}` -/
inductive LTok
  | lit (s : Str)
  | part (name : Str)
  deriving Repr

def LTok.text : LTok → Str
  | .lit s => s
  | .part n => '{' :: n ++ ['}']

/-- the pattern a token list spells -/
def renderToks : List LTok → Str
  | [] => []
  | t :: ts => t.text ++ renderToks ts

def braceFree (s : Str) : Bool := !s.contains '{' && !s.contains '}'

/-- the documented legacy parts: the composites and the single parts of the property text, with
    the spellings the legacy README lists next to them -/
def docParts : List Str :=
  ["pycalver", "semver", "calver", "build", "release", "pep440_pycalver", "pep440_version", "version",
   "release_tag", "year", "month", "dom", "doy", "quarter", "build_no", "MAJOR", "MINOR", "PATCH",
   "month_short", "dom_short", "doy_short", "yy", "yyyy", "iso_week", "us_week", "tag", "pep440_tag",
   "bid", "BID", "BB", "BBB", "BBBB", "BBBBB", "BBBBBB", "BBBBBBB", "MM", "MMM", "MMMM", "MMMMM",
   "PP", "PPP", "PPPP", "PPPPP"].map String.toList

def LTok.documented : LTok → Bool
  | .lit s => braceFree s
  | .part n => docParts.contains n

theorem isNewPattern_iff (p : Str) : isNewPattern p = true ↔ ('{' ∉ p ∧ '}' ∉ p) := by
  simp [isNewPattern]

theorem braceFree_iff (p : Str) : braceFree p = true ↔ ('{' ∉ p ∧ '}' ∉ p) := by
  simp [braceFree]

/-- every documented part is a key of the generated tables `incr_dispatch` scans -/
theorem docParts_known :
    docParts.all (fun n => (Gen.v1PartPatterns.map (·.1) ++ Gen.v1FullPartFormats.map (·.1)).contains n) = true := by
  decide +kernel

theorem hasV1Part_of_infix (n p : Str) (hn : n ∈ docParts) (h : isInfix ('{' :: n ++ ['}']) p = true) :
    hasV1Part p = true := by
  have hk := List.all_eq_true.mp docParts_known n hn
  have hmem : n ∈ Gen.v1PartPatterns.map (·.1) ++ Gen.v1FullPartFormats.map (·.1) := by
    simpa using hk
  unfold hasV1Part hasV1PartWith
  exact List.any_eq_true.mpr ⟨n, hmem, h⟩

/-- `hasV1Part` needs a `{`: the direction that holds for EVERY pattern -/
theorem not_new_of_hasV1Part (p : Str) (h : hasV1Part p = true) : isNewPattern p = false := by
  unfold hasV1Part hasV1PartWith at h
  obtain ⟨n, _, hn⟩ := List.any_eq_true.mp h
  have hb : '{' ∈ p := mem_of_isInfix hn '{' (by simp)
  cases hnp : isNewPattern p with
  | false => rfl
  | true => exact absurd hb ((isNewPattern_iff p).mp hnp).1

theorem renderToks_infix (ts : List LTok) (t : LTok) (h : t ∈ ts) :
    isInfix t.text (renderToks ts) = true := by
  induction ts with
  | nil => cases h
  | cons u us ih =>
    rcases List.mem_cons.mp h with rfl | hm
    · have := isInfix_append t.text [] (renderToks us)
      simpa [renderToks] using this
    · have hi := ih hm
      unfold isInfix at hi ⊢
      cases hf : findIdx t.text (renderToks us) with
      | none => rw [hf] at hi; cases hi
      | some i =>
        -- an occurrence in the tail is an occurrence in the whole
        have hp := findIdx_some_prefix hf
        obtain ⟨b, hb⟩ := List.isPrefixOf_iff_prefix.mp hp
        have hsplit : renderToks (u :: us) = (u.text ++ (renderToks us).take i) ++ (t.text ++ b) := by
          simp only [renderToks, List.append_assoc]
          rw [hb, List.take_append_drop]
        rw [hsplit]
        exact findIdx_append_isSome _ _ _

theorem new_of_no_parts (ts : List LTok) (hdoc : ∀ t ∈ ts, t.documented = true)
    (hno : ∀ n, LTok.part n ∉ ts) : isNewPattern (renderToks ts) = true := by
  induction ts with
  | nil => decide
  | cons u us ih =>
    have hu := hdoc u (List.mem_cons_self ..)
    have ih' := ih (fun t ht => hdoc t (List.mem_cons_of_mem _ ht))
      (fun n hn => hno n (List.mem_cons_of_mem _ hn))
    cases u with
    | part n => exact absurd (List.mem_cons_self ..) (hno n)
    | lit s =>
      have hs := (braceFree_iff s).mp hu
      have hr := (isNewPattern_iff _).mp ih'
      apply (isNewPattern_iff _).mpr
      simp only [renderToks, LTok.text, List.mem_append, not_or]
      exact ⟨⟨hs.1, hr.1⟩, ⟨hs.2, hr.2⟩⟩

/-! ### `lexid.next_id` without the v2 padding rule (the legacy engine calls it directly) -/

theorem nextId_int_strict (b b' : Str) (hb : isDigitStr b = true) (h : nextId b = some b') :
    isDigitStr b' = true ∧ strToNat b < strToNat b' := by
  obtain ⟨hd, hspec⟩ := nextId_spec b b' hb h
  refine ⟨hd, ?_⟩
  rcases hspec with ⟨_, _, hv⟩ | ⟨d, _, _, _, _, hv⟩ <;> omega

/-- two strings of equal length that compare `<` still do after appending anything to each -/
theorem strLt_append_of_length_eq : ∀ (a b x y : Str), a.length = b.length → strLt a b = true →
    strLt (a ++ x) (b ++ y) = true := by
  intro a
  induction a with
  | nil =>
    intro b x y hl h
    cases b with
    | nil => simp [strLt] at h
    | cons _ _ => simp at hl
  | cons c cs ih =>
    intro b x y hl h
    cases b with
    | nil => simp at hl
    | cons e es =>
      simp only [List.cons_append]
      rw [strLt_cons_cons] at h ⊢
      by_cases h1 : c < e
      · rw [if_pos h1]
      · rw [if_neg h1] at h ⊢
        by_cases h2 : e < c
        · rw [if_pos h2] at h; cases h
        · rw [if_neg h2] at h ⊢
          exact ih es x y (by simpa using hl) h

/-- the next id is greater as a plain string, and stays greater whatever text follows each -/
theorem nextId_lex_strict_append (b b' x y : Str) (hb : isDigitStr b = true) (h : nextId b = some b') :
    strLt (b ++ x) (b' ++ y) = true := by
  obtain ⟨hd', hspec⟩ := nextId_spec b b' hb h
  have hbd := (isDigitStr_iff b).mp hb
  have hb'd := (isDigitStr_iff b').mp hd'
  rcases hspec with ⟨_, hlen, hv⟩ | ⟨d, hd, hph, hb'h, _, _⟩
  · exact strLt_append_of_length_eq b b' x y hlen.symm
      ((strLt_iff_of_length_eq b b' hbd.2 hb'd.2 hlen.symm).mpr (by omega))
  · cases b with
    | nil => cases hph
    | cons c t =>
      cases b' with
      | nil => cases hb'h
      | cons e es =>
        simp only [List.head?_cons, Option.some.injEq] at hph hb'h
        subst hph hb'h
        exact strLt_of_head_lt _ _ _ _ (digitChar_lt d (d + 1) (by omega) (by omega))

theorem nextId_lex_strict (b b' : Str) (hb : isDigitStr b = true) (h : nextId b = some b') :
    strLt b b' = true := by
  simpa using nextId_lex_strict_append b b' [] [] hb h

/-! ### the `{pycalver}` key -/

/-- fixed-width text of the `{year}{month:02}` prefix -/
def yyyymmText (y m : Nat) : Str := natToStr y ++ zfill 2 (natToStr m)

theorem natToStr_len2 (m : Nat) (hm : m ≤ 99) : (zfill 2 (natToStr m)).length = 2 := by
  apply zfill_length
  by_cases h : m < 10
  · rw [natToStr_lt10 m h]; simp
  · have := natToStr_length_le 2 m (by omega) (by omega); exact this

theorem yyyymmText_spec (y m : Nat) (hy1 : 1000 ≤ y) (hy2 : y ≤ 9999) (hm : m ≤ 99) :
    allDigits (yyyymmText y m) = true ∧ (yyyymmText y m).length = 6 ∧
    strToNat (yyyymmText y m) = y * 100 + m := by
  have hl4 : (natToStr y).length = 4 := natToStr_length_eq 3 y (by omega) (by omega)
  have hl2 := natToStr_len2 m hm
  refine ⟨?_, ?_, ?_⟩
  · rw [yyyymmText, allDigits_append]
    exact ⟨allDigits_natToStr y, allDigits_zfill 2 _ (allDigits_natToStr m)⟩
  · rw [yyyymmText, List.length_append, hl4, hl2]
  · rw [yyyymmText, strToNat_append, hl2, strToNat_zfill, strToNat_natToStr, strToNat_natToStr]

/-- a greater YYYYMM number is a greater six-character text, whatever follows -/
theorem yyyymmText_lt (y m y' m' : Nat) (x z : Str) (hy1 : 1000 ≤ y) (hy2 : y ≤ 9999) (hm : m ≤ 99)
    (hy1' : 1000 ≤ y') (hy2' : y' ≤ 9999) (hm' : m' ≤ 99) (h : y * 100 + m < y' * 100 + m') :
    strLt (yyyymmText y m ++ x) (yyyymmText y' m' ++ z) = true := by
  obtain ⟨hd, hl, hv⟩ := yyyymmText_spec y m hy1 hy2 hm
  obtain ⟨hd', hl', hv'⟩ := yyyymmText_spec y' m' hy1' hy2' hm'
  exact strLt_append_of_length_eq _ _ x z (by omega)
    ((strLt_iff_of_length_eq _ _ hd hd' (by omega)).mpr (by omega))

theorem strLt_prefix (p a b : Str) (h : strLt a b = true) : strLt (p ++ a) (p ++ b) = true := by
  induction p with
  | nil => simpa using h
  | cons c cs ih => simp only [List.cons_append]; rw [strLt_cons_self]; exact ih

/-- a record as `{pycalver}` versions are read: year and month shown, quarter derived from the
    month, no other calendar field, a digit-string build id -/
structure PycalverRec (v : V1Info) (y m : Nat) : Prop where
  year : v.year = some y
  month : v.month = some m
  quarter : v.quarter = some (quarterFromMonth m)
  dom : v.dom = none
  doy : v.doy = none
  isoWeek : v.isoWeek = none
  usWeek : v.usWeek = none
  bid : isDigitStr v.bid = true

theorem setCal_calList (v : V1Info) : v.setCal v.calList = v := by
  cases v; rfl

theorem v1BumpCal_pin (old : V1Info) (fl : V1Flags) (date : Nat × Nat × Nat) (hp : fl.pinDate = true) :
    v1BumpCal old fl date = old := by
  have : v1BumpCal old fl date =
      if v1IsCalGt old.calList old.calList = true then old else old.setCal old.calList := by
    simp [v1BumpCal, hp]
  rw [this, setCal_calList, ite_self]

theorem v1BumpCal_nopin (old : V1Info) (fl : V1Flags) (date : Nat × Nat × Nat) (hp : ¬ fl.pinDate = true) :
    v1BumpCal old fl date =
      if v1IsCalGt old.calList (v1CalInfo date.1 date.2.1 date.2.2) = true then old
      else old.setCal (v1CalInfo date.1 date.2.1 date.2.2) := by
  simp [v1BumpCal, hp]

theorem setCal_v1CalInfo (old : V1Info) (y m d : Nat) :
    (old.setCal (v1CalInfo y m d)).year = some y ∧ (old.setCal (v1CalInfo y m d)).month = some m ∧
    (old.setCal (v1CalInfo y m d)).bid = old.bid ∧ (old.setCal (v1CalInfo y m d)).tag = old.tag :=
  ⟨rfl, rfl, rfl, rfl⟩

theorem v1BumpCal_bid (old : V1Info) (fl : V1Flags) (date : Nat × Nat × Nat) :
    (v1BumpCal old fl date).bid = old.bid ∧ (v1BumpCal old fl date).tag = old.tag := by
  by_cases hp : fl.pinDate = true
  · rw [v1BumpCal_pin old fl date hp]; exact ⟨rfl, rfl⟩
  · rw [v1BumpCal_nopin old fl date hp]
    split
    · exact ⟨rfl, rfl⟩
    · exact ⟨(setCal_v1CalInfo old _ _ _).2.2.1, (setCal_v1CalInfo old _ _ _).2.2.2⟩

/-- the calendar step never moves the YYYYMM number of a `{pycalver}` record back -/
theorem v1BumpCal_pycalver (old : V1Info) (fl : V1Flags) (date : Nat × Nat × Nat) (y m : Nat)
    (h : PycalverRec old y m) (hm : 1 ≤ m ∧ m ≤ 12) (hd : 1 ≤ date.2.1 ∧ date.2.1 ≤ 12) :
    ∃ y' m', (v1BumpCal old fl date).year = some y' ∧ (v1BumpCal old fl date).month = some m' ∧
      y * 100 + m ≤ y' * 100 + m' ∧ 1 ≤ m' ∧ m' ≤ 12 ∧ (y' = y ∨ y' = date.1) := by
  by_cases hp : fl.pinDate = true
  · rw [v1BumpCal_pin old fl date hp]
    exact ⟨y, m, h.year, h.month, Nat.le_refl _, hm.1, hm.2, .inl rfl⟩
  · rw [v1BumpCal_nopin old fl date hp]
    by_cases hg : v1IsCalGt old.calList (v1CalInfo date.1 date.2.1 date.2.2) = true
    · rw [if_pos hg]
      exact ⟨y, m, h.year, h.month, Nat.le_refl _, hm.1, hm.2, .inl rfl⟩
    · rw [if_neg hg]
      refine ⟨date.1, date.2.1, rfl, rfl, ?_, hd.1, hd.2, .inr rfl⟩
      have hg' : v1IsCalGt old.calList (v1CalInfo date.1 date.2.1 date.2.2) = false := by
        simpa using hg
      simp only [v1IsCalGt, V1Info.calList, v1CalInfo, h.year, h.month, h.quarter, h.dom, h.doy,
        h.isoWeek, h.usWeek, presentPairs, List.map_cons, List.map_nil, lexLt, quarterFromMonth,
        Bool.or_eq_false_iff, Bool.and_eq_false_iff, decide_eq_false_iff_not, beq_eq_false_iff_ne,
        Bool.and_false, Bool.or_false] at hg'
      omega

theorem v1ApplyFlags_fields (c : V1Info) (fl : V1Flags) :
    (v1ApplyFlags c fl).year = c.year ∧ (v1ApplyFlags c fl).month = c.month ∧
    (v1ApplyFlags c fl).bid = c.bid := by
  unfold v1ApplyFlags
  dsimp only
  -- no step touches these fields: push the projections through the `if`s
  split <;> (try split) <;>
    simp only [apply_ite V1Info.year, apply_ite V1Info.month, apply_ite V1Info.bid, ite_self, and_self]

/-- what a successful `v1Bump` did: the id is `next_id` of the old one, the calendar fields are
    those of the calendar step -/
theorem v1Bump_ok (old new : V1Info) (fl : V1Flags) (date : Nat × Nat × Nat)
    (h : v1Bump old fl date = .ok new) :
    isDigitStr old.bid = true ∧ nextId old.bid = some new.bid ∧
    new.year = (v1BumpCal old fl date).year ∧ new.month = (v1BumpCal old fl date).month := by
  unfold v1Bump at h
  have hb := (v1BumpCal_bid old fl date).1
  simp only [hb] at h
  cases hd : isDigitStr old.bid with
  | false => simp [hd] at h
  | true =>
    simp only [hd, Bool.not_true, Bool.false_eq_true, if_false] at h
    cases hn : nextId old.bid with
    | none => simp [hn] at h
    | some b =>
      simp only [hn] at h
      cases ht : fl.tagNum with
      | true => simp [ht] at h
      | false =>
        simp only [ht, Bool.false_eq_true, if_false] at h
        have hnew := (Except.ok.inj h).symm
        obtain ⟨hy, hm, hbid⟩ := v1ApplyFlags_fields { v1BumpCal old fl date with bid := b } fl
        rw [hnew]
        exact ⟨rfl, by rw [hbid], hy, hm⟩

/-! ### `format_version` as a chain: head (release / pep440_tag), kwargs before the loop, the loop step -/

/-- `release` and `pep440_tag` -/
def fmtHead (v : V1Info) : Except V1Err (Str × Str) :=
  if v.tag == "final".toList then .ok ([], [])
  else match lookup v.tag Gen.pep440TagByTag with
    | some p => .ok ('-' :: v.tag, p ++ ['0'])
    | none => .error .keyError

/-- `vinfo._asdict()` -/
def fmtBase (v : V1Info) : List (Str × FV) := [
    ("year".toList, optNat v.year), ("quarter".toList, optNat v.quarter), ("month".toList, optNat v.month),
    ("dom".toList, optNat v.dom), ("doy".toList, optNat v.doy), ("iso_week".toList, optNat v.isoWeek),
    ("us_week".toList, optNat v.usWeek), ("major".toList, .nat v.major), ("minor".toList, .nat v.minor),
    ("patch".toList, .nat v.patch), ("bid".toList, .str v.bid), ("tag".toList, .str v.tag)]

/-- what is bound on top of `vinfo._asdict()` before the loop, newest first -/
def fmtPre (v : V1Info) (rp : Str × Str) : List (Str × FV) :=
  ("BID".toList, .nat (strToNat v.bid)) ::
    ((match v.year with
      | some y => if y != 0 then [("yyyy".toList, FV.nat y), ("yy".toList, FV.str (last2 (natToStr y)))] else []
      | none => []) ++
     [("release_tag".toList, .str v.tag), ("pep440_tag".toList, .str rp.2), ("release".toList, .str rp.1)])

/-- the model's step of the loop over `ID_FIELDS_BY_PART` -/
def idStep (kw : List (Str × FV)) (pf : Str × Str) : List (Str × FV) :=
  let val : FV := (lookup pf.2 kw).getD .none
  if lowerStr pf.1 == lowerStr pf.2 then
    match val with
    | .str s => (pf.1, .nat (strToNat s)) :: kw
    | x => (pf.1, x) :: kw
  else
    let s : Str := match val with | .nat n => natToStr n | .str s => s | .none => "None".toList
    (pf.1, .str (zfill pf.1.length s)) :: kw

theorem v1FormatVersion_spec (v : V1Info) (raw : Str) (hbid : isDigitStr v.bid = true) :
    v1FormatVersion v raw =
      Except.bind (fmtHead v) (fun rp =>
        v1PyFormat (List.foldl idStep (fmtPre v rp ++ fmtBase v) Gen.v1IdFieldsByPart)
          (v1FullPattern Gen.v1FullPartFormats raw)) := by
  unfold v1FormatVersion v1Kwargs fmtHead fmtPre fmtBase
  simp only [bind, pure, Except.pure, hbid, Bool.not_true, Bool.false_eq_true, if_false, throw, throwThe,
    MonadExceptOf.throw]
  by_cases ht : (v.tag == "final".toList) = true
  · simp only [ht, if_true, v1_ebind_ok]
    rcases v.year with _ | y
    · rfl
    · by_cases hy : (y != 0) = true
      · simp only [hy, if_true]; rfl
      · simp only [hy]; rfl
  · simp only [ht, if_false, Bool.false_eq_true]
    cases lookup v.tag Gen.pep440TagByTag with
    | none => rfl
    | some p =>
      simp only [v1_ebind_ok]
      rcases v.year with _ | y
      · rfl
      · by_cases hy : (y != 0) = true
        · simp only [hy, if_true]; rfl
        · simp only [hy]; rfl

/-! ### a pattern that is one part whose template is one replacement field -/

theorem lookup_foldl_idStep (f : Str) : ∀ (T : List (Str × Str)) (kw : List (Str × FV)),
    (∀ pf ∈ T, pf.1 ≠ f) → lookup f (T.foldl idStep kw) = lookup f kw := by
  intro T
  induction T with
  | nil => intro kw _; rfl
  | cons pf T ih =>
    intro kw h
    rw [List.foldl_cons, ih _ (fun q hq => h q (List.mem_cons_of_mem _ hq))]
    have hne : f ≠ pf.1 := fun e => h pf List.mem_cons_self e.symm
    unfold idStep
    dsimp only
    split
    · split <;> simp only [lookup, hne, ↓reduceIte]
    · simp only [lookup, hne, ↓reduceIte]

theorem v1TakeField_append (field rest : Str) (h : '}' ∉ field) :
    v1TakeField (field ++ '}' :: rest) = some (field, rest) := by
  induction field with
  | nil => simp [v1TakeField]
  | cons c cs ih =>
    have hc : c ≠ '}' := fun e => h (e ▸ List.mem_cons_self)
    have := ih (fun hm => h (List.mem_cons_of_mem _ hm))
    simp [v1TakeField, hc, this]

theorem v1PyFormat_single (kw : List (Str × FV)) (c : Char) (cs : Str) (h1 : '{' ∉ c :: cs) (h2 : '}' ∉ c :: cs) :
    v1PyFormat kw ('{' :: (c :: cs) ++ ['}']) = v1RenderField kw (c :: cs) := by
  have hc : c ≠ '{' := fun e => h1 (e ▸ List.mem_cons_self)
  have ht := v1TakeField_append (c :: cs) [] h2
  have hb : (c :: cs).contains '{' = false := by simpa using h1
  simp only [List.cons_append] at ht ⊢
  unfold v1PyFormat
  simp only [List.length_cons]
  rw [v1PyFormatGo]
  · simp only [beq_self_eq_true, ↓reduceIte, ht, hb, Bool.false_eq_true]
    cases v1RenderField kw (c :: cs) with
    | error e => rfl
    | ok s => simp [v1PyFormatGo, Except.map]
  · intro r' h; exact hc (List.cons.inj h).1
  · intro r' h; exact h2 ((List.cons.inj h).1 ▸ List.mem_cons_self)

/-- `format_version(v, "{name}")` when FULL_PART_FORMATS makes `{name}` the single field `{field}` and the loop over
    ID_FIELDS_BY_PART binds no key of that name: the field rendered from the kwargs before the loop -/
theorem v1FormatVersion_single (v : V1Info) (name field : Str) (rp : Str × Str) (hbid : isDigitStr v.bid = true)
    (hh : fmtHead v = .ok rp)
    (hfp : v1FullPattern Gen.v1FullPartFormats ('{' :: name ++ ['}']) = '{' :: field ++ ['}'])
    (hne : field ≠ []) (hbr : field.all (fun c => c != '{' && c != '}') = true)
    (hk : Gen.v1IdFieldsByPart.all (fun pf => pf.1 != field.takeWhile (· != ':')) = true) :
    v1FormatVersion v ('{' :: name ++ ['}']) = v1RenderField (fmtPre v rp ++ fmtBase v) field := by
  rw [v1FormatVersion_spec v _ hbid, hh, v1_ebind_ok, hfp]
  cases field with
  | nil => exact absurd rfl hne
  | cons c cs =>
    simp only [List.all_eq_true, Bool.and_eq_true, bne_iff_ne, ne_eq] at hbr hk
    rw [v1PyFormat_single _ c cs (fun h => (hbr _ h).1 rfl) (fun h => (hbr _ h).2 rfl)]
    simp only [v1RenderField, lookup_foldl_idStep _ _ _ hk]

end BV
