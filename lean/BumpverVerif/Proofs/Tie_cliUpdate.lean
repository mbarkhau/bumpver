/-
  Proofs/Tie_cliUpdate.lean — `cli._update` and `cli._try_update` (GENERATED: Gen/F_cliUpdate.lean,
  Gen/F_cliTryUpdate.lean) against the tail of the hand model `BV.plan` (Model/Plan.lean): everything
  that `bumpver update` does after the version gate when it is not a dry run —
  usable-VCS probe → dirty check → rewrite → commit phase — and the exit code.

    planTail            that part of `plan`, as a function of the state it starts in
    plan_eq_viaTail     `plan` IS `planViaTail` (the same text with `planTail` folded), by `rfl`
    tie_cliTryUpdate    (events in order, exit code) of the generated `_try_update` = planTail e c s
                        for every configuration, failure position, hook / rewrite / dirty outcome

  Hypotheses: those of the commit phase (`CommitCoherent`, Tie_vcsCommit.lean) for the VCS object that
  `get_vcs_api` returns, and
  * `dirty` : the model's `dirtyAbort` is "assert_not_dirty does not return normally" for the status text
    (`sys.exit(1)` for the verdict `abort`; the verdict `crash` is an uncaught ValueError, exit code 1 too).
  `set(cfg.file_patterns.keys())` is abstracted as the parameter `filepaths_x` (the model's `files`).
-/
import BumpverVerif.Gen.F_cliTryUpdate
import BumpverVerif.Proofs.Tie_vcsCommit
import BumpverVerif.Proofs.Tie_getTags
import BumpverVerif.Proofs.Tie_assertNotDirty
set_option linter.unusedSimpArgs false
namespace BV
open GenE

/-- the part of `plan` after the dry-run test, started in state `s2` -/
def planTail (e : PlanEnv) (c : PlanCfg) (s2 : PState) : List Ev × Nat :=
  let (s3, usable) := if c.commit then isUsable e s2 else (s2, false)
  let (s4, o4) := if usable then vcsCall e (.cmd "status") s3 else (s3, Outcome.ok)
  if o4 == .failed then (s4.evs.reverse, 1)
  else if usable && e.dirtyAbort then (s4.evs.reverse, 1)
  else
    if !e.rewriteOk then (s4.evs.reverse, 1)
    else
    let s5 := { s4 with evs := .rewrite :: s4.evs }
    if !usable then (s5.evs.reverse, 0)
    else
      let (s6, o6) := commitPhase e c s5
      (s6.evs.reverse, if o6 == .ok then 0 else 1)

/-- `plan` with its tail folded into `planTail` -/
def planViaTail (c0 : PlanCfg) (a : PlanCli) (e : PlanEnv) : List Ev × Nat :=
  match parseVcsOptions c0 a with
  | none => ([], 1)
  | some c =>
    let s0 : PState := { evs := [], n := 0 }
    let (s1, o1) := if a.ignoreVcsTag then (s0, Outcome.ok) else getTags e a.fetch c.scopeBranch s0
    if o1 == .failed then (s1.evs.reverse, 1)
    else if !e.gateOk then (s1.evs.reverse, 1)
    else
      let (s2, o2) :=
        if c.scopeBranch || a.setVersion then getTags e false false s1 else (s1, Outcome.ok)
      if o2 == .failed then (s2.evs.reverse, 1)
      else if (c.scopeBranch || a.setVersion) && tagsListed e s1 && !e.uniqueOk then (s2.evs.reverse, 1)
      else if a.dry then (s2.evs.reverse, if e.rewriteOk then 0 else 1)
      else planTail e c s2

theorem plan_eq_viaTail (c0 : PlanCfg) (a : PlanCli) (e : PlanEnv) : plan c0 a e = planViaTail c0 a e := rfl

/-- why the commit phase stopped (only looked at when it did) -/
def commitStop {α : Type} (e : EffEnv) (cfg : Config α) (api : VcsApi) (nv cm tm : Str) (s : PState) : Stop :=
  match (vcsCommit cfg api e.plan.files nv cm tm e s).2 with
  | .error x => x
  | .ok _ => .called

/-- the full result of the generated `vcs.commit` in terms of `commitPhase` -/
theorem vcsCommit_result {α : Type} (e : EffEnv) (cfg : Config α) (api : VcsApi) (nv cm tm : Str) (s : PState)
    (h : CommitCoherent e cfg api nv) (hcommit : cfg.commit = true) :
    vcsCommit cfg api e.plan.files nv cm tm e s =
      (match commitPhase e.plan (absCfgE tm cfg) s with
       | (s', .ok) => (s', .ok ())
       | (s', .failed) => (s', .error (commitStop e cfg api nv cm tm s))) := by
  have hv := tie_vcsCommit e s cfg api nv cm tm h hcommit
  unfold commitStop
  rcases hr : vcsCommit cfg api e.plan.files nv cm tm e s with ⟨s1, r⟩
  rw [hr] at hv
  rw [← hv]
  cases r <;> simp [Eff.view, Eff.outcome]

@[simp] theorem exitCode_called {α : Type} : Eff.exitCode (.error .called : Except Stop α) = 1 := rfl
@[simp] theorem exitCode_exit {α : Type} (n : Nat) : Eff.exitCode (.error (.exit n) : Except Stop α) = n := rfl
@[simp] theorem exitCode_valueError {α : Type} : Eff.exitCode (.error .valueError : Except Stop α) = 1 := rfl
@[simp] theorem exitCode_ok {α : Type} (a : α) : Eff.exitCode (.ok a : Except Stop α) = 0 := rfl

/-- everything the tie assumes about the environment -/
structure UpdateCoherent {α : Type} (e : EffEnv) (cfg : Config α) (new_version : Str) (allow : Bool) : Prop where
  commit : CommitCoherent e cfg (kindApi e) new_version
  dirty : e.plan.dirtyAbort =
    (BV.assertNotDirty (pySplitlines (e.output "status")) e.plan.files allow != .proceed)

def dirtyStep (e : PlanEnv) (s : PState) : PState × Outcome :=
  planThen (vcsCall e (.cmd "status") s) fun s4 => (s4, if e.dirtyAbort then .failed else .ok)

def rewriteStep (e : PlanEnv) (s : PState) : PState × Outcome :=
  if e.rewriteOk then ({ s with evs := .rewrite :: s.evs }, .ok) else (s, .failed)

theorem planTail_eq (e : PlanEnv) (c : PlanCfg) (s : PState) :
    planTail e c s = exitOf (
      planThen (if (if c.commit then isUsable e s else (s, false)).2
               then dirtyStep e (if c.commit then isUsable e s else (s, false)).1
               else ((if c.commit then isUsable e s else (s, false)).1, .ok)) fun s4 =>
      planThen (rewriteStep e s4) fun s5 =>
      if (if c.commit then isUsable e s else (s, false)).2 then commitPhase e c s5 else (s5, .ok)) := by
  unfold planTail
  generalize (if c.commit then isUsable e s else (s, false)) = r3
  rcases r3 with ⟨s3, usable⟩
  simp only [exitOf_planThen, dirtyStep, rewriteStep]
  cases usable
  · cases e.rewriteOk <;> rfl
  · rcases vcsCall e (.cmd "status") s3 with ⟨s4, o4⟩
    cases o4
    · cases e.dirtyAbort <;> cases e.rewriteOk <;> rfl
    · rfl

theorem cliUpdate_phases {α : Type} (e : EffEnv) (cfg : Config α) (nv cm tm : Str) (allow : Bool)
    (h : UpdateCoherent e cfg nv allow) (usable : Bool) (hu : usable = true → cfg.commit = true)
    {dirty rewrite commit : Eff Unit} (s3 : PState)
    (hdirty : ∀ s, dirty e s = if usable then GenE.assertNotDirty (kindApi e) e.plan.files allow e s else (s, .ok ()))
    (hrewrite : ∀ s, rewrite e s = if e.plan.rewriteOk then ({ s with evs := .rewrite :: s.evs }, .ok ())
                                   else (s, .error (.exit 1)))
    (hcommit : ∀ s, commit e s = if usable then vcsCommit cfg (kindApi e) e.plan.files nv cm tm e s else (s, .ok ())) :
    Eff.Shows Stop.exitsOne (Eff.bind dirty (fun _ => Eff.bind rewrite (fun _ => commit)) e s3)
      (planThen (if usable then dirtyStep e.plan s3 else (s3, .ok)) fun s4 =>
       planThen (rewriteStep e.plan s4) fun s5 =>
       if usable then commitPhase e.plan (absCfgE tm cfg) s5 else (s5, .ok)) := by
  obtain ⟨hcc, hd⟩ := h
  refine .bind ?_ fun _ s4 => .bind ?_ fun _ s5 => ?_
  · -- CalledProcessError, `sys.exit(1)` for the verdict `abort`, an uncaught ValueError for `crash`
    rw [hdirty]
    cases usable
    · exact .pure () e _
    · simp only [if_true, tie_assertNotDirty, dirtyStep, hd]
      rcases vcsCall e.plan (.cmd "status") s3 with ⟨s4, o4⟩
      cases o4
      · cases BV.assertNotDirty (pySplitlines (e.output "status")) e.plan.files allow <;>
          exact ⟨rfl, fun x hx => by cases hx <;> exact fun _ => rfl⟩
      · exact ⟨rfl, fun x hx => by cases hx; exact fun _ => rfl⟩
  · rw [hrewrite, rewriteStep]
    cases e.plan.rewriteOk
    · exact ⟨rfl, fun x hx => by cases hx; exact fun _ => rfl⟩
    · exact .pure () e _
  · rw [hcommit]
    cases usable
    · exact .pure () e _
    · exact (vcsCommit_shows e s5 cfg (kindApi e) nv cm tm hcc (hu rfl)).mono fun _ => Stop.vcsOrHook.exitsOne

theorem tie_cliTryUpdate {α : Type} (e : EffEnv) (s : PState) (cfg : Config α) (nv cm tm : Str) (allow : Bool)
    (h : UpdateCoherent e cfg nv allow) :
    let r := cliTryUpdate cfg nv cm tm allow e.plan.files e s
    (r.1.evs.reverse, Eff.exitCode r.2) = planTail e.plan (absCfgE tm cfg) s := by
  intro r
  rw [planTail_eq]
  refine Eff.Shows.exitOf ?_
  simp only [r, cliTryUpdate, Eff.bind_pure_unit]
  -- `_try_update` turns CalledProcessError into `sys.exit(1)`: the exit code is 1 either way
  refine .tryCatch (P := Stop.exitsOne) ?_ fun x s' hx => ?handler
  case handler =>
    cases hcp : x.isA .calledProcessError
    · exact ⟨x, by simp [Eff.ite_run, Eff.throw, hcp], hx⟩
    · exact ⟨.exit 1, by simp [Eff.ite_run, Eff.exit, Eff.throw, hcp], fun _ => rfl⟩
  -- which VCS object `_update` works with: the probe's, when `commit` is on and the probe succeeds
  simp only [cliUpdate, Eff.bind_pure_unit, Eff.bind_pure, Eff.bind_assoc, ite_self]
  rw [Eff.bind]
  cases hcm : cfg.commit
  case' false =>
    simp only [absCfgE, hcm, Bool.false_eq_true, if_false, Eff.pure]
    refine cliUpdate_phases e cfg nv cm tm allow h false (fun h => nomatch h) s (by exact fun _ => rfl)
      (fun s => ?_) (by exact fun _ => rfl)
  case' true =>
    simp only [absCfgE, hcm, if_true, Eff.tryCatch_bind, tie_getVcsApi]
    rcases isUsable e.plan s with ⟨s3, u⟩
    cases u
    case' false =>
      refine cliUpdate_phases e cfg nv cm tm allow h false (fun h => nomatch h) s3 (by exact fun _ => rfl)
        (fun s => ?_) (by exact fun _ => rfl)
    case' true =>
      refine cliUpdate_phases e cfg nv cm tm allow h true (fun _ => hcm) s3 (by exact fun _ => rfl)
        (fun s => ?_) (by exact fun _ => rfl)
  -- the rewrite: NoPatternMatch becomes `sys.exit(1)`
  all_goals
    cases hr : e.plan.rewriteOk <;>
      simp [Eff.tryCatch, Eff.bind, Eff.ite_run, Eff.rewriteFiles, Eff.pure, Eff.exit, Eff.throw, Stop.isA, hr]

end BV
