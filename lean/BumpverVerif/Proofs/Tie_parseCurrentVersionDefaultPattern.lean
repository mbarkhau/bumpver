/-
  Proofs/Tie_parseCurrentVersionDefaultPattern.lean — the definition GENERATED from the Python
  source of `config._parse_current_version_default_pattern` (Gen/F_parseCurrentVersionDefaultPattern.lean:
  the `for line in raw_cfg_text.splitlines()` loop with its early `return` is the structurally
  recursive `….loop1`, whose `[]` case is the `raise ValueError` after the loop) equals the hand model:
  the line scan is `curVersionScan` (by induction on the lines), the result is
  `parseCurrentVersionDefaultPattern`.

  * `tie_parseCurrentVersionDefaultPattern_general` : for ALL raw dicts and texts; the raw values are
    only looked at when a `current_version` line is found (`selfPatternOf`).
  * `tie_parseCurrentVersionDefaultPattern` : for raw dicts that hold `current_version` and
    `version_pattern` as str — what `_set_raw_config_defaults` guarantees before
    `_parse_raw_config` calls this function — the hand model's function of the two strings.
    DIFFERENCE (reported): the hand model's caller `addSelfPattern` reads the two raw values FIRST,
    so for a dict without `current_version` AND a text without a `current_version` line it answers
    KeyError where Python answers ValueError("Could not parse 'current_version'").  Unreachable:
    `_set_raw_config_defaults` has raised before.
-/
import BumpverVerif.Gen.F_parseCurrentVersionDefaultPattern
import BumpverVerif.Proofs.TieConfigCommon
set_option linter.unusedSimpArgs false
namespace BV
open TieH

/-- the pattern for a found `current_version` line: `raw_cfg['current_version'].strip(...)`,
    `raw_cfg['version_pattern'].strip(...)` (KeyError / AttributeError), then `line.replace` -/
def selfPatternOf (raw : TomlSection) (line : Str) : Except Str Str :=
  match rawStr "current_version".toList raw.opts with
  | .error e => .error e.pyClass
  | .ok cv =>
    match rawStr "version_pattern".toList raw.opts with
    | .error e => .error e.pyClass
    | .ok vp => .ok (pyReplace (stripQuotes cv) (stripQuotes vp) line)

namespace TieH

theorem strIdx_zero_cons (c : Char) (t : Str) : Py.strIdx (c :: t) 0 = some [c] := by
  simp [Py.strIdx]

theorem strIdx_neg1_cons (c : Char) (t : Str) :
    Py.strIdx (c :: t) (-1) = ((c :: t).getLast?).map (fun x => [x]) := by
  unfold Py.strIdx
  have h1 : ¬ ((-1 : Int) ≥ 0) := by decide
  have h2 : (-1 : Int).natAbs = 1 := rfl
  simp only [h1, if_false, h2, List.length_cons, Nat.le_add_left, if_true, List.getLast?_eq_getElem?]

theorem singleton_beq (c d : Char) : ([c] == [d]) = (c == d) := by
  simp

end TieH

/-- a line that is not the wanted one: the section flag is updated (`[pycalver]`, `[bumpver]`,
    `[tool.bumpver]` open the section, any other `[...]` line closes it) and the scan goes on.
    The three header tests are atoms: the source may write them as an `elif` chain, with `or`, or as
    `line.strip() in ("[pycalver]", "[bumpver]", "[tool.bumpver]")` (`List.elem`). -/
macro "cvdp_scan_on" ih:ident line:ident : tactic => `(tactic|
  (simp only [isConfigHeader, isAnyHeader]
   by_cases c1 : (strip $line:ident == "[pycalver]".toList) = true <;>
   by_cases c2 : (strip $line:ident == "[bumpver]".toList) = true <;>
   by_cases c3 : (strip $line:ident == "[tool.bumpver]".toList) = true <;>
   simp only [List.elem_cons, List.elem_nil, c1, c2, c3, Bool.true_or, Bool.or_true, Bool.or_false, Bool.or_self,
     Bool.false_eq_true, if_true, if_false, $ih:ident]
   rcases $line:ident with _ | ⟨c, t⟩
   · simp only [List.isEmpty_nil, Bool.not_true, Bool.false_eq_true, if_false, $ih:ident]
   · simp only [List.isEmpty_cons, Bool.not_false, if_true, strIdx_zero_cons, strIdx_neg1_cons]
     have e1 : "[".toList = ['['] := rfl
     have e2 : "]".toList = [']'] := rfl
     obtain ⟨l, hl⟩ : ∃ l, (c :: t).getLast? = some l := by
       cases h : (c :: t).getLast? with
       | none => exact absurd (List.getLast?_eq_none_iff.mp h) (List.cons_ne_nil c t)
       | some l => exact ⟨l, rfl⟩
     simp only [hl, e1, e2, singleton_beq, Option.map_some]
     by_cases d1 : (c == '[') = true <;> by_cases d2 : (l == ']') = true <;>
       simp [d1, d2, $ih:ident]))

theorem tie_cvdp_loop (raw : TomlSection) (text : Str) (inSec : Bool) (lines : List Str) :
    GenF.parseCurrentVersionDefaultPattern.loop1 raw text inSec lines =
      match curVersionScan inSec lines with
      | none => .error "ValueError".toList
      | some line => selfPatternOf raw line := by
  induction lines generalizing inSec with
  | nil => rfl
  | cons line rest ih =>
    unfold GenF.parseCurrentVersionDefaultPattern.loop1 curVersionScan
    by_cases hw : (inSec && startsWith line "current_version".toList) = true
    · -- inside the section, on the `current_version` line
      simp only [hw, if_true, selfPatternOf, rawStr, stripQuotes]
      rcases lookup "current_version".toList raw.opts with _ | (cv | _ | _) <;>
        simp only [Py.strOf, pyClass_keyError, pyClass_notAString]
      rcases lookup "version_pattern".toList raw.opts with _ | (vp | _ | _) <;>
        simp only [Py.strOf, pyClass_keyError, pyClass_notAString]
    · simp only [hw, Bool.false_eq_true, if_false]
      cvdp_scan_on ih line

theorem tie_parseCurrentVersionDefaultPattern_general (raw : TomlSection) (text : Str) :
    GenF.parseCurrentVersionDefaultPattern raw text =
      match curVersionLine text with
      | none => .error "ValueError".toList
      | some line => selfPatternOf raw line := by
  unfold GenF.parseCurrentVersionDefaultPattern curVersionLine
  exact tie_cvdp_loop raw text false (pySplitlines text)

theorem tie_parseCurrentVersionDefaultPattern (raw : TomlSection) (text cv vp : Str)
    (hcv : rawStr "current_version".toList raw.opts = .ok cv)
    (hvp : rawStr "version_pattern".toList raw.opts = .ok vp) :
    GenF.parseCurrentVersionDefaultPattern raw text =
      (parseCurrentVersionDefaultPattern cv vp text).mapError CfgErr.pyClass := by
  rw [tie_parseCurrentVersionDefaultPattern_general]
  unfold parseCurrentVersionDefaultPattern selfPatternOf
  rw [hcv, hvp]
  cases curVersionLine text <;> simp only [Except.mapError, pyClass_noVersionLine]

/-- the second half of `_parse_raw_config` (hand model `addSelfPattern`) through the generated
    definition: when the raw dict holds both values as str, the self pattern the hand model adds is
    the one the generated definition computes -/
theorem tie_addSelfPattern (rel text : Str) (raw : RawCfg) (cv vp : Str)
    (hcv : rawStr "current_version".toList raw.opts = .ok cv)
    (hvp : rawStr "version_pattern".toList raw.opts = .ok vp)
    (hk : cfgHasKey rel raw.filePatterns = false) :
    (addSelfPattern rel text raw).mapError CfgErr.pyClass =
      (GenF.parseCurrentVersionDefaultPattern (embedRaw raw) text).map
        (fun p => { raw with filePatterns := raw.filePatterns ++ [(rel, [p])] }) := by
  rw [tie_parseCurrentVersionDefaultPattern (embedRaw raw) text cv vp hcv hvp]
  unfold addSelfPattern
  simp only [hk, Bool.false_eq_true, if_false, hcv, hvp]
  cases parseCurrentVersionDefaultPattern cv vp text <;> rfl

end BV
