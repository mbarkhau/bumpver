/-
  Proofs/Tie_pepVersionInit.lean — the definition GENERATED from the Python source of
  `setuptools_v65_version.Version.__init__` (Gen/F_pepVersionInit.lean) against the hand-written reference
  `rawOfGroups` / `ofGroups` of Model/PepGroups.lean (the version the named groups of a match denote) and the
  hand model's key `pepKey` (Model/Pep440.lean).

  The verbose regex is a trusted primitive: the matcher `regex_search` is a PARAMETER, and every theorem holds for
  ALL matchers and all group values it may report.

  * `tie_parseLetterVersion_full` : the generated `_parse_letter_version` (Gen/F_parseLetterVersion.lean) = the reference
       `letterVersion` for ALL arguments (`tie_parseLetterVersion`, Proofs/Tie_parseLetterVersion.lean, covers the words of
       the model's tables; this one also covers letters outside them and empty groups);
  * `tie_pepVersionInit`     : no match ⇒ `InvalidVersion`; a match with groups `g` ⇒ the object whose `_version` is
       `rawOfGroups g` and whose `_key` is `_cmpkey` of its six fields;
  * `tie_pepVersionInit_abs` : … whose `_version` abstracts to the model version `ofGroups g`, and
  * `tie_pepVersionInit_key` : … whose `_key` abstracts (`absKey`, Proofs/Tie_cmpkey.lean) to the model's `pepKey (ofGroups g)`.
-/
import BumpverVerif.Gen.F_pepVersionInit
import BumpverVerif.Proofs.Tie_pepParseLocalVersion
import BumpverVerif.Proofs.Tie_cmpkey
set_option linter.unusedSimpArgs false
namespace BV

theorem tie_parseLetterVersion_full (letter number : Option Str) :
    GenF.parseLetterVersion letter number = letterVersion letter number := by
  cases letter with
  | none =>
    cases number with
    | none => rfl
    | some n => cases n <;> simp [GenF.parseLetterVersion, letterVersion, implicitPost]
  | some l =>
    cases l with
    | nil =>
      cases number with
      | none => rfl
      | some n => cases n <;> simp [GenF.parseLetterVersion, letterVersion, implicitPost]
    | cons c cs =>
      cases number <;>
        simp only [GenF.parseLetterVersion, letterVersion, normLetter, List.isEmpty_cons, Bool.not_false, if_true,
          Bool.false_eq_true, if_false, beq_iff_eq, List.elem_eq_mem, List.mem_cons, List.not_mem_nil, or_false,
          decide_eq_true_eq] <;>
        (repeat' split) <;> simp_all

namespace TieQ

/-- the `Version` object the groups of a match denote: `_version` by the reference, `_key` = `_cmpkey` of its fields
    (what `_cmpkey` is: `tie_cmpkey`, `tie_cmpkey_raw`) -/
def objOfGroups (g : PepGroups) : PepObj :=
  let r := rawOfGroups g
  { _version := r, _key := GenC.cmpkey r.epoch r.release r.pre r.post r.dev r.loc }

end TieQ

theorem tie_pepVersionInit (regex_search : Str → Option PepGroups) (version : Str) :
    GenQ.pepVersionInit regex_search version =
      match regex_search version with
      | none => .error .invalidVersion
      | some g => .ok (TieQ.objOfGroups g) := by
  simp only [GenQ.pepVersionInit]
  cases regex_search version with
  | none => rfl
  | some g =>
    obtain ⟨epoch, release, pre_l, pre_n, post_n1, post_l, post_n2, dev_l, dev_n, loc⟩ := g
    simp only [if_true, TieQ.objOfGroups, tie_parseLetterVersion_full, tie_pepParseLocalVersion, rawOfGroups]
    rcases epoch with _ | ⟨_ | ⟨c, cs⟩⟩ <;> rcases post_n1 with _ | ⟨_ | ⟨d, ds⟩⟩ <;> rfl

/-- the `_version` tuple of the constructed object is the model version the groups denote -/
theorem tie_pepVersionInit_abs (regex_search : Str → Option PepGroups) (version : Str) (g : PepGroups) (o : PepObj)
    (hm : regex_search version = some g) (h : GenQ.pepVersionInit regex_search version = .ok o) :
    o._version.abs = ofGroups g := by
  rw [tie_pepVersionInit, hm] at h
  injection h with h
  subst h
  rfl

/-- `absKey (_cmpkey(r.epoch, …, r.local)) = pepKey r.abs` for every `_Version` tuple (`tie_cmpkey`, Proofs/Tie_cmpkey.lean, without the
    side condition on the shape of the post / dev tuples) -/
theorem TieQ.absKey_cmpkey_raw (r : PepRaw) :
    absKey (GenC.cmpkey r.epoch r.release r.pre r.post r.dev r.loc) = pepKey r.abs := by
  obtain ⟨e, rel, dev, pre, post, loc⟩ := r
  have hp : ∀ p : Option (Str × Nat), p = (p.map (·.2)).map (fun n => ((p.map (·.1)).getD [], n)) := by
    intro p; cases p <;> rfl
  have := tie_cmpkey ⟨e, rel, pre, post.map (·.2), dev.map (·.2), loc⟩ ((post.map (·.1)).getD []) ((dev.map (·.1)).getD [])
  simp only [← hp] at this
  exact this

/-- the `_key` of the constructed object abstracts to the model's key of the version the groups denote -/
theorem tie_pepVersionInit_key (regex_search : Str → Option PepGroups) (version : Str) (g : PepGroups) (o : PepObj)
    (hm : regex_search version = some g) (h : GenQ.pepVersionInit regex_search version = .ok o) :
    absKey o._key = pepKey (ofGroups g) := by
  rw [tie_pepVersionInit, hm] at h
  injection h with h
  subst h
  exact TieQ.absKey_cmpkey_raw (rawOfGroups g)

/-- `InvalidVersion` exactly when the regex does not match -/
theorem tie_pepVersionInit_invalid (regex_search : Str → Option PepGroups) (version : Str) :
    GenQ.pepVersionInit regex_search version = .error .invalidVersion ↔ regex_search version = none := by
  rw [tie_pepVersionInit]
  cases regex_search version <;> simp

end BV
