/-
  Proofs/Tie_v1RewriteSource.lean — how the ties of the LEGACY rewrite path are USED: the property theorems of
  Props/V1Rewrite.lean (C03, C04, C06, C13 for v1rewrite.py, proved about the hand model) transported along the
  ties to the definitions GENERATED from the Python source.  Nothing new is proved about the model here; every
  statement is about `GenF.v1RewriteLines` / `GenF.v1RfdFromContent` / `GenF.v1RewriteFiles` / `GenF.v1Diff`.
-/
import BumpverVerif.Props.V1Rewrite
import BumpverVerif.Proofs.Tie_v1RewriteFiles
import BumpverVerif.Proofs.Tie_v1Diff
namespace BV

open GenF (PatternMatch Pattern RewrittenFileData)

/-- `parse.iter_matches` on patterns of the legacy compiler is the model's `v1IterMatches` -/
theorem tie_v1IterMatches (lines : List Str) (patterns : List Pattern) (hwf : ∀ p ∈ patterns, TieM.Wf1 p) :
    v1IterMatches lines (patterns.map Pattern.abs) = some ((GenF.iterMatches lines patterns).map PatternMatch.abs) :=
  TieM.iterMatches_tie v1Engine lines patterns (fun p hp => TieM.wf1_compile (hwf p hp))

/-- C03 on the generated legacy code: after a successful `rewrite_lines` every match `iter_matches` yields
    shows `v1version.format_version(new_vinfo, raw_pattern)` of its own pattern at its shifted position -/
theorem src_V1_C03_every_occurrence (patterns : List Pattern) (v : V1Info) (old new : List Str)
    (hwf : ∀ p ∈ patterns, TieM.Wf1 p) (h : GenF.v1RewriteLines patterns v old = .ok new)
    (m : PatternMatch) (hm : m ∈ GenF.iterMatches old patterns) :
    v1FormatVersion v m.pattern.raw_pattern = .ok (v1ReplOf v m.abs) ∧
    ∃ newLine, new[m.lineno]? = some newLine ∧
      (newLine.drop (v1ShiftedStart v ((GenF.iterMatches old patterns).map PatternMatch.abs) m.abs).toNat).take
        (v1ReplOf v m.abs).length = v1ReplOf v m.abs := by
  rw [tie_v1RewriteLines _ _ _ hwf] at h
  exact V1_C03_every_occurrence _ v old new _ (tie_v1IterMatches old patterns hwf) h m.abs (List.mem_map_of_mem hm)

/-- C03: success means every configured pattern (the very object, regex included) has a match -/
theorem src_V1_C03_all_patterns_found (patterns : List Pattern) (v : V1Info) (old new : List Str)
    (hwf : ∀ p ∈ patterns, TieM.Wf1 p) (h : GenF.v1RewriteLines patterns v old = .ok new) :
    ∀ p ∈ patterns, ∃ m ∈ GenF.iterMatches old patterns, m.pattern = p := by
  intro p hp
  rw [tie_v1RewriteLines _ _ _ hwf] at h
  obtain ⟨m', hm', e⟩ := V1_C03_all_patterns_found _ v old new _ (tie_v1IterMatches old patterns hwf) h p.abs
    (List.mem_map_of_mem hp)
  obtain ⟨m, hm, rfl⟩ := List.mem_map.1 hm'
  exact ⟨m, hm, TieM.abs_inj1 (hwf _ (iterMatches_pattern_mem old patterns m hm)) (hwf p hp) e⟩

/-- C04 on the generated legacy code: the number of lines never changes … -/
theorem src_V1_C04_line_count (patterns : List Pattern) (v : V1Info) (old new : List Str)
    (hwf : ∀ p ∈ patterns, TieM.Wf1 p) (h : GenF.v1RewriteLines patterns v old = .ok new) :
    new.length = old.length := by
  rw [tie_v1RewriteLines _ _ _ hwf] at h
  exact V1_C04_line_count _ v old new h

/-- … lines without a match are untouched … -/
theorem src_V1_C04_unmatched_lines (patterns : List Pattern) (v : V1Info) (old new : List Str)
    (hwf : ∀ p ∈ patterns, TieM.Wf1 p) (h : GenF.v1RewriteLines patterns v old = .ok new)
    (i : Nat) (hi : ∀ m ∈ GenF.iterMatches old patterns, m.lineno ≠ i) : new[i]? = old[i]? := by
  rw [tie_v1RewriteLines _ _ _ hwf] at h
  refine V1_C04_unmatched_lines _ v old new _ (tie_v1IterMatches old patterns hwf) h i ?_
  intro m' hm'
  obtain ⟨m, hm, rfl⟩ := List.mem_map.1 hm'
  exact hi m hm

/-- … on a line with exactly one match only the span changes … -/
theorem src_V1_C04_single_span (patterns : List Pattern) (v : V1Info) (old new : List Str)
    (hwf : ∀ p ∈ patterns, TieM.Wf1 p) (h : GenF.v1RewriteLines patterns v old = .ok new)
    (m : PatternMatch) (hm : m ∈ GenF.iterMatches old patterns)
    (honly : ∀ m' ∈ GenF.iterMatches old patterns, m'.lineno = m.lineno → m'.abs = m.abs)
    (line : Str) (hl : old[m.lineno]? = some line) :
    ∃ repl, v1FormatVersion v m.pattern.raw_pattern = .ok repl ∧
      new[m.lineno]? = some (line.take m.span.1 ++ repl ++ line.drop m.span.2) := by
  rw [tie_v1RewriteLines _ _ _ hwf] at h
  refine V1_C04_single_span _ v old new _ (tie_v1IterMatches old patterns hwf) h m.abs (List.mem_map_of_mem hm) ?_ line hl
  intro m' hm' hline
  obtain ⟨m0, hm0, rfl⟩ := List.mem_map.1 hm'
  exact honly m0 hm0 hline

/-- … and the record of `rfd_from_content` carries the detected separator and the split content, so that
    joining the OLD lines gives back the file's text exactly -/
theorem src_V1_C04_old_content (patterns : List Pattern) (v : V1Info) (content path : Str) (rfd : RewrittenFileData)
    (hwf : ∀ p ∈ patterns, TieM.Wf1 p) (h : GenF.v1RfdFromContent patterns v content path = .ok rfd) :
    rfd.path = path ∧ rfd.line_sep = detectLineSep content ∧ join rfd.line_sep rfd.old_lines = content ∧
      rfd.new_lines.length = rfd.old_lines.length := by
  rw [tie_v1RfdFromContent _ _ _ _ hwf] at h
  cases hr : v1RewriteLines (patterns.map Pattern.abs) v (splitOn (detectLineSep content) content) with
  | error e => rw [hr] at h; cases h
  | ok nl =>
    rw [hr] at h
    simp only [Except.map, Except.ok.injEq] at h
    subst h
    exact ⟨rfl, rfl, join_split_detect content, V1_C04_line_count _ v _ _ hr⟩

/-- C04: files that are not configured are not touched by `rewrite_files` -/
theorem src_V1_C04_other_files (file_patterns : List (Str × List Pattern)) (v : V1Info) (fs : FS) (p : Str)
    (hwf : TieM.WfFilePatterns1 file_patterns) (hp : ∀ it ∈ file_patterns, it.1 ≠ p) :
    lookup p (GenF.v1RewriteFiles file_patterns v fs).1 = lookup p fs := by
  rw [tie_v1RewriteFiles _ _ _ hwf]
  refine V1_C04_other_files fs _ v p ?_
  intro fp hfp
  obtain ⟨it, hit, rfl⟩ := List.mem_map.1 hfp
  exact hp it hit

/-- C06 on the generated legacy code: ALL OR NOTHING — whatever error `rewrite_files` ends with, the file
    system is exactly what it was -/
theorem src_V1_C06_all_or_nothing (file_patterns : List (Str × List Pattern)) (v : V1Info) (fs : FS) (e : RwErr)
    (hwf : TieM.WfFilePatterns1 file_patterns) (h : (GenF.v1RewriteFiles file_patterns v fs).2 = .error e) :
    (GenF.v1RewriteFiles file_patterns v fs).1 = fs := by
  rw [tie_v1RewriteFiles _ _ _ hwf] at h ⊢
  exact V1_C06_all_or_nothing fs _ v e h

/-- C13 on the generated legacy code: if `diff` (the `--dry` path) succeeds, then `rewrite_files` (the write
    path) on the same file system and configuration succeeds too.  No hypothesis about `format_version`. -/
theorem src_V1_C13_dry_ok_real_ok (old_vinfo new_vinfo : V1Info) (file_patterns : List (Str × List Pattern))
    (diff_lines : RewrittenFileData → List Str) (fs : FS) (text : Str)
    (hdl : ∀ rfd, (diff_lines rfd).length = 0 ↔ rfd.old_lines = rfd.new_lines)
    (hwf : TieM.WfFilePatterns1 file_patterns)
    (h : GenF.v1Diff old_vinfo new_vinfo file_patterns diff_lines fs = (fs, .ok text)) :
    (GenF.v1RewriteFiles file_patterns new_vinfo fs).2 = .ok () := by
  have ho := tie_v1Diff_outcome old_vinfo new_vinfo file_patterns diff_lines fs hdl hwf
  rw [h] at ho
  rw [tie_v1RewriteFiles _ _ _ hwf]
  cases hm : v1DiffAll fs old_vinfo new_vinfo (GenF.absFilePatterns file_patterns) with
  | error e => rw [hm] at ho; simp [Except.map] at ho
  | ok rs => exact V1_C13_dry_ok_real_ok_sorted fs old_vinfo new_vinfo _ rs hm

/-- C13: `diff` never touches the file system (no hypothesis at all) -/
theorem src_V1_C13_diff_pure (old_vinfo new_vinfo : V1Info) (file_patterns : List (Str × List Pattern))
    (diff_lines : RewrittenFileData → List Str) (fs : FS) :
    (GenF.v1Diff old_vinfo new_vinfo file_patterns diff_lines fs).1 = fs :=
  tie_v1Diff_pure old_vinfo new_vinfo file_patterns diff_lines fs

end BV
