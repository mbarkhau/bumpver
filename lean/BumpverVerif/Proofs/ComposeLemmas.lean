/-
  Proofs/ComposeLemmas.lean — helper lemmas for the composition theorem of C02
  (Proofs/ComposeMain.lean): heads of the list-of-successes matcher under sequencing, grouping and
  optional repetition; transport of a digit-only regex over a non-digit continuation and of a
  fixed-width regex over ANY continuation (`v1c_fixed_tr`, `headConsumes_of_fixed`); "the head
  consumes exactly the rendered text" for the digit shapes and for ordered alternations of words;
  the rendered text of the parts outside the calendar.
-/
import BumpverVerif.Model.PatWf
import BumpverVerif.Proofs.PartLemmas
import BumpverVerif.Proofs.Basics
namespace BV

/-! ### lists -/

theorem flatMap_congr' {α β} (f g : α → List β) : ∀ (l : List α), (∀ x ∈ l, f x = g x) →
    l.flatMap f = l.flatMap g := by
  intro l
  induction l with
  | nil => intro _; rfl
  | cons a l ih =>
    intro h
    simp only [List.flatMap_cons]
    rw [h a (by simp), ih (fun x hx => h x (by simp [hx]))]

theorem head?_flatMap_cons {α β} (f : α → List β) (a : α) (l : List α) (b : β) (tl : List β)
    (h : f a = b :: tl) : ((a :: l).flatMap f).head? = some b := by
  simp [List.flatMap_cons, h]

/-- head of a `flatMap`: the head of `f` on the head, when that is non-empty -/
theorem head?_flatMap {α β} (f : α → List β) (l : List α) (a : α) (b : β)
    (hl : l.head? = some a) (hf : (f a).head? = some b) : (l.flatMap f).head? = some b := by
  cases l with
  | nil => simp at hl
  | cons x xs =>
    simp only [List.head?_cons, Option.some.injEq] at hl
    subst hl
    cases hfa : f x with
    | nil => rw [hfa] at hf; simp at hf
    | cons y ys =>
      rw [hfa] at hf
      simp only [List.head?_cons, Option.some.injEq] at hf
      subst hf
      exact head?_flatMap_cons f x xs y ys hfa

/-! ### heads under sequencing, grouping, optional repetition -/

theorem head_seq (a b : Re) (st st1 st2 : MSt) (h1 : (a.m st).head? = some st1)
    (h2 : (b.m st1).head? = some st2) : ((Re.seq a b).m st).head? = some st2 := by
  simp only [Re.m]
  exact head?_flatMap b.m (a.m st) st1 st2 h1 h2

/-- `seqR` drops a trailing `eps`; the head is the same -/
theorem head_seqR (a b : Re) (st st1 st2 : MSt) (h1 : (a.m st).head? = some st1)
    (h2 : (b.m st1).head? = some st2) : ((seqR a b).m st).head? = some st2 := by
  unfold seqR
  split
  · simp only [Re.m, List.head?_cons, Option.some.injEq] at h2
    rw [← h2]; exact h1
  · exact head_seq a b st st1 st2 h1 h2

theorem head_chr (c : Char) (st : MSt) (r : Str) (h : st.rest = c :: r) :
    ((Re.chr c).m st).head? = some (st.step r) := by
  simp [Re.m, h]

theorem head_grp (f : Str) (rx : Re) (st st0 : MSt) (t k : Str) (hst : st.rest = t ++ k)
    (h : (rx.m st).head? = some st0) (hr : st0.rest = k) :
    ∃ st1, ((Re.grp f rx).m st).head? = some st1 ∧ st1.rest = k ∧ st1.caps = (f, t) :: st0.caps := by
  refine ⟨{ st0 with caps := (f, t) :: st0.caps }, ?_, hr, rfl⟩
  simp only [Re.m, List.head?_map, h, Option.map_some, hr, hst, List.length_append]
  have : t.length + k.length - k.length = t.length := by omega
  rw [this, List.take_left']
  rfl

/-- `mRep` with the upper bound exhausted returns the state itself -/
theorem mRep_max_zero (step : MSt → List MSt) (fuel : Nat) (st : MSt) :
    mRep step fuel 0 (some 0) st = [st] := by
  cases fuel <;> simp [mRep]

/-- optional group PRESENT: the body matches and consumes at least one character, so the
    one-iteration branch is the head -/
theorem head_opt_present (b : Re) (st st1 : MSt) (h : (b.m st).head? = some st1)
    (hlt : st1.rest.length < st.rest.length) :
    ((Re.rep b 0 (some 1)).m st).head? = some st1 := by
  cases hb : b.m st with
  | nil => rw [hb] at h; simp at h
  | cons x xs =>
    rw [hb] at h
    simp only [List.head?_cons, Option.some.injEq] at h
    subst h
    cases hl : st.rest.length with
    | zero => omega
    | succ n =>
      simp only [Re.m, hl, mRep, hb]
      have : (some 1 == some 0) = false := by decide
      simp [this, hl ▸ hlt, mRep_max_zero]

/-- optional group OMITTED at the end of the input -/
theorem head_opt_nil (b : Re) (st : MSt) (h : st.rest = []) :
    (Re.rep b 0 (some 1)).m st = [st] := by
  simp [Re.m, h, mRep]

/-! ### fuel independence of `mRep` -/

theorem mRep_fuel (step : MSt → List MSt) : ∀ (f1 f2 min : Nat) (max : Option Nat) (st : MSt),
    st.rest.length ≤ f1 → st.rest.length ≤ f2 →
    mRep step f1 min max st = mRep step f2 min max st := by
  intro f1
  induction f1 with
  | zero =>
    intro f2 min max st h1 _
    cases f2 with
    | zero => rfl
    | succ f2 =>
      have h0 : st.rest.length = 0 := by omega
      simp [mRep, h0]
  | succ f1 ih =>
    intro f2 min max st h1 h2
    cases f2 with
    | zero =>
      have h0 : st.rest.length = 0 := by omega
      simp [mRep, h0]
    | succ f2 =>
      simp only [mRep]
      congr 1
      split
      · rfl
      · apply flatMap_congr'
        intro s hs
        have hlt : s.rest.length < st.rest.length := by
          have := (List.mem_filter.mp hs).2
          simpa using this
        exact ih f2 _ _ s (by omega) (by omega)

/-! ### transport of a digit-only regex over a continuation that does not start with a digit -/

/-- append `k` to the remaining input (captures and start flag replaced uniformly) -/
def MSt.tr (k : Str) (C : List (Str × Str)) (b : Bool) (s : MSt) : MSt :=
  { rest := s.rest ++ k, start := b && s.start, caps := C }

def ClsItem.digitOnly : ClsItem → Bool
  | .ch c => isDigit c
  | .range lo hi => isDigit lo && isDigit hi
  | _ => false

/-- regexes built from digit characters, positive classes of digit ranges, sequence,
    alternation and repetition: they can only ever consume digits -/
def Re.digitOnly : Re → Bool
  | .eps => true
  | .chr c => isDigit c
  | .cls neg items => !neg && items.all ClsItem.digitOnly
  | .seq a b => Re.digitOnly a && Re.digitOnly b
  | .alt a b => Re.digitOnly a && Re.digitOnly b
  | .rep r _ _ => Re.digitOnly r
  | _ => false

theorem tr_step (k : Str) (C : List (Str × Str)) (b : Bool) (s : MSt) (r : Str) :
    (MSt.tr k C b s).step (r ++ k) = MSt.tr k C b (s.step r) := by
  simp [MSt.tr, MSt.step]

theorem mRep_tr (k : Str) (C : List (Str × Str)) (b : Bool) (step : MSt → List MSt)
    (hstep : ∀ s, step (MSt.tr k C b s) = (step s).map (MSt.tr k C b)) :
    ∀ (fuel min : Nat) (max : Option Nat) (st : MSt),
      mRep step fuel min max (MSt.tr k C b st) = (mRep step fuel min max st).map (MSt.tr k C b) := by
  intro fuel
  induction fuel with
  | zero => intro min max st; simp only [mRep]; split <;> rfl
  | succ f ih =>
    intro min max st
    simp only [mRep, List.map_append]
    congr 1
    · split
      · rfl
      · rw [hstep, List.filter_map, List.flatMap_map, List.map_flatMap]
        have hp : ((fun st' : MSt => decide (st'.rest.length < (MSt.tr k C b st).rest.length)) ∘ MSt.tr k C b)
            = (fun st' : MSt => decide (st'.rest.length < st.rest.length)) := by
          funext s
          simp [MSt.tr]
        rw [hp]
        apply flatMap_congr'
        intro s _
        exact ih _ _ s
    · split <;> rfl

theorem ClsItem.digitOnly_matches (it : ClsItem) (h : it.digitOnly = true) (x : Char)
    (hx : isDigit x = false) : it.matches x = false := by
  cases it with
  | ch c =>
    simp only [ClsItem.digitOnly] at h
    simp only [ClsItem.matches, beq_eq_false_iff_ne, ne_eq]
    intro e; subst e; rw [h] at hx; cases hx
  | range lo hi =>
    simp only [ClsItem.digitOnly, Bool.and_eq_true, isDigit_iff] at h
    have hx' : ¬ (48 ≤ x.toNat ∧ x.toNat ≤ 57) := by
      rw [← isDigit_iff, hx]; simp
    cases hm : (ClsItem.range lo hi).matches x with
    | false => rfl
    | true =>
      simp only [ClsItem.matches, Bool.and_eq_true, decide_eq_true_eq, Char.le_def] at hm
      have h1 : lo.toNat ≤ x.toNat := hm.1
      have h2 : x.toNat ≤ hi.toNat := hm.2
      omega
  | _ => simp [ClsItem.digitOnly] at h

theorem any_digitOnly_false (items : List ClsItem) (h : items.all ClsItem.digitOnly = true) (x : Char)
    (hx : isDigit x = false) : items.any (·.matches x) = false := by
  induction items with
  | nil => rfl
  | cons it items ih =>
    simp only [List.all_cons, Bool.and_eq_true] at h
    simp only [List.any_cons, ClsItem.digitOnly_matches it h.1 x hx, ih h.2, Bool.or_false]

/-- a digit-only regex behaves on `s ++ k` exactly as on `s` when `k` does not start with a
    digit: it never reads into `k` -/
theorem digitOnly_tr (k : Str) (hk : ∀ c, k.head? = some c → isDigit c = false)
    (C : List (Str × Str)) (b : Bool) :
    ∀ (r : Re), r.digitOnly = true → ∀ st : MSt,
      r.m (MSt.tr k C b st) = (r.m st).map (MSt.tr k C b) := by
  intro r
  induction r with
  | eps => intro _ st; rfl
  | chr c =>
    intro h st
    simp only [Re.digitOnly] at h
    cases hr : st.rest with
    | nil =>
      cases hk' : k with
      | nil => simp [Re.m, MSt.tr, hr]
      | cons x k' =>
        have hx := hk x (by rw [hk']; rfl)
        have hne : (x == c) = false := by
          rw [beq_eq_false_iff_ne]; intro e; subst e; rw [h] at hx; cases hx
        simp [Re.m, MSt.tr, hr, hne]
    | cons y r =>
      have e : (MSt.tr k C b st).rest = y :: (r ++ k) := by simp [MSt.tr, hr]
      simp only [Re.m, e, hr]
      split
      · simp only [List.map_cons, List.map_nil, tr_step]
      · rfl
  | any => intro h; simp [Re.digitOnly] at h
  | cls neg items =>
    intro h st
    simp only [Re.digitOnly, Bool.and_eq_true, Bool.not_eq_true'] at h
    obtain ⟨hneg, hit⟩ := h
    subst hneg
    cases hr : st.rest with
    | nil =>
      cases hk' : k with
      | nil => simp [Re.m, MSt.tr, hr]
      | cons x k' =>
        have hx := hk x (by rw [hk']; rfl)
        simp [Re.m, MSt.tr, hr, any_digitOnly_false items hit x hx]
    | cons y r =>
      have e : (MSt.tr k C b st).rest = y :: (r ++ k) := by simp [MSt.tr, hr]
      simp only [Re.m, e, hr]
      split
      · simp only [List.map_cons, List.map_nil, tr_step]
      · rfl
  | seq a b' iha ihb =>
    intro h st
    simp only [Re.digitOnly, Bool.and_eq_true] at h
    simp only [Re.m]
    rw [iha h.1, List.flatMap_map, List.map_flatMap]
    apply flatMap_congr'
    intro s _
    exact ihb h.2 s
  | alt a b' iha ihb =>
    intro h st
    simp only [Re.digitOnly, Bool.and_eq_true] at h
    simp only [Re.m, List.map_append, iha h.1, ihb h.2]
  | rep r mn mx ih =>
    intro h st
    simp only [Re.digitOnly] at h
    simp only [Re.m]
    rw [mRep_tr k C b r.m (ih h)]
    congr 1
    apply mRep_fuel
    · simp [MSt.tr]
    · exact Nat.le_refl _
  | grp n r _ => intro h; simp [Re.digitOnly] at h
  | bol => intro h; simp [Re.digitOnly] at h
  | eol => intro h; simp [Re.digitOnly] at h

/-- kernel-checkable: on `t` alone the first success consumes all of `t` -/
def headRestNil (rx : Re) (t : Str) : Bool :=
  match (rx.m { rest := t, start := true, caps := [] }).head? with
  | some s => s.rest.isEmpty
  | none => false

theorem headConsumes_of_digitOnly (rx : Re) (hd : rx.digitOnly = true) (t : Str)
    (ht : headRestNil rx t = true) (k : Str) (hk : ∀ c, k.head? = some c → isDigit c = false) :
    HeadConsumes rx t k := by
  intro st hst
  obtain ⟨r, sf, c⟩ := st
  simp only at hst
  subst hst
  have e : ({ rest := t ++ k, start := sf, caps := c } : MSt)
      = MSt.tr k c sf { rest := t, start := true, caps := [] } := by
    simp [MSt.tr]
  unfold headRestNil at ht
  cases hh : (rx.m { rest := t, start := true, caps := [] }).head? with
  | none => rw [hh] at ht; cases ht
  | some s0 =>
    rw [hh] at ht
    simp only [List.isEmpty_iff] at ht
    refine ⟨MSt.tr k c sf s0, ?_, ?_, ?_⟩
    · rw [e, digitOnly_tr k hk _ _ rx hd, List.head?_map, hh]; rfl
    · simp [MSt.tr, ht]
    · rfl

/-! ### fixed-width regexes read a fixed number of characters -/

/-- the common width of every way the regex can match (`none`: not of this shape) -/
def fixedWidth : Re → Option Nat
  | .chr _ => some 1
  | .cls _ _ => some 1
  | .seq a b =>
    match fixedWidth a, fixedWidth b with
    | some x, some y => some (x + y)
    | _, _ => none
  | .alt a b =>
    match fixedWidth a, fixedWidth b with
    | some x, some y => if x = y then some x else none
    | _, _ => none
  | _ => none

theorem tr_cons (k : Str) (C : List (Str × Str)) (b : Bool) (st : MSt) (y : Char) (r : Str)
    (hr : st.rest = y :: r) : (MSt.tr k C b st).rest = y :: (r ++ k) := by
  simp [MSt.tr, hr]

/-- a regex that reads one character satisfying `P` (`chr`, `cls`): appending `k` to the input changes nothing -/
theorem char_tr (k : Str) (C : List (Str × Str)) (b : Bool) (P : Char → Bool) (f : MSt → List MSt)
    (hf : ∀ st : MSt, f st = match st.rest with
      | x :: r => if P x then [st.step r] else []
      | [] => []) (st : MSt) (hl : 1 ≤ st.rest.length) :
    f (MSt.tr k C b st) = (f st).map (MSt.tr k C b) ∧ ∀ s ∈ f st, s.rest.length + 1 = st.rest.length := by
  cases hr : st.rest with
  | nil => rw [hr] at hl; cases hl
  | cons y r =>
    simp only [hf, tr_cons k C b st y r hr, hr]
    cases P y with
    | true => simp [MSt.tr, MSt.step]
    | false => simp

/-- a fixed-width regex on a state with at least that many characters: appending `k` to the input
    changes nothing, and every success has consumed exactly the width -/
theorem v1c_fixed_tr (k : Str) (C : List (Str × Str)) (b : Bool) :
    ∀ (r : Re) (w : Nat), fixedWidth r = some w → ∀ st : MSt, w ≤ st.rest.length →
      r.m (MSt.tr k C b st) = (r.m st).map (MSt.tr k C b) ∧
      ∀ s ∈ r.m st, s.rest.length + w = st.rest.length := by
  intro r
  induction r with
  | eps => intro w h; simp [fixedWidth] at h
  | any => intro w h; simp [fixedWidth] at h
  | bol => intro w h; simp [fixedWidth] at h
  | eol => intro w h; simp [fixedWidth] at h
  | rep r mn mx _ => intro w h; simp [fixedWidth] at h
  | grp n r _ => intro w h; simp [fixedWidth] at h
  | chr c =>
    intro w h st hl
    cases Option.some.inj h
    exact char_tr k C b (· == c) _ (fun _ => rfl) st hl
  | cls neg items =>
    intro w h st hl
    cases Option.some.inj h
    exact char_tr k C b (fun x => items.any (·.matches x) != neg) _ (fun _ => rfl) st hl
  | seq a b' iha ihb =>
    intro w h st hl
    simp only [fixedWidth] at h
    cases ha : fixedWidth a with
    | none => simp [ha] at h
    | some x =>
      cases hb : fixedWidth b' with
      | none => simp [ha, hb] at h
      | some y =>
        simp only [ha, hb, Option.some.injEq] at h
        subst h
        obtain ⟨ha1, ha2⟩ := iha x ha st (by omega)
        constructor
        · simp only [Re.m]
          rw [ha1, List.flatMap_map, List.map_flatMap]
          apply flatMap_congr'
          intro s hs
          exact (ihb y hb s (by have := ha2 s hs; omega)).1
        · intro s hs
          simp only [Re.m, List.mem_flatMap] at hs
          obtain ⟨s1, hs1, hs2⟩ := hs
          have h1 := ha2 s1 hs1
          have h2 := (ihb y hb s1 (by omega)).2 s hs2
          omega
  | alt a b' iha ihb =>
    intro w h st hl
    simp only [fixedWidth] at h
    cases ha : fixedWidth a with
    | none => simp [ha] at h
    | some x =>
      cases hb : fixedWidth b' with
      | none => simp [ha, hb] at h
      | some y =>
        simp only [ha, hb] at h
        split at h
        · next hxy =>
          simp only [Option.some.injEq] at h
          subst h
          subst hxy
          obtain ⟨ha1, ha2⟩ := iha x ha st hl
          obtain ⟨hb1, hb2⟩ := ihb x hb st hl
          constructor
          · simp only [Re.m, List.map_append, ha1, hb1]
          · intro s hs
            simp only [Re.m, List.mem_append] at hs
            rcases hs with hs | hs
            · exact ha2 s hs
            · exact hb2 s hs
        · cases h

/-- a fixed-width regex whose first success on `t` alone consumes all of `t` consumes exactly `t`
    before ANY continuation -/
theorem headConsumes_of_fixed (rx : Re) (t : Str) (hw : fixedWidth rx = some t.length)
    (ht : headRestNil rx t = true) (k : Str) : HeadConsumes rx t k := by
  intro st hst
  obtain ⟨r, sf, c⟩ := st
  simp only at hst
  subst hst
  have e : ({ rest := t ++ k, start := sf, caps := c } : MSt)
      = MSt.tr k c sf { rest := t, start := true, caps := [] } := by
    simp [MSt.tr]
  unfold headRestNil at ht
  cases hh : (rx.m { rest := t, start := true, caps := [] }).head? with
  | none => rw [hh] at ht; cases ht
  | some s0 =>
    rw [hh] at ht
    simp only [List.isEmpty_iff] at ht
    refine ⟨MSt.tr k c sf s0, ?_, ?_, ?_⟩
    · rw [e, (v1c_fixed_tr k c sf rx _ hw _ (Nat.le_refl _)).1, List.head?_map, hh]; rfl
    · simp [MSt.tr, ht]
    · rfl

/-! ### per-part lemmas -/

/-- the first rendered character of a part: a lower-case letter for the tags, a digit otherwise -/
def FirstOk (n t : Str) : Prop :=
  ∀ c, t.head? = some c → (if isTagPart n = true then isLower c else isDigit c) = true

/-- what the composition needs from one part: it renders to a non-empty text that the part's
    regex consumes exactly, as the FIRST success, before every admissible continuation
    (`nd = true`: the continuation must not start with a digit) -/
def PartHead (v : VInfo) (n : Str) (rx : Re) (nd : Bool) : Prop :=
  ∃ t, partText v n = some t ∧ t ≠ [] ∧ FirstOk n t ∧
    ∀ k, (nd = true → NoDigitAhead k) → HeadConsumes rx t k

theorem firstOk_digits (n t : Str) (htag : isTagPart n = false) (hd : allDigits t = true) :
    FirstOk n t := by
  intro c hc
  rw [htag]
  cases t with
  | nil => cases hc
  | cons x xs =>
    simp only [List.head?_cons, Option.some.injEq] at hc
    subst hc
    rw [allDigits_cons] at hd
    simpa using hd.1

theorem allDigits_fmtValue (kd : Gen.FmtKind) (x : Nat) : allDigits (fmtValue kd (.nat x)) = true := by
  cases kd <;> simp only [fmtValue, allDigits_natToStr, allDigits_zfill]

/-! ### ordered alternations of literal words (TAG, PYTAG) -/

/-- a literal word as `parseRe` builds it -/
def litRe : Str → Re
  | [] => .eps
  | [c] => .chr c
  | c :: d :: cs => .seq (.chr c) (litRe (d :: cs))

/-- `w1|w2|…` as `parseRe` builds it -/
def altLits : List Str → Re
  | [] => .eps
  | [w] => litRe w
  | w :: w2 :: ws => .alt (litRe w) (altLits (w2 :: ws))

/-- the two words differ at a position inside both -/
def incomp : Str → Str → Bool
  | a :: as, b :: bs => a != b || incomp as bs
  | _, _ => false

theorem incomp_self : ∀ t : Str, incomp t t = false := by
  intro t
  induction t with
  | nil => rfl
  | cons a as iha => simp [incomp, iha]

theorem litRe_m_prefix : ∀ (w k : Str) (st : MSt), w ≠ [] → st.rest = w ++ k →
    (litRe w).m st = [st.step k] := by
  intro w
  induction w with
  | nil => intro k st h; exact absurd rfl h
  | cons c cs ih =>
    intro k st _ hst
    cases cs with
    | nil => simp [litRe, Re.m, hst]
    | cons d ds =>
      have hst' : st.rest = c :: (d :: ds ++ k) := by simpa using hst
      simp only [litRe, Re.m, hst', beq_self_eq_true, ↓reduceIte, List.flatMap_cons,
        List.flatMap_nil, List.append_nil]
      rw [ih k (st.step (d :: ds ++ k)) (by simp) rfl]
      rfl

theorem litRe_m_incomp : ∀ (w t k : Str) (st : MSt), incomp w t = true → st.rest = t ++ k →
    (litRe w).m st = [] := by
  intro w
  induction w with
  | nil => intro t k st h; simp [incomp] at h
  | cons c cs ih =>
    intro t k st h hst
    cases t with
    | nil => simp [incomp] at h
    | cons b bs =>
      have hst' : st.rest = b :: (bs ++ k) := by simpa using hst
      simp only [incomp, Bool.or_eq_true, bne_iff_ne, ne_eq] at h
      by_cases hcb : b = c
      · subst hcb
        have h2 : incomp cs bs = true := by
          rcases h with h | h
          · exact absurd rfl h
          · exact h
        cases cs with
        | nil => simp [incomp] at h2
        | cons d ds =>
          simp only [litRe, Re.m, hst', beq_self_eq_true, ↓reduceIte, List.flatMap_cons,
            List.flatMap_nil, List.append_nil]
          exact ih bs k (st.step (bs ++ k)) h2 rfl
      · have hne : (b == c) = false := by rw [beq_eq_false_iff_ne]; exact hcb
        cases cs with
        | nil => simp [litRe, Re.m, hst', hne]
        | cons d ds => simp [litRe, Re.m, hst', hne]

theorem altLits_head : ∀ (ws : List Str) (t k : Str), t ∈ ws → t ≠ [] →
    (∀ w ∈ ws, w = t ∨ incomp w t = true) → HeadConsumes (altLits ws) t k := by
  intro ws
  induction ws with
  | nil => intro t k h; simp at h
  | cons w ws ih =>
    intro t k hmem hne hall st hst
    cases ws with
    | nil =>
      have : t = w := by simpa using hmem
      subst this
      refine ⟨st.step k, ?_, rfl, rfl⟩
      simp only [altLits]
      rw [litRe_m_prefix t k st hne hst]; rfl
    | cons w2 ws' =>
      simp only [altLits, Re.m]
      rcases hall w (by simp) with hw | hw
      · subst hw
        refine ⟨st.step k, ?_, rfl, rfl⟩
        rw [litRe_m_prefix w k st hne hst]; rfl
      · rw [litRe_m_incomp w t k st hw hst, List.nil_append]
        have hmem' : t ∈ w2 :: ws' := by
          rcases List.mem_cons.mp hmem with h | h
          · subst h
            have := incomp_self t
            rw [this] at hw; cases hw
          · exact h
        exact ih t k hmem' hne (fun w' hw' => hall w' (List.mem_cons_of_mem _ hw')) st hst

/-- decidable side condition of `altLits_head` -/
def firstLower : Str → Bool
  | c :: _ => isLower c
  | [] => false

def wordsOk (ws : List Str) (t : Str) : Bool :=
  ws.contains t && firstLower t && ws.all (fun w => w == t || incomp w t)

theorem firstLower_ne_nil (t : Str) (h : firstLower t = true) : t ≠ [] := by
  intro e; subst e; cases h

theorem altLits_head' (ws : List Str) (t k : Str) (h : wordsOk ws t = true) :
    HeadConsumes (altLits ws) t k ∧ t ≠ [] ∧ firstLower t = true := by
  simp only [wordsOk, Bool.and_eq_true, List.contains_iff_mem, List.all_eq_true, Bool.or_eq_true,
    beq_iff_eq] at h
  exact ⟨altLits_head ws t k h.1.1 (firstLower_ne_nil t h.1.2) h.2, firstLower_ne_nil t h.1.2, h.1.2⟩

theorem firstOk_lower (n t : Str) (htag : isTagPart n = true) (h : firstLower t = true) :
    FirstOk n t := by
  intro c hc
  rw [htag]
  cases t with
  | nil => cases hc
  | cons x xs =>
    simp only [List.head?_cons, Option.some.injEq] at hc
    subst hc
    simp only [↓reduceIte]
    exact h

/-! ### the part families with an unbounded domain -/

theorem hc_posNat (x : Nat) (hpos : 1 ≤ x) (k : Str) (hk : NoDigitAhead k) :
    HeadConsumes (.seq posDigitCls (.rep digitCls 0 none)) (natToStr x) k := by
  have hd := allDigits_natToStr x
  have hh := natToStr_head_ne_zero x (by omega)
  have hne := natToStr_ne_nil x
  generalize natToStr x = s at hd hh hne
  cases s with
  | nil => exact absurd rfl hne
  | cons c t =>
    rw [allDigits_cons] at hd
    exact hc_posInt c t k hd.1 (hh c t rfl) hd.2 hk

theorem hc_year4 (y : Nat) (h1 : 1000 ≤ y) (h2 : y ≤ 9999) (k : Str) :
    HeadConsumes (.seq posDigitCls (.rep digitCls 3 (some 3))) (natToStr y) k := by
  have hlen := natToStr_length_eq 3 y (by omega) (by omega)
  have hd := allDigits_natToStr y
  have hh := natToStr_head_ne_zero y (by omega)
  generalize natToStr y = s at hd hlen hh
  cases s with
  | nil => simp at hlen
  | cons c t =>
    rw [allDigits_cons] at hd
    have ht : t.length = 3 := by simpa using hlen
    have := hc_posFixed c t k hd.1 (hh c t rfl) hd.2
    rw [ht] at this
    exact this

/-- a part whose text is a digit string `t`, under `[0-9]+` (MAJOR MINOR PATCH NUM INC0: `str(n)`; BUILD: the id
    verbatim) or, when `t` does not start with `0`, under `[1-9][0-9]*` (INC1, BLD) -/
theorem digits_part (v : VInfo) (n t : Str) (rx : Re) (hpt : partText v n = some t) (hne : t ≠ [])
    (hd : allDigits t = true) (htag : isTagPart n = false) (hnd : needND n = true)
    (hhead : ∀ k, NoDigitAhead k → HeadConsumes rx t k) : PartHead v n rx (needND n) :=
  ⟨t, hpt, hne, firstOk_digits n t htag hd, fun k hk => hhead k (hk hnd)⟩

theorem partText_nat (n f : Str) (get : VInfo → Nat) (hf : lookup n Gen.partFields = some f)
    (hkd : lookup n Gen.partFormats = some .str) (hget : ∀ v : VInfo, v.get f = .nat (get v)) (v : VInfo) :
    partText v n = some (natToStr (get v)) := by
  simp only [partText, hf, hkd, hget]; rfl

theorem partText_major (v : VInfo) : partText v "MAJOR".toList = some (natToStr v.major) :=
  partText_nat _ "major".toList (·.major) (by decide +kernel) (by decide +kernel) get_major v

theorem partText_minor (v : VInfo) : partText v "MINOR".toList = some (natToStr v.minor) :=
  partText_nat _ "minor".toList (·.minor) (by decide +kernel) (by decide +kernel) get_minor v

theorem partText_patch (v : VInfo) : partText v "PATCH".toList = some (natToStr v.patch) :=
  partText_nat _ "patch".toList (·.patch) (by decide +kernel) (by decide +kernel) get_patch v

theorem partText_num (v : VInfo) : partText v "NUM".toList = some (natToStr v.num) :=
  partText_nat _ "num".toList (·.num) (by decide +kernel) (by decide +kernel) get_num v

theorem partText_inc0 (v : VInfo) : partText v "INC0".toList = some (natToStr v.inc0) :=
  partText_nat _ "inc0".toList (·.inc0) (by decide +kernel) (by decide +kernel) get_inc0 v

theorem partText_inc1 (v : VInfo) : partText v "INC1".toList = some (natToStr v.inc1) :=
  partText_nat _ "inc1".toList (·.inc1) (by decide +kernel) (by decide +kernel) get_inc1 v

theorem partText_BUILD (v : VInfo) : partText v "BUILD".toList = some v.bid := by
  have hf : lookup "BUILD".toList Gen.partFields = some "bid".toList := by decide +kernel
  have hkd : lookup "BUILD".toList Gen.partFormats = some .str := by decide +kernel
  simp only [partText, hf, hkd, get_bid]; rfl

theorem partText_BLD (v : VInfo) : partText v "BLD".toList = some (natToStr (strToNat v.bid)) := by
  have hf : lookup "BLD".toList Gen.partFields = some "bid".toList := by decide +kernel
  have hkd : lookup "BLD".toList Gen.partFormats = some .int := by decide +kernel
  simp only [partText, hf, hkd, get_bid]; rfl

theorem partText_TAG (v : VInfo) : partText v "TAG".toList = some v.tag := by
  have hf : lookup "TAG".toList Gen.partFields = some "tag".toList := by decide +kernel
  have hkd : lookup "TAG".toList Gen.partFormats = some .str := by decide +kernel
  simp only [partText, hf, hkd, get_tag]; rfl

theorem partText_PYTAG (v : VInfo) : partText v "PYTAG".toList = some v.pytag := by
  have hf : lookup "PYTAG".toList Gen.partFields = some "pytag".toList := by decide +kernel
  have hkd : lookup "PYTAG".toList Gen.partFormats = some .str := by decide +kernel
  simp only [partText, hf, hkd, get_pytag]; rfl

end BV
