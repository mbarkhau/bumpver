/-
  Proofs/FilePatternsLemmas.lean — lemmas about the reference definitions of Model/FilePatterns.lean
  (namespace `BV.TieP` for the helpers):

  * the generator algebra `Py.PyGen` (`andThen`, `yield`, `done`, `ofExc`);
  * `iterGlobExpandedE` with a glob that never raises is the hand model's `iterGlobExpanded`;
  * the MERGE lemmas of `_compile_file_patterns` (`mergeIntoG`): every path occurs once, in first-seen
    order, and under it exactly the patterns of all items with that path, in order;
  * `compileFilePatternsE` with a total glob and callees described by `CfgEnv.compileOk` is the hand model's
    `compileFilePatterns` (on raw patterns) followed by the compilation of every pattern;
  * the keys of the resulting map come from the configured keys (C04).
-/
import BumpverVerif.Model.FilePatterns
import BumpverVerif.Proofs.ConfigLemmas
import BumpverVerif.Proofs.TieConfigCommon
namespace BV.TieP
open Py TieH

/-! ### `Except.map` / `Except.mapError` on constructors (rewrite rules that do not unfold the general case) -/
theorem map_ok {ε α β : Type} (f : α → β) (a : α) : Except.map f (Except.ok a : Except ε α) = Except.ok (f a) := rfl
theorem map_error {ε α β : Type} (f : α → β) (e : ε) : Except.map f (Except.error e : Except ε α) = Except.error e := rfl
theorem mapError_ok {ε ε' α : Type} (f : ε → ε') (a : α) :
    Except.mapError f (Except.ok a : Except ε α) = Except.ok a := rfl
theorem mapError_error {ε ε' α : Type} (f : ε → ε') (e : ε) :
    Except.mapError f (Except.error e : Except ε α) = Except.error (f e) := rfl

/-! ### the generator algebra -/

theorem PyGen.ext' {α : Type} (a b : PyGen α) (h1 : a.items = b.items) (h2 : a.exc = b.exc) : a = b := by
  cases a; cases b; simp_all

@[simp] theorem andThen_done {α : Type} (g : PyGen α) : PyGen.andThen g PyGen.done = g := by
  cases g with
  | mk items exc => cases exc <;> simp [PyGen.andThen, PyGen.done]

@[simp] theorem done_andThen {α : Type} (g : PyGen α) : PyGen.andThen PyGen.done g = g := by
  simp [PyGen.andThen, PyGen.done]

@[simp] theorem raise_andThen {α : Type} (e : Str) (g : PyGen α) : PyGen.andThen (PyGen.raise e) g = PyGen.raise e := by
  simp [PyGen.andThen, PyGen.raise]

@[simp] theorem yield_andThen {α : Type} (a : α) (g r : PyGen α) :
    PyGen.andThen (PyGen.yield a g) r = PyGen.yield a (PyGen.andThen g r) := by
  cases g with
  | mk items exc => cases exc <;> simp [PyGen.andThen, PyGen.yield]

@[simp] theorem ofExc_none {α : Type} : (PyGen.ofExc none : PyGen α) = PyGen.done := rfl
@[simp] theorem ofExc_some {α : Type} (e : Str) : (PyGen.ofExc (some e) : PyGen α) = PyGen.raise e := rfl

theorem andThen_assoc {α : Type} (a b c : PyGen α) :
    PyGen.andThen (PyGen.andThen a b) c = PyGen.andThen a (PyGen.andThen b c) := by
  cases a with
  | mk ia ea =>
    cases ea with
    | some e => simp [PyGen.andThen]
    | none =>
      cases b with
      | mk ib eb => cases eb <;> simp [PyGen.andThen]

/-- a list of items as a generator that returns -/
def ofList {α : Type} (l : List α) : PyGen α := ⟨l, none⟩

theorem ofList_andThen {α : Type} (l : List α) (g : PyGen α) :
    PyGen.andThen (ofList l) g = ⟨l ++ g.items, g.exc⟩ := rfl

theorem yield_eq {α : Type} (a : α) (g : PyGen α) : PyGen.yield a g = ⟨a :: g.items, g.exc⟩ := rfl

/-! ### `iterGlobExpandedE` and the hand model's `iterGlobExpanded` -/

/-- with a glob that never raises the generator returns after the items of `iterGlobExpanded` -/
theorem iterGlobExpandedE_total (glob : Str → List Str) (fps : FilePatterns) :
    iterGlobExpandedE (fun g => .ok (glob g)) fps = ⟨iterGlobExpanded glob fps, none⟩ := by
  induction fps with
  | nil => rfl
  | cons hd rest ih =>
    obtain ⟨g, pats⟩ := hd
    simp only [iterGlobExpandedE, iterGlobExpanded, ih]
    cases glob g <;> rfl

/-- the exception that ends the expansion is the one of the FIRST key whose glob raises; the items before
    it are those of the keys before it -/
theorem iterGlobExpandedE_append_raise (glob : Str → Except Str (List Str)) (pre post : FilePatterns)
    (g : Str) (pats : List Str) (e : Str) (hg : glob g = .error e)
    (hpre : ∀ kv ∈ pre, ∃ fs, glob kv.1 = .ok fs) :
    (iterGlobExpandedE glob (pre ++ (g, pats) :: post)).exc = some e ∧
    (iterGlobExpandedE glob (pre ++ (g, pats) :: post)).items =
      (iterGlobExpandedE glob pre).items := by
  induction pre with
  | nil => simp [iterGlobExpandedE, hg, PyGen.raise, PyGen.done]
  | cons hd t ih =>
    obtain ⟨g', pats'⟩ := hd
    obtain ⟨fs, hfs⟩ := hpre (g', pats') List.mem_cons_self
    have ih' := ih (fun kv hkv => hpre kv (List.mem_cons_of_mem _ hkv))
    simp only [List.cons_append, iterGlobExpandedE, hfs, ih'.1, ih'.2, and_self]

/-! ### the merge of `_compile_file_patterns` -/

theorem setOpt_keys {α : Type} (k : Str) (v : α) (l : List (Str × α)) (h : k ∈ l.map Prod.fst) :
    (setOpt k v l).map Prod.fst = l.map Prod.fst := by
  induction l with
  | nil => cases h
  | cons hd t ih =>
    obtain ⟨k', v'⟩ := hd
    by_cases hk : k = k'
    · subst hk; simp [setOpt]
    · have ht : k ∈ t.map Prod.fst := by
        simp only [List.map_cons, List.mem_cons] at h
        rcases h with h | h
        · exact absurd h hk
        · exact h
      simp [setOpt, hk, ih ht]

/-- under every path: what was there before, then the patterns of all items with that path, in order -/
theorem lookup_foldl_mergeIntoG {α : Type} (items acc : List (Str × List α)) (f : Str) :
    lookup f (items.foldl mergeIntoG acc) =
      match lookup f acc with
      | some old => some (old ++ collectFor f items)
      | none => if f ∈ items.map Prod.fst then some (collectFor f items) else none := by
  induction items generalizing acc with
  | nil => cases h : lookup f acc <;> simp [collectFor, h]
  | cons hd rest ih =>
    obtain ⟨k, ps⟩ := hd
    rw [List.foldl_cons, ih]
    unfold mergeIntoG
    by_cases hk : k = f
    · subst hk
      cases hl : lookup k acc with
      | none => simp [lookup_append, hl, lookup_cons, collectFor]
      | some old => simp [lookup_setOpt, collectFor, List.append_assoc]
    · have hk' : ¬ f = k := fun h => hk h.symm
      have hm : (f ∈ List.map Prod.fst ((k, ps) :: rest)) ↔ (f ∈ List.map Prod.fst rest) := by
        simp [hk']
      cases hl : lookup k acc with
      | none =>
        cases hf : lookup f acc with
        | none => simp only [lookup_append, hf, lookup_cons, lookup_nil, hk', collectFor, hk, hm, if_false, Option.orElse]
        | some old => simp [lookup_append, hf, collectFor, hk]
      | some oldk =>
        cases hf : lookup f acc with
        | none => simp only [lookup_setOpt, hk', hf, collectFor, hk, hm, if_false]
        | some old => simp [lookup_setOpt, hk', hf, collectFor, hk]

/-- the paths of the result: first-seen order -/
theorem keys_foldl_mergeIntoG {α : Type} (items acc : List (Str × List α)) :
    (items.foldl mergeIntoG acc).map Prod.fst = firstSeenFrom (acc.map Prod.fst) (items.map Prod.fst) := by
  induction items generalizing acc with
  | nil => rfl
  | cons hd rest ih =>
    obtain ⟨k, ps⟩ := hd
    rw [List.foldl_cons, ih]
    simp only [List.map_cons, firstSeenFrom]
    congr 1
    unfold mergeIntoG
    cases hl : lookup k acc with
    | none =>
      have : k ∉ acc.map Prod.fst := (lookup_none_iff k acc).mp hl
      simp [this]
    | some old =>
      have hm : k ∈ acc.map Prod.fst := (lookup_isSome_iff k acc).mp (by rw [hl]; rfl)
      simp only [hm, if_true]
      exact setOpt_keys k _ acc hm

theorem mem_firstSeenFrom (seen ks : List Str) (x : Str) : x ∈ firstSeenFrom seen ks ↔ x ∈ seen ∨ x ∈ ks := by
  induction ks generalizing seen with
  | nil => simp [firstSeenFrom]
  | cons k t ih =>
    rw [firstSeenFrom, ih]
    by_cases hk : k ∈ seen <;> simp only [hk, if_true, if_false, List.mem_append, List.mem_cons, List.not_mem_nil] <;>
      grind

theorem nodup_firstSeenFrom (seen ks : List Str) (h : seen.Nodup) : (firstSeenFrom seen ks).Nodup := by
  induction ks generalizing seen with
  | nil => exact h
  | cons k t ih =>
    rw [firstSeenFrom]
    apply ih
    by_cases hk : k ∈ seen
    · simp only [hk, if_true]; exact h
    · simp only [hk, if_false]
      rw [List.nodup_append]
      refine ⟨h, by simp, ?_⟩
      intro a ha b hb
      simp only [List.mem_singleton] at hb
      subst hb
      exact fun hab => hk (hab ▸ ha)

/-- each path occurs once -/
theorem nodup_keys_foldl_mergeIntoG {α : Type} (items : List (Str × List α)) :
    ((items.foldl mergeIntoG []).map Prod.fst).Nodup := by
  rw [keys_foldl_mergeIntoG]
  exact nodup_firstSeenFrom _ _ List.nodup_nil

/-- the paths of the result are exactly the paths of the items -/
theorem mem_keys_foldl_mergeIntoG {α : Type} (items : List (Str × List α)) (f : Str) :
    f ∈ (items.foldl mergeIntoG []).map Prod.fst ↔ f ∈ items.map Prod.fst := by
  rw [keys_foldl_mergeIntoG, mem_firstSeenFrom]
  simp

theorem mem_collectFor {α : Type} (f : Str) (items : List (Str × List α)) (p : α) :
    p ∈ collectFor f items ↔ ∃ ps, (f, ps) ∈ items ∧ p ∈ ps := by
  induction items with
  | nil => simp [collectFor]
  | cons hd rest ih =>
    obtain ⟨k, qs⟩ := hd
    by_cases hk : k = f <;>
      simp only [collectFor, hk, if_true, if_false, List.mem_append, ih, List.mem_cons, Prod.mk.injEq] <;> grind

/-- THE MERGE LEMMA: a pattern stands under a path of the result exactly when some item with that path
    carries it -/
theorem merge_exact {α : Type} (items : List (Str × List α)) (f : Str) (p : α) :
    (∃ qs, lookup f (items.foldl mergeIntoG []) = some qs ∧ p ∈ qs) ↔ ∃ ps, (f, ps) ∈ items ∧ p ∈ ps := by
  rw [lookup_foldl_mergeIntoG, lookup_nil]
  simp only []
  by_cases hf : f ∈ items.map Prod.fst
  · simp only [hf, if_true, Option.some.injEq, exists_eq_left', mem_collectFor]
  · simp only [hf, if_false, reduceCtorEq, false_and, exists_false, false_iff]
    rintro ⟨ps, h1, -⟩
    exact hf (List.mem_map.mpr ⟨(f, ps), h1, rfl⟩)

/-! ### `compileFilePatternsE` and the hand model's `compileFilePatterns` -/

/-- every raw pattern of a merged map replaced by its compiled form -/
def mapVals {α β : Type} (g : α → β) (m : List (Str × List α)) : List (Str × List β) :=
  m.map (fun kv => (kv.1, kv.2.map g))

theorem mapVals_keys {α β : Type} (g : α → β) (m : List (Str × List α)) :
    (mapVals g m).map Prod.fst = m.map Prod.fst := by
  simp [mapVals, List.map_map, Function.comp_def]

theorem lookup_mapVals {α β : Type} (g : α → β) (m : List (Str × List α)) (k : Str) :
    lookup k (mapVals g m) = (lookup k m).map (List.map g) := lookup_mapVal k (List.map g) m

theorem setOpt_mapVals {α β : Type} (g : α → β) (m : List (Str × List α)) (k : Str) (v : List α) :
    setOpt k (v.map g) (mapVals g m) = mapVals g (setOpt k v m) := by
  induction m with
  | nil => rfl
  | cons hd t ih =>
    obtain ⟨k', v'⟩ := hd
    have ih' : setOpt k (List.map g v) (List.map (fun kv => (kv.1, List.map g kv.2)) t) =
        List.map (fun kv => (kv.1, List.map g kv.2)) (setOpt k v t) := ih
    by_cases h : k = k'
    · subst h; simp [mapVals, setOpt]
    · simp [mapVals, setOpt, h, ih']

theorem mergeInto_eq (acc : FilePatterns) (item : Str × List Str) : mergeInto acc item = mergeIntoG acc item := by
  unfold mergeInto mergeIntoG
  cases lookup item.1 acc <;> rfl

theorem foldl_mergeInto_eq (items acc : FilePatterns) : items.foldl mergeInto acc = items.foldl mergeIntoG acc := by
  induction items generalizing acc with
  | nil => rfl
  | cons hd t ih => rw [List.foldl_cons, List.foldl_cons, mergeInto_eq, ih]

theorem mergeIntoG_mapVals {α β : Type} (g : α → β) (acc : List (Str × List α)) (k : Str) (ps : List α) :
    mergeIntoG (mapVals g acc) (k, ps.map g) = mapVals g (mergeIntoG acc (k, ps)) := by
  unfold mergeIntoG
  simp only [lookup_mapVals]
  cases lookup k acc with
  | none => simp [mapVals]
  | some old =>
    simp only [Option.map_some, ← List.map_append]
    exact setOpt_mapVals g acc k (old ++ ps)

theorem foldl_mergeIntoG_mapVals {α β : Type} (g : α → β) (items acc : List (Str × List α)) :
    (mapVals g items).foldl mergeIntoG (mapVals g acc) = mapVals g (items.foldl mergeIntoG acc) := by
  induction items generalizing acc with
  | nil => rfl
  | cons hd t ih =>
    obtain ⟨k, ps⟩ := hd
    have : mapVals g ((k, ps) :: t) = (k, ps.map g) :: mapVals g t := rfl
    rw [this, List.foldl_cons, List.foldl_cons, mergeIntoG_mapVals, ih]

/-- the callees are what the hand model's environment says: `compile_pattern` succeeds exactly when
    `compileOk` holds (its failure is `re.error`), its value is `mk isNew p`; `compile_patterns` is the list
    comprehension over `compile_pattern` -/
structure CalleesAgree {π : Type} (env : CfgEnv) (c : CompileCallees π) (mk : Bool → Str → π) (vp : Str) : Prop where
  cp2 : ∀ p, c.cp2 (.str vp) p = if env.compileOk true vp p then .ok (mk true p) else .error "re.error".toList
  cps2 : ∀ ps, c.cps2 (.str vp) ps = mapE (c.cp2 (.str vp)) ps
  cps1 : ∀ ps, c.cps1 (.str vp) ps =
    mapE (fun p => if env.compileOk false vp p then .ok (mk false p) else .error "re.error".toList) ps

theorem checkPatterns_v2 {π : Type} (env : CfgEnv) (c : CompileCallees π) (mk : Bool → Str → π) (vp : Str)
    (h : CalleesAgree env c mk vp) (pats : List Str) :
    match checkPatterns env true vp pats with
    | .error e => checkPatternsE c.cp2 (.str vp) pats = .error e.pyClass
    | .ok () => checkPatternsE c.cp2 (.str vp) pats = .ok () ∧
        mapE (c.cp2 (.str vp)) pats = .ok (pats.map (mk true)) := by
  induction pats with
  | nil => exact ⟨rfl, rfl⟩
  | cons p ps ih =>
    unfold checkPatterns checkPatternsE
    generalize hbv : startsWith p "[".toList = b
    cases b with
    | true => simp only [Bool.and_self, if_true, pyClass_bracketPattern]
    | false =>
      simp only [Bool.and_false, Bool.false_eq_true, if_false, h.cp2 p]
      cases hc : env.compileOk true vp p with
      | true =>
        simp only [Bool.not_true, Bool.false_eq_true, if_false, if_true]
        cases hr : checkPatterns env true vp ps with
        | error e => rw [hr] at ih; exact ih
        | ok u =>
          rw [hr] at ih
          simp only [mapE, h.cp2 p, hc, if_true, ih.1, ih.2, List.map_cons, and_self]
      | false => simp only [Bool.not_false, if_true, Bool.false_eq_true, if_false, pyClass_reError]

theorem checkPatterns_v1 (env : CfgEnv) {π : Type} (mk : Bool → Str → π) (vp : Str) (pats : List Str) :
    mapE (fun p => if env.compileOk false vp p then (.ok (mk false p) : Except Str π) else .error "re.error".toList) pats =
      match checkPatterns env false vp pats with
      | .error e => .error e.pyClass
      | .ok () => .ok (pats.map (mk false)) := by
  induction pats with
  | nil => rfl
  | cons p ps ih =>
    unfold checkPatterns mapE
    cases hc : env.compileOk false vp p with
    | true =>
      simp only [if_true, ih, Bool.false_and, Bool.false_eq_true, if_false, Bool.not_true]
      cases checkPatterns env false vp ps <;> rfl
    | false => simp only [Bool.false_eq_true, if_false, Bool.false_and, Bool.not_false, if_true, pyClass_reError]

/-- one item: the hand model's check of its patterns, then every pattern compiled -/
theorem compileItemE_model {π : Type} (env : CfgEnv) (c : CompileCallees π) (mk : Bool → Str → π) (vp : Str)
    (h : CalleesAgree env c mk vp) (isNew : Bool) (pats : List Str) :
    compileItemE c isNew (.str vp) pats =
      match checkPatterns env isNew vp pats with
      | .error e => .error e.pyClass
      | .ok () => .ok (pats.map (mk isNew)) := by
  unfold compileItemE
  cases isNew with
  | true =>
    have h2 := checkPatterns_v2 env c mk vp h pats
    cases hr : checkPatterns env true vp pats with
    | error e => rw [hr] at h2; simp [h2]
    | ok u => rw [hr] at h2; simp [h2.1, h.cps2, h2.2]
  | false =>
    simp only [Bool.false_eq_true, if_false, h.cps1, checkPatterns_v1]

theorem compileItemsE_model {π : Type} (env : CfgEnv) (c : CompileCallees π) (mk : Bool → Str → π) (vp : Str)
    (h : CalleesAgree env c mk vp) (isNew : Bool) (items : FilePatterns) :
    match checkAllPatterns env isNew vp items with
    | .error e => (compileItemsE c isNew (.str vp) items none).exc = some e.pyClass
    | .ok () => compileItemsE c isNew (.str vp) items none = ⟨mapVals (mk isNew) items, none⟩ := by
  induction items with
  | nil => rfl
  | cons hd t ih =>
    obtain ⟨f, pats⟩ := hd
    unfold checkAllPatterns compileItemsE
    rw [compileItemE_model env c mk vp h]
    cases hr : checkPatterns env isNew vp pats with
    | error e => rfl
    | ok u =>
      simp only []
      cases hr2 : checkAllPatterns env isNew vp t with
      | error e => rw [hr2] at ih; simpa [PyGen.yield] using ih
      | ok u2 => rw [hr2] at ih; simp only [] at ih; rw [ih]; rfl

/-- `compileFilePatternsE` with a glob that never raises and callees as the environment describes them is the
    hand model's `compileFilePatterns` on raw patterns, every pattern then compiled by `mk isNew` -/
theorem compileFilePatternsE_model {π : Type} (env : CfgEnv) (c : CompileCallees π) (mk : Bool → Str → π) (vp : Str)
    (h : CalleesAgree env c mk vp) (isNew : Bool) (fps : FilePatterns) :
    compileFilePatternsE (fun g => .ok (env.glob g)) c isNew (.str vp) fps =
      ((compileFilePatterns env isNew vp fps).mapError CfgErr.pyClass).map (mapVals (mk isNew)) := by
  unfold compileFilePatternsE compileFilePatterns
  simp only [iterGlobExpandedE_total]
  have hm := compileItemsE_model env c mk vp h isNew (iterGlobExpanded env.glob fps)
  cases hr : checkAllPatterns env isNew vp (iterGlobExpanded env.glob fps) with
  | error e => rw [hr] at hm; simp only [] at hm; simp [hm, Except.mapError, Except.map]
  | ok u =>
    rw [hr] at hm
    simp only [] at hm
    simp only [hm, Except.mapError, Except.map]
    rw [foldl_mergeInto_eq]
    exact congrArg Except.ok (foldl_mergeIntoG_mapVals (mk isNew) (iterGlobExpanded env.glob fps) [])

end BV.TieP
