/-
  Proofs/Tie_validateFlags.lean — the definition GENERATED from the Python source of
  `cli._validate_flags` (Gen/F_validateFlags.lean) equals the hand model on all inputs: it returns
  normally exactly when `BV.validFlags` holds, otherwise it is `sys.exit(1)`.
  (`"{" in raw_pattern` is `isInfix "{"` in the generated text and `List.contains '{'` in the model:
  `isInfix_singleton`.)
-/
import BumpverVerif.Gen.F_validateFlags
import BumpverVerif.Proofs.TieCliLemmas
namespace BV

theorem tie_validateFlags (pat : Str) (fl : IncrFlags) :
    GenC.validateFlags pat fl.major fl.minor fl.patch
      = if validFlags pat fl then .ok () else .error (.sysExit 1) := by
  obtain ⟨mj, mn, pa, _, _, _, _⟩ := fl
  simp only [GenC.validateFlags, validFlags, isInfix_lbrace, isInfix_rbrace]
  -- only the truth values of the five tests on the pattern and of the three flags matter: a truth table
  generalize pat.contains '{' = b1
  generalize pat.contains '}' = b2
  generalize isInfix "MAJOR".toList pat = m
  generalize isInfix "MINOR".toList pat = n
  generalize isInfix "PATCH".toList pat = p
  revert b1 b2 mj m mn n pa p
  decide

end BV
