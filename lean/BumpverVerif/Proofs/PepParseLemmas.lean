/-
  Proofs/PepParseLemmas.lean — C15: the text a pattern tree renders PARSES (C16's model of the vendored PEP 440
  parser, Model/Pep440.lean) to the version the record denotes (`pepOfRecord`, `pepOfVersion`,
  Model/PepOfRecord.lean).

  Part A  the parser on `digits(.digits)*` followed by a tag text (`pp_parseCore`)
  Part B  the tag text: `-`? (alpha|beta|a|b|rc|post|dev) digits? (`pp_segs_tag`)
  Part C  the parts: a release part renders as a non-empty digit string
  Part D  the tree: the rendered text is head ++ `.`-components ++ tag text
  Part E  the theorems for one tree (`pp_parse_tree`; for the derived tree: `pp_derived_parses`, `pp_derived_content`)
  Part F  the version pattern and its derived tree denote the same version (`pp_version_eq`,
          `pp_version_parses_equal`)
-/
import BumpverVerif.Model.PepOfRecord
import BumpverVerif.Proofs.Pep440Lemmas
import BumpverVerif.Proofs.PepTreeLemmas
namespace BV

/-! ## Part A: the parser on `digits(.digits)*` -/

/-- THE PARSER on `digits(.digits)*T`: the release is the numbers of the components, the three optional groups
    are what `preSeg` / `postSeg` / `devSeg` make of `T` -/
theorem pp_parseCore (ds0 : Str) (dss : List Str) (T T4 T5 : Str) (pre : Option (Str × Nat)) (post dev : Option Nat)
    (h0 : DigitsNE ds0) (hs : ∀ d ∈ dss, DigitsNE d) (hT : TailOK T)
    (h3 : preSeg T = (pre, T4)) (h4 : postSeg T4 = (post, T5)) (h5 : devSeg T5 = (dev, [])) :
    parseCore (ds0 ++ (relTxt dss ++ T)) =
      some { epoch := 0, release := (ds0 :: dss).map strToNat, pre := pre, post := post, dev := dev, loc := none } :=
  parseCore_rel _ _ _ _ _ _ _ _ _ _ _ _
    (headSeg_noEpoch ds0 _ h0.1 h0.2 (noDigitHead_relTxt dss T hT.1) (notBang_relTxt dss T hT.2.2))
    hs hT.2.1 hT.1 h3 h4 h5 rfl

/-! ## Part B: the tag text `-`? (alpha|beta|a|b|rc|post|dev) digits? -/

/-- what the three optional groups of the parser (pre, post, dev) make of `T`, consuming it to the end -/
def pp_Segs (T : Str) (s : Option (Str × Nat) × Option Nat × Option Nat) : Prop :=
  ∃ T4 T5, preSeg T = (s.1, T4) ∧ postSeg T4 = (s.2.1, T5) ∧ devSeg T5 = (s.2.2, [])

/-- the optional `-` before the tag -/
def pp_dash (dash : Bool) : Str := if dash then ['-'] else []

theorem pp_segs_nil : pp_Segs [] (none, none, none) := ⟨[], [], rfl, rfl, rfl⟩

/-- a letter segment behind the optional `-`: the word, then digits (possibly none: the implicit 0) up to the end -/
theorem pp_letterSeg (ws : List (Str × Str)) (hws : ∀ p ∈ ws, p.1.all isLower = true) (dash : Bool) (w l nm : Str)
    (hw : ∃ c t, w = c :: t ∧ isSep c = false) (hfp : firstPrefix ws w = some (l, []))
    (hd : allDigits nm = true) : letterSeg ws (pp_dash dash ++ (w ++ nm)) = some ((l, strToNat nm), []) := by
  refine letterSeg_word ws hws _ w l nm [] ?_ hfp hd noDigitHead_nil (fun _ => rfl)
  obtain ⟨c, t, rfl, hc⟩ := hw
  rw [List.append_nil]
  cases dash
  · simp only [pp_dash, Bool.false_eq_true, if_false, List.nil_append, List.cons_append, dropOptSep, hc]
  · simp [pp_dash, dropOptSep, isSep]

theorem pp_segs_pre (dash : Bool) (w l nm : Str) (hw : ∃ c t, w = c :: t ∧ isSep c = false)
    (hfp : firstPrefix preWords w = some (l, [])) (hd : allDigits nm = true) :
    pp_Segs (pp_dash dash ++ (w ++ nm)) (some (l, strToNat nm), none, none) :=
  ⟨[], [], by simp only [preSeg, pp_letterSeg preWords pre_lower dash w l nm hw hfp hd], rfl, rfl⟩

theorem pp_segs_post (dash : Bool) (nm : Str) (hd : allDigits nm = true) :
    pp_Segs (pp_dash dash ++ 'p' :: 'o' :: 's' :: 't' :: nm) (none, some (strToNat nm), none) := by
  refine ⟨pp_dash dash ++ 'p' :: 'o' :: 's' :: 't' :: nm, [], ?_, ?_, rfl⟩
  · cases dash <;> simp [pp_dash, preSeg, letterSeg, dropOptSep, isSep, preWords, firstPrefix, dropPrefix?]
  · have hl : letterSeg postWords (pp_dash dash ++ 'p' :: 'o' :: 's' :: 't' :: nm)
        = some ((['p', 'o', 's', 't'], strToNat nm), []) := by
      exact pp_letterSeg postWords post_lower dash "post".toList _ nm ⟨_, _, rfl, by decide⟩ (by decide) hd
    cases dash
    · simp only [pp_dash, Bool.false_eq_true, if_false, List.nil_append] at hl ⊢
      simp only [postSeg, hl]
      rfl
    · simp only [pp_dash, if_true, List.cons_append, List.nil_append] at hl ⊢
      simp only [postSeg, hl]
      rfl

theorem pp_segs_dev (dash : Bool) (nm : Str) (hd : allDigits nm = true) :
    pp_Segs (pp_dash dash ++ 'd' :: 'e' :: 'v' :: nm) (none, none, some (strToNat nm)) := by
  refine ⟨pp_dash dash ++ 'd' :: 'e' :: 'v' :: nm, pp_dash dash ++ 'd' :: 'e' :: 'v' :: nm, ?_, ?_, ?_⟩
  · cases dash <;> simp [pp_dash, preSeg, letterSeg, dropOptSep, isSep, preWords, firstPrefix, dropPrefix?]
  · cases dash <;>
      simp [pp_dash, postSeg, letterSeg, dropOptSep, isSep, postWords, firstPrefix, dropPrefix?, isDigit]
  · have hl : letterSeg devWords (pp_dash dash ++ 'd' :: 'e' :: 'v' :: nm)
        = some ((['d', 'e', 'v'], strToNat nm), []) := by
      exact pp_letterSeg devWords dev_lower dash "dev".toList _ nm ⟨_, _, rfl, by decide⟩ (by decide) hd
    simp only [devSeg, hl]

/-- the tag words a supported pattern can render: the CLI's release tags other than `final` and their short forms -/
def pp_tagWords : List Str := ["alpha", "beta", "rc", "post", "dev", "a", "b"].map String.toList

theorem pp_tailOK_tag (dash : Bool) (tg nm : Str) (ht : tg ∈ pp_tagWords) : TailOK (pp_dash dash ++ (tg ++ nm)) := by
  simp only [pp_tagWords, List.map_cons, List.map_nil, List.mem_cons, List.not_mem_nil, or_false] at ht
  cases dash
  · rcases ht with rfl | rfl | rfl | rfl | rfl | rfl | rfl <;>
      exact tailOK_cons _ _ (by decide) (by decide) (by decide)
  · exact tailOK_cons _ _ (by decide) (by decide) (by decide)

/-- THE TAG TEXT: an optional `-`, a tag word (long or short) and digits (possibly none) parse to the segment of
    the word's short form with the number the digits denote (none: 0) -/
theorem pp_segs_tag (dash : Bool) (tg short nm : Str) (ht : tg ∈ pp_tagWords)
    (hl : lookup tg Gen.pep440TagByTag = some short) (hd : allDigits nm = true) :
    ∃ s, pepSegOf short (strToNat nm) = some s ∧ pp_Segs (pp_dash dash ++ (tg ++ nm)) s := by
  simp only [pp_tagWords, List.map_cons, List.map_nil, List.mem_cons, List.not_mem_nil, or_false] at ht
  rcases ht with rfl | rfl | rfl | rfl | rfl | rfl | rfl <;> cases hl
  · exact ⟨_, rfl, pp_segs_pre dash _ _ nm ⟨_, _, rfl, by decide⟩ (by decide) hd⟩
  · exact ⟨_, rfl, pp_segs_pre dash _ _ nm ⟨_, _, rfl, by decide⟩ (by decide) hd⟩
  · exact ⟨_, rfl, pp_segs_pre dash _ _ nm ⟨_, _, rfl, by decide⟩ (by decide) hd⟩
  · exact ⟨_, rfl, pp_segs_post dash nm hd⟩
  · exact ⟨_, rfl, pp_segs_dev dash nm hd⟩
  · exact ⟨_, rfl, pp_segs_pre dash _ _ nm ⟨_, _, rfl, by decide⟩ (by decide) hd⟩
  · exact ⟨_, rfl, pp_segs_pre dash _ _ nm ⟨_, _, rfl, by decide⟩ (by decide) hd⟩

/-! ## Part C: a release part renders as a non-empty digit string -/

theorem pp_fmt_ne (kd : Gen.FmtKind) (x : Nat) : fmtValue kd (.nat x) ≠ [] := by
  cases kd <;> simp [fmtValue, zfill, natToStr_ne_nil]

theorem pp_digits_of_get (v : VInfo) (n f : Str) (kd : Gen.FmtKind) (x : Nat)
    (hf : lookup n Gen.partFields = some f) (hk : lookup n Gen.partFormats = some kd) (hg : v.get f = .nat x) :
    ∃ t, partText v n = some t ∧ DigitsNE t :=
  ⟨fmtValue kd (.nat x), by simp only [partText, hf, hk, hg], pp_fmt_ne kd x, allDigits_fmtValue kd x⟩

/-- THE PER-PART LEMMA: a release part renders, for a record in its domain, as a non-empty digit string -/
theorem pp_part_digits (v : VInfo) (n : Str) (hr : isRelPart n = true) (hok : partOk v n = true) :
    ∃ t, partText v n = some t ∧ DigitsNE t := by
  rcases partOk_cases v n hok with ⟨f, kd, x, hf, hk, hg⟩ | ⟨rfl, hb⟩ | rfl | rfl | ⟨rfl, _⟩
  · exact pp_digits_of_get v n f kd x hf hk hg
  · exact ⟨v.bid, partText_BUILD v, (isDigitStr_iff v.bid).1 hb⟩
  · exact ⟨_, partText_BLD v, natToStr_ne_nil _, allDigits_natToStr _⟩
  · exact absurd hr (by decide)
  · exact absurd hr (by decide)

/-! ## Part D: the tree: the rendered text is head ++ `.`-components ++ tag text -/

/-- the rendered text without the release components and their dots: what is left is the tag text -/
def pp_tagRender (v : VInfo) : Pat → Str
  | .done => []
  | .lit c rest => if c == '.' then pp_tagRender v rest else c :: pp_tagRender v rest
  | .part n rest => if isRelPart n then pp_tagRender v rest else (partText v n).getD n ++ pp_tagRender v rest
  | .opt body rest => (if Pat.allZero v body then [] else pp_tagRender v body) ++ pp_tagRender v rest

theorem pp_isRel_not_tail (n : Str) (h : isRelPart n = true) : isTailPart n = false := by
  simp only [isRelPart, Bool.and_eq_true, Bool.not_eq_true'] at h
  exact h.2

theorem pp_isTag_tail (n : Str) (h : isTagPart n = true) : isTailPart n = true := by
  simp only [isTagPart, isTailPart, Bool.or_eq_true] at h ⊢
  rcases h with h | h
  · exact Or.inl (Or.inl h)
  · exact Or.inl (Or.inr h)

theorem pp_isTag_not_rel (n : Str) (h : isTagPart n = true) : isRelPart n = false := by
  cases hr : isRelPart n with
  | false => rfl
  | true =>
    have h1 := pp_isRel_not_tail n hr
    rw [pp_isTag_tail n h] at h1
    cases h1

/-- a tree of the tail shape without tag and number parts renders release components only -/
theorem pp_noTail (v : VInfo) (t : Pat) (ht : Pat.pepTailShape t = true) (hn : t.hasTailPart = false) :
    pp_tagRender v t = [] ∧ Pat.tagText v t = none ∧ Pat.numShown v t = false := by
  fun_induction Pat.pepTailShape t with
  | case1 => exact ⟨rfl, rfl, rfl⟩
  | case2 c n rest hc ih =>
    simp only [Bool.and_eq_true] at ht
    simp only [Pat.hasTailPart, Pat.parts, List.any_cons, Bool.or_eq_false_iff] at hn
    have := ih ht.2 hn.2
    have hnt : isTagPart n = false := by
      cases h : isTagPart n with
      | false => rfl
      | true => rw [pp_isTag_tail n h] at hn; exact absurd hn.1 (by simp)
    have hnn : (n == "NUM".toList) = false := by
      cases h : n == "NUM".toList with
      | false => rfl
      | true =>
        have : isTailPart n = true := by simp only [isTailPart, h, Bool.or_true]
        rw [this] at hn; exact absurd hn.1 (by simp)
    simp only [pp_tagRender, hc, if_true, ht.1, Pat.tagText, hnt, Pat.numShown, hnn, Bool.false_or]
    exact this
  | case3 c n rest hc =>
    simp only [Bool.and_eq_true] at ht
    simp only [Pat.hasTailPart, Pat.parts, List.any_cons, Bool.or_eq_false_iff] at hn
    rw [pp_isTag_tail n ht.1.2] at hn
    exact absurd hn.1 (by simp)
  | case4 n rest =>
    simp only [Bool.and_eq_true] at ht
    simp only [Pat.hasTailPart, Pat.parts, List.any_cons, Bool.or_eq_false_iff] at hn
    rw [pp_isTag_tail n ht.1] at hn
    exact absurd hn.1 (by simp)
  | case5 body rest ihb ihr =>
    simp only [Bool.and_eq_true] at ht
    simp only [Pat.hasTailPart, Pat.parts, List.any_append, Bool.or_eq_false_iff] at hn
    obtain ⟨b1, b2, b3⟩ := ihb ht.1.1 hn.1
    obtain ⟨r1, r2, r3⟩ := ihr ht.1.2 hn.2
    simp only [pp_tagRender, Pat.tagText, Pat.numShown, b1, b2, b3, r1, r2, r3]
    simp
  | case6 t h1 h2 h3 h4 =>
    cases ht

/-- the three forms of what may follow the tag -/
theorem pp_numTail_cases (t : Pat) (ht : Pat.isNumTail t = true) :
    t = .done ∨ t = .part "NUM".toList .done ∨ t = .opt (.part "NUM".toList .done) .done := by
  cases t with
  | done => exact Or.inl rfl
  | lit c r => cases ht
  | part m r =>
    cases r with
    | done =>
      simp only [Pat.isNumTail, beq_iff_eq] at ht
      subst ht
      exact Or.inr (Or.inl rfl)
    | lit _ _ => cases ht
    | part _ _ => cases ht
    | opt _ _ => cases ht
  | opt b r =>
    cases r with
    | done =>
      cases b with
      | part m b' =>
        cases b' with
        | done =>
          simp only [Pat.isNumTail, beq_iff_eq] at ht
          subst ht
          exact Or.inr (Or.inr rfl)
        | lit _ _ => cases ht
        | part _ _ => cases ht
        | opt _ _ => cases ht
      | done => cases ht
      | lit _ _ => cases ht
      | opt _ _ => cases ht
    | lit _ _ => cases b <;> simp [Pat.isNumTail] at ht
    | part _ _ => cases b <;> simp [Pat.isNumTail] at ht
    | opt _ _ => cases b <;> simp [Pat.isNumTail] at ht

/-- what may follow the tag: it renders the release number or nothing -/
theorem pp_numTail (v : VInfo) (t : Pat) (ht : Pat.isNumTail t = true) :
    Pat.relComps v t = [] ∧ pp_tagRender v t = Pat.render v t ∧ Pat.tagText v t = none ∧
    Pat.render v t = (if Pat.numShown v t then natToStr v.num else []) := by
  rcases pp_numTail_cases t ht with rfl | rfl | rfl
  · exact ⟨rfl, rfl, rfl, rfl⟩
  · refine ⟨rfl, rfl, rfl, ?_⟩
    simp only [Pat.render, Pat.numShown, partText_num, beq_self_eq_true, Bool.true_or, if_true, Option.getD_some,
      List.append_nil]
  · have h1 : isRelPart "NUM".toList = false := by decide
    have h2 : isTagPart "NUM".toList = false := by decide
    simp only [Pat.relComps, pp_tagRender, Pat.render, Pat.tagText, Pat.numShown, Pat.allZero, Bool.and_true,
      partText_num, partIsZero_NUM, h1, h2]
    by_cases h : v.num = 0
    · simp [h]
    · simp [h]

theorem pp_tagPart_text (v : VInfo) (n : Str) (h : isTagPart n = true) :
    (n = "TAG".toList ∧ partText v n = some v.tag) ∨ (n = "PYTAG".toList ∧ partText v n = some v.pytag) := by
  simp only [isTagPart, Bool.or_eq_true, beq_iff_eq] at h
  rcases h with rfl | rfl
  · exact Or.inl ⟨rfl, partText_TAG v⟩
  · exact Or.inr ⟨rfl, partText_PYTAG v⟩

theorem pp_tagPart_not_num (n : Str) (h : isTagPart n = true) : (n == "NUM".toList) = false := by
  simp only [isTagPart, Bool.or_eq_true, beq_iff_eq] at h
  rcases h with rfl | rfl <;> decide

theorem pp_relPart_not_num (n : Str) (h : isRelPart n = true) : (n == "NUM".toList) = false := by
  have := pp_isRel_not_tail n h
  simp only [isTailPart, Bool.or_eq_false_iff] at this
  exact this.2

theorem pp_relPart_not_tag (n : Str) (h : isRelPart n = true) : isTagPart n = false := by
  cases ht : isTagPart n with
  | false => rfl
  | true => rw [pp_isTag_not_rel n ht] at h; cases h

/-- THE DECOMPOSITION of the text after the first component: `.`-separated digit components, then the tag text -/
theorem pp_render_tail (v : VInfo) (t : Pat) (ht : Pat.pepTailShape t = true) (hv : Pat.vok v t = true) :
    Pat.render v t = relTxt (Pat.relComps v t) ++ pp_tagRender v t ∧
    ∀ d ∈ Pat.relComps v t, DigitsNE d := by
  fun_induction Pat.pepTailShape t with
  | case1 => exact ⟨rfl, fun d hd => by cases hd⟩
  | case2 c n rest hc ih =>
    simp only [Bool.and_eq_true] at ht
    simp only [Pat.vok, Bool.and_eq_true] at hv
    obtain ⟨tx, htx, hdx⟩ := pp_part_digits v n ht.1 hv.1
    obtain ⟨ih1, ih2⟩ := ih ht.2 hv.2
    have hc' : c = '.' := by simpa using hc
    subst hc'
    simp only [Pat.render, Pat.relComps, pp_tagRender, ht.1, if_true, htx, Option.getD_some, relTxt, ih1,
      List.append_assoc, List.cons_append, beq_self_eq_true]
    refine ⟨trivial, ?_⟩
    intro d hd
    simp only [List.mem_cons] at hd
    rcases hd with rfl | hd
    · exact hdx
    · exact ih2 d hd
  | case3 c n rest hc =>
    simp only [Bool.and_eq_true] at ht
    obtain ⟨r1, r2, _, _⟩ := pp_numTail v rest ht.2
    have hnr := pp_isTag_not_rel n ht.1.2
    simp only [Pat.render, Pat.relComps, pp_tagRender, hnr, hc, Bool.false_eq_true, if_false, r1, r2, relTxt,
      List.nil_append]
    exact ⟨trivial, fun d hd => by cases hd⟩
  | case4 n rest =>
    simp only [Bool.and_eq_true] at ht
    obtain ⟨r1, r2, _, _⟩ := pp_numTail v rest ht.2
    have hnr := pp_isTag_not_rel n ht.1
    simp only [Pat.render, Pat.relComps, pp_tagRender, hnr, Bool.false_eq_true, if_false, r1, r2, relTxt,
      List.nil_append]
    exact ⟨trivial, fun d hd => by cases hd⟩
  | case5 body rest ihb ihr =>
    simp only [Bool.and_eq_true, Bool.or_eq_true, Bool.not_eq_true'] at ht
    simp only [Pat.vok, Bool.and_eq_true, Bool.or_eq_true] at hv
    obtain ⟨r1, r2⟩ := ihr ht.1.2 hv.2
    cases hz : Pat.allZero v body with
    | true =>
      simp only [Pat.render, Pat.relComps, pp_tagRender, hz, if_true, List.nil_append]
      exact ⟨r1, r2⟩
    | false =>
      have hvb : Pat.vok v body = true := hv.1.resolve_left (by rw [hz]; exact Bool.false_ne_true)
      obtain ⟨b1, b2⟩ := ihb ht.1.1 hvb
      simp only [Pat.render, Pat.relComps, pp_tagRender, hz, Bool.false_eq_true, if_false]
      refine ⟨?_, ?_⟩
      · rcases ht.2 with hnt | hd
        · have := (pp_noTail v body ht.1.1 hnt).1
          rw [this, List.append_nil] at b1
          rw [b1, r1, this, relTxt_append, List.nil_append, List.append_assoc]
        · cases rest with
          | done =>
            simp only [Pat.render, Pat.relComps, pp_tagRender, List.append_nil]
            exact b1
          | lit _ _ => cases hd
          | part _ _ => cases hd
          | opt _ _ => cases hd
      · intro d hd
        simp only [List.mem_append] at hd
        rcases hd with hd | hd
        · exact b2 d hd
        · exact r2 d hd
  | case6 t h1 h2 h3 h4 => cases ht

/-- the tag text a record renders: `-`? TAG NUM? -/
def pp_tagTxt (v : VInfo) (dash : Bool) (tg : Option Str) (ns : Bool) : Str :=
  match tg with
  | none => []
  | some t => pp_dash dash ++ (t ++ (if ns then natToStr v.num else []))

/-- THE TAG TEXT of a tree of the tail shape -/
theorem pp_tagForm (v : VInfo) (t : Pat) (ht : Pat.pepTailShape t = true) :
    ∃ dash, pp_tagRender v t = pp_tagTxt v dash (Pat.tagText v t) (Pat.numShown v t) := by
  fun_induction Pat.pepTailShape t with
  | case1 => exact ⟨false, rfl⟩
  | case2 c n rest hc ih =>
    simp only [Bool.and_eq_true] at ht
    obtain ⟨dash, ih⟩ := ih ht.2
    refine ⟨dash, ?_⟩
    simp only [pp_tagRender, hc, if_true, ht.1, Pat.tagText, pp_relPart_not_tag n ht.1, Bool.false_eq_true, if_false,
      Pat.numShown, pp_relPart_not_num n ht.1, Bool.false_or]
    exact ih
  | case3 c n rest hc =>
    simp only [Bool.and_eq_true, beq_iff_eq] at ht
    obtain ⟨_, r2, _, r4⟩ := pp_numTail v rest ht.2
    refine ⟨true, ?_⟩
    have hnr := pp_isTag_not_rel n ht.1.2
    have hc' := ht.1.1
    subst hc'
    rcases pp_tagPart_text v n ht.1.2 with ⟨_, hx⟩ | ⟨_, hx⟩ <;>
      simp only [pp_tagRender, hc, Bool.false_eq_true, if_false, hnr, Pat.tagText, ht.1.2, if_true, hx,
        Option.getD_some, Pat.numShown, pp_tagPart_not_num n ht.1.2, Bool.false_or, pp_tagTxt, pp_dash, r2, r4,
        List.cons_append, List.nil_append]
  | case4 n rest =>
    simp only [Bool.and_eq_true] at ht
    obtain ⟨_, r2, _, r4⟩ := pp_numTail v rest ht.2
    refine ⟨false, ?_⟩
    have hnr := pp_isTag_not_rel n ht.1
    rcases pp_tagPart_text v n ht.1 with ⟨_, hx⟩ | ⟨_, hx⟩ <;>
      simp only [pp_tagRender, Bool.false_eq_true, if_false, hnr, Pat.tagText, ht.1, if_true, hx,
        Option.getD_some, Pat.numShown, pp_tagPart_not_num n ht.1, Bool.false_or, pp_tagTxt, pp_dash, r2, r4,
        List.nil_append]
  | case5 body rest ihb ihr =>
    simp only [Bool.and_eq_true, Bool.or_eq_true, Bool.not_eq_true'] at ht
    rcases ht.2 with hnt | hd
    · obtain ⟨b1, b2, b3⟩ := pp_noTail v body ht.1.1 hnt
      obtain ⟨dash, ih⟩ := ihr ht.1.2
      refine ⟨dash, ?_⟩
      simp only [pp_tagRender, Pat.tagText, Pat.numShown, b1, b2, b3, ite_self, List.nil_append, Bool.and_false,
        Bool.false_or]
      exact ih
    · cases rest with
      | done =>
        cases hz : Pat.allZero v body with
        | true => exact ⟨false, by simp only [pp_tagRender, Pat.tagText, Pat.numShown, hz, if_true]; rfl⟩
        | false =>
          obtain ⟨dash, ih⟩ := ihb ht.1.1
          refine ⟨dash, ?_⟩
          simp only [pp_tagRender, Pat.tagText, Pat.numShown, hz, Bool.false_eq_true, if_false, List.append_nil,
            Bool.not_false, Bool.true_and, Bool.or_false]
          rw [ih]
          cases Pat.tagText v body <;> rfl
      | lit _ _ => cases hd
      | part _ _ => cases hd
      | opt _ _ => cases hd
  | case6 t h1 h2 h3 h4 => cases ht

/-! ### the first component -/

theorem pp_vok_headComp (v : VInfo) : ∀ q : Pat, Pat.vok v q = true → Pat.vok v q.headComp = true := by
  intro q
  induction q with
  | done => intro h; exact h
  | lit c rest ih =>
    intro h
    simp only [Pat.headComp]
    split
    · rfl
    · exact ih h
  | part n rest ih =>
    intro h
    simp only [Pat.vok, Bool.and_eq_true] at h
    simp only [Pat.headComp, Pat.vok, Bool.and_eq_true]
    exact ⟨h.1, ih h.2⟩
  | opt body rest _ _ => intro _; rfl

theorem pp_head_digits (v : VInfo) (h : Pat) (hh : Pat.pepHead h = true) (hv : Pat.vok v h = true) :
    DigitsNE (Pat.render v h) := by
  fun_induction Pat.pepHead h with
  | case1 n =>
    simp only [Pat.vok, Bool.and_true] at hv
    obtain ⟨tx, htx, hdx⟩ := pp_part_digits v n hh hv
    simp only [Pat.render, htx, Option.getD_some, List.append_nil]
    exact hdx
  | case2 n rest _ ih =>
    simp only [Bool.and_eq_true] at hh
    simp only [Pat.vok, Bool.and_eq_true] at hv
    obtain ⟨tx, htx, hdx⟩ := pp_part_digits v n hh.1 hv.1
    obtain ⟨_, i2⟩ := ih hh.2 hv.2
    simp only [Pat.render, htx, Option.getD_some]
    refine ⟨?_, ?_⟩
    · intro e
      exact hdx.1 (List.append_eq_nil_iff.mp e).1
    · rw [allDigits_append]
      exact ⟨hdx.2, i2⟩
  | case3 t h1 h2 => cases hh

theorem pp_dropV_of_head (t : Pat) (hh : Pat.pepHead t.headComp = true) : t.dropV = t := by
  cases t with
  | done => rfl
  | part _ _ => rfl
  | opt _ _ => rfl
  | lit c rest =>
    simp only [Pat.headComp] at hh
    split at hh <;> cases hh

/-! ### the characters of a rendered version -/

theorem pp_canon_relTxt (dss : List Str) (h : ∀ d ∈ dss, DigitsNE d) : (relTxt dss).all isCanon = true := by
  induction dss with
  | nil => rfl
  | cons d ds ih =>
    simp only [relTxt, List.all_cons, List.all_append, Bool.and_eq_true]
    exact ⟨by decide, all_canon_digits d (h d (by simp)).2, ih (fun d' hd' => h d' (by simp [hd']))⟩

theorem pp_canon_tagWords : pp_tagWords.all (fun w => w.all isCanon) = true := by decide

theorem pp_canon_dash (dash : Bool) : (pp_dash dash).all isCanon = true := by cases dash <;> decide

/-- the parser's preprocessing does nothing to plain text that starts with a digit, and removes a leading `v` -/
theorem pp_parsePep_canon (s : Str) (hall : s.all isCanon = true) (hd : ∃ c t, s = c :: t ∧ isDigit c = true) :
    parsePep s = parseCore s ∧ parsePep ('v' :: s) = parseCore s := by
  obtain ⟨c, t, hs, hc⟩ := hd
  have hall' : ('v' :: s).all isCanon = true := by
    simp only [List.all_cons, hall, Bool.and_true]; decide
  refine ⟨?_, ?_⟩
  · unfold parsePep
    rw [lowerStr_of_canon _ hall, reStrip_of_canon _ hall, hs, dropV_of_digit c t hc]
  · unfold parsePep
    rw [lowerStr_of_canon _ hall', reStrip_of_canon _ hall']
    rfl

/-! ## Part E: the theorems -/

/-- every tag a tree renders for the record is a parseable tag word (not `final`) with a short form -/
def pp_TagsOk (v : VInfo) (t : Pat) : Prop :=
  ∀ tg, Pat.tagText v t = some tg → tg ∈ pp_tagWords ∧ ∃ short, lookup tg Gen.pep440TagByTag = some short

theorem pp_strToNat_num (v : VInfo) (ns : Bool) :
    strToNat (if ns then natToStr v.num else []) = (if ns then v.num else 0) ∧
    allDigits (if ns then natToStr v.num else []) = true := by
  cases ns
  · exact ⟨rfl, rfl⟩
  · exact ⟨strToNat_natToStr _, allDigits_natToStr _⟩

/-- THE TREE THEOREM: a tree of the parseable shape (without a leading `v`) renders, for a record in its domain
    whose rendered tag is a tag word, a text that the PEP 440 parser reads as `pepOfVersion` — with or without a
    `v` in front -/
theorem pp_parse_tree (v : VInfo) (t : Pat) (hp : t.pepParseable = true) (hv : Pat.vok v t = true)
    (htg : pp_TagsOk v t.afterHead) :
    ∃ ver, pepOfVersion t v = some ver ∧ parsePep (Pat.render v t) = some ver ∧
      parsePep ('v' :: Pat.render v t) = some ver := by
  simp only [Pat.pepParseable, Bool.and_eq_true] at hp
  obtain ⟨hh, hta⟩ := hp
  have hH := pp_head_digits v t.headComp hh (pp_vok_headComp v t hv)
  obtain ⟨d1, d2⟩ := pp_render_tail v t.afterHead hta (vok_afterHead v t hv)
  obtain ⟨dash, hform⟩ := pp_tagForm v t.afterHead hta
  have hrender : Pat.render v t = Pat.render v t.headComp ++
      (relTxt (Pat.relComps v t.afterHead) ++ pp_tagRender v t.afterHead) := by
    rw [render_head_after v t, d1]
  have hplainH := all_canon_digits _ hH.2
  have hplainR := pp_canon_relTxt _ d2
  have hdig : ∃ c r, Pat.render v t = c :: r ∧ isDigit c = true := by
    rw [hrender]
    cases hx : Pat.render v t.headComp with
    | nil => exact absurd hx hH.1
    | cons c r =>
      have := hH.2
      rw [hx, allDigits_cons] at this
      exact ⟨c, _, rfl, this.1⟩
  have hdv := pp_dropV_of_head t hh
  cases htt : Pat.tagText v t.afterHead with
  | none =>
    rw [htt] at hform
    simp only [pp_tagTxt] at hform
    have hov : pepOfVersion t v = some (pepMk (pepRelease v t) (none, none, none)) := by
      simp only [pepOfVersion, hdv, htt]
    have hall : (Pat.render v t).all isCanon = true := by
      rw [hrender, hform]
      simp only [List.all_append, hplainH, hplainR, List.all_nil, Bool.and_self]
    have hcore : parseCore (Pat.render v t) = some (pepMk (pepRelease v t) (none, none, none)) := by
      rw [hrender, hform]
      exact pp_parseCore _ _ [] [] [] none none none hH d2 tailOK_nil rfl rfl rfl
    obtain ⟨p1, p2⟩ := pp_parsePep_canon _ hall hdig
    exact ⟨_, hov, by rw [p1, hcore], by rw [p2, hcore]⟩
  | some tg =>
    obtain ⟨hw, short, hl⟩ := htg tg htt
    rw [htt] at hform
    simp only [pp_tagTxt] at hform
    obtain ⟨hn1, hn2⟩ := pp_strToNat_num v (Pat.numShown v t.afterHead)
    obtain ⟨s, hs, T4, T5, g1, g2, g3⟩ := pp_segs_tag dash tg short _ hw hl hn2
    rw [hn1] at hs
    have hov : pepOfVersion t v = some (pepMk (pepRelease v t) s) := by
      simp only [pepOfVersion, hdv, htt, hl, hs, Option.map_some]
    have hall : (Pat.render v t).all isCanon = true := by
      rw [hrender, hform]
      have hwp := List.all_eq_true.mp pp_canon_tagWords tg hw
      simp only [List.all_append, hplainH, hplainR, pp_canon_dash, hwp, all_canon_digits _ hn2, Bool.and_self]
    have hcore : parseCore (Pat.render v t) = some (pepMk (pepRelease v t) s) := by
      rw [hrender, hform]
      exact pp_parseCore _ _ _ T4 T5 s.1 s.2.1 s.2.2 hH d2 (pp_tailOK_tag dash tg _ hw) g1 g2 g3
    obtain ⟨p1, p2⟩ := pp_parsePep_canon _ hall hdig
    exact ⟨_, hov, by rw [p1, hcore], by rw [p2, hcore]⟩


/-! ### where a rendered tag comes from -/

theorem pp_tagText_src (v : VInfo) : ∀ t : Pat, Pat.vok v t = true → ∀ tg, Pat.tagText v t = some tg →
    (tg = v.tag ∧ "TAG".toList ∈ t.parts ∧ tagOk v = true) ∨ (tg = v.pytag ∧ pytagOk v = true) := by
  intro t
  induction t with
  | done => intro _ tg h; cases h
  | lit c rest ih => intro hv tg h; exact ih hv tg h
  | part n rest ih =>
    intro hv tg h
    simp only [Pat.vok, Bool.and_eq_true] at hv
    cases hn : isTagPart n with
    | true =>
      simp only [Pat.tagText, hn, if_true] at h
      rcases pp_tagPart_text v n hn with ⟨rfl, hx⟩ | ⟨rfl, hx⟩
      · rw [hx] at h
        exact Or.inl ⟨(Option.some.inj h).symm, List.mem_cons_self, hv.1⟩
      · rw [hx] at h
        exact Or.inr ⟨(Option.some.inj h).symm, hv.1⟩
    | false =>
      simp only [Pat.tagText, hn, Bool.false_eq_true, if_false] at h
      rcases ih hv.2 tg h with ⟨h1, h2, h3⟩ | h1
      · exact Or.inl ⟨h1, List.mem_cons_of_mem _ h2, h3⟩
      · exact Or.inr h1
  | opt body rest ihb ihr =>
    intro hv tg h
    simp only [Pat.vok, Bool.and_eq_true, Bool.or_eq_true] at hv
    simp only [Pat.tagText] at h
    cases hz : Pat.allZero v body with
    | true =>
      simp only [hz, if_true] at h
      rcases ihr hv.2 tg h with ⟨h1, h2, h3⟩ | h1
      · exact Or.inl ⟨h1, List.mem_append_right _ h2, h3⟩
      · exact Or.inr h1
    | false =>
      have hvb : Pat.vok v body = true := hv.1.resolve_left (by rw [hz]; exact Bool.false_ne_true)
      simp only [hz, Bool.false_eq_true, if_false] at h
      cases hb : Pat.tagText v body with
      | some t' =>
        rw [hb] at h
        simp only [Option.some.injEq] at h
        subst h
        rcases ihb hvb t' hb with ⟨h1, h2, h3⟩ | h1
        · exact Or.inl ⟨h1, List.mem_append_left _ h2, h3⟩
        · exact Or.inr h1
      | none =>
        rw [hb] at h
        rcases ihr hv.2 tg h with ⟨h1, h2, h3⟩ | h1
        · exact Or.inl ⟨h1, List.mem_append_right _ h2, h3⟩
        · exact Or.inr h1

theorem pp_shortTag_word (t : Str) (h : t ∈ pepShortTags) :
    t ∈ pp_tagWords ∧ lookup t Gen.pep440TagByTag = some t := by
  have htab : pepShortTags.all (fun t => pp_tagWords.contains t && lookup t Gen.pep440TagByTag == some t) = true := by
    decide +kernel
  simpa using List.all_eq_true.mp htab t h

/-- a tree without TAG parts renders only short tags -/
theorem pp_tagsOk_noTAG (v : VInfo) (t : Pat) (hv : Pat.vok v t = true) (hn : "TAG".toList ∉ t.parts) :
    pp_TagsOk v t ∧ ∀ tg, Pat.tagText v t = some tg → tg = v.pytag := by
  refine ⟨?_, ?_⟩
  · intro tg h
    rcases pp_tagText_src v t hv tg h with ⟨_, h2, _⟩ | ⟨h1, h2⟩
    · exact absurd h2 hn
    · have := pp_shortTag_word _ (pytagOk_short v h2)
      rw [h1]
      exact ⟨this.1, _, this.2⟩
  · intro tg h
    rcases pp_tagText_src v t hv tg h with ⟨_, h2, _⟩ | ⟨h1, _⟩
    · exact absurd h2 hn
    · exact h1

/-! ### a numbered tag shows its number -/

theorem pp_numShown_of_tag (v : VInfo) : ∀ t : Pat, Pat.pytagNumbered t = true → "TAG".toList ∉ t.parts →
    ∀ tg, Pat.tagText v t = some tg → Pat.numShown v t = true := by
  intro t
  induction t with
  | done => intro _ _ tg h; cases h
  | lit c rest ih => intro hp hn tg h; exact ih hp hn tg h
  | part n rest ih =>
    intro hp hn tg h
    simp only [Pat.pytagNumbered, Bool.and_eq_true, Bool.or_eq_true, bne_iff_ne, ne_eq] at hp
    simp only [Pat.parts, List.mem_cons, not_or] at hn
    cases ht : isTagPart n with
    | true =>
      rcases pp_tagPart_text v n ht with ⟨rfl, _⟩ | ⟨rfl, _⟩
      · exact absurd rfl hn.1
      · rcases hp.1 with h1 | h1
        · exact absurd rfl h1
        · cases rest with
          | part m r =>
            simp only [beq_iff_eq] at h1
            subst h1
            simp [Pat.numShown]
          | done => cases h1
          | lit _ _ => cases h1
          | opt _ _ => cases h1
    | false =>
      simp only [Pat.tagText, ht, Bool.false_eq_true, if_false] at h
      simp only [Pat.numShown, ih hp.2 (fun e => hn.2 e) tg h, Bool.or_true]
  | opt body rest ihb ihr =>
    intro hp hn tg h
    simp only [Pat.pytagNumbered, Bool.and_eq_true] at hp
    simp only [Pat.parts, List.mem_append, not_or] at hn
    simp only [Pat.tagText] at h
    cases hz : Pat.allZero v body with
    | true =>
      simp only [hz, if_true] at h
      simp only [Pat.numShown, ihr hp.2 hn.2 tg h, Bool.or_true]
    | false =>
      simp only [hz, Bool.false_eq_true, if_false] at h
      cases hb : Pat.tagText v body with
      | some t' =>
        simp only [Pat.numShown, hz, ihb hp.1 hn.1 t' hb, Bool.not_false, Bool.and_self, Bool.true_or]
      | none =>
        rw [hb] at h
        simp only [Pat.numShown, ihr hp.2 hn.2 tg h, Bool.or_true]

theorem pp_pytagNumbered_afterHead (q : Pat) (h : Pat.pytagNumbered q = true) : Pat.pytagNumbered q.afterHead = true :=
  afterHead_of_tail (Pat.pytagNumbered · = true) (fun _ _ h => h)
    (fun n r h => by simp only [Pat.pytagNumbered, Bool.and_eq_true] at h; exact h.2) q h

theorem pp_normal_noTAG (q : Pat) (h : q.parts.all pepNormalPart = true) : "TAG".toList ∉ q.parts := by
  intro hm
  have := List.all_eq_true.mp h _ hm
  revert this
  decide

/-- on a derived tree in normal form the two readings agree -/
theorem pp_ofVersion_eq_ofRecord (q : Pat) (v : VInfo) (hn : Pat.pepNormal q = true) (hs : q.pepParseable = true)
    (hv : Pat.vok v q = true) : pepOfVersion q v = pepOfRecord q v := by
  simp only [Pat.pepNormal, Bool.and_eq_true] at hn
  obtain ⟨⟨⟨_, hN⟩, _⟩, hP⟩ := hn
  have hnt := pp_normal_noTAG _ hN
  have hva := vok_afterHead v q hv
  simp only [Pat.pepParseable, Bool.and_eq_true] at hs
  have hdv := pp_dropV_of_head q hs.1
  cases htt : Pat.tagText v q.afterHead with
  | none => simp only [pepOfVersion, hdv, htt, pepOfRecord, Pat.tagShown, Option.isSome_none, Bool.false_eq_true, if_false]
  | some tg =>
    have h1 := (pp_tagsOk_noTAG v _ hva hnt).2 tg htt
    subst h1
    obtain ⟨_, hl⟩ := pp_shortTag_word v.pytag (by
      rcases pp_tagText_src v _ hva _ htt with ⟨_, h2, _⟩ | ⟨_, h2⟩
      · exact absurd h2 hnt
      · exact pytagOk_short v h2)
    have hns := pp_numShown_of_tag v _ (pp_pytagNumbered_afterHead q hP) hnt _ htt
    simp only [pepOfVersion, hdv, htt, hl, hns, if_true, pepOfRecord, Pat.tagShown, Option.isSome_some]

/-- the text a derived tree renders parses to the version the record denotes -/
theorem pp_derived_parses (q : Pat) (v : VInfo) (hn : Pat.pepNormal q = true) (hs : q.pepParseable = true)
    (hv : Pat.vok v q = true) :
    ∃ ver, pepOfRecord q v = some ver ∧ parsePep (Pat.render v q) = some ver ∧ wfPep ver = true := by
  have hN : q.afterHead.parts.all pepNormalPart = true := by
    simp only [Pat.pepNormal, Bool.and_eq_true] at hn
    exact hn.1.1.2
  obtain ⟨ver, h1, h2, _⟩ := pp_parse_tree v q hs hv
    (pp_tagsOk_noTAG v _ (vok_afterHead v q hv) (pp_normal_noTAG _ hN)).1
  rw [pp_ofVersion_eq_ofRecord q v hn hs hv] at h1
  exact ⟨ver, h1, h2, parsePep_wf _ ver h2⟩



/-! ### the release numbers are the record's field values -/

theorem pp_relComps_names (v : VInfo) : ∀ t : Pat,
    Pat.relComps v t = (Pat.relNames v t).map (fun n => (partText v n).getD n) := by
  intro t
  induction t with
  | done => rfl
  | lit c rest ih => exact ih
  | part n rest ih =>
    simp only [Pat.relComps, Pat.relNames]
    split
    · simp only [List.map_cons, ih]
    · exact ih
  | opt body rest ihb ihr =>
    simp only [Pat.relComps, Pat.relNames, List.map_append, ihr]
    split
    · rfl
    · rw [ihb]

/-- an unpadded part in its domain shows the number of its field -/
theorem pp_normal_val (v : VInfo) (n : Str) (hN : pepNormalPart n = true) (hr : isRelPart n = true)
    (hok : partOk v n = true) : strToNat ((partText v n).getD n) = partNum v n := by
  obtain ⟨t, ht, _⟩ := pp_part_digits v n hr hok
  cases hf : lookup n Gen.partFields with
  | none => simp only [partText, hf] at ht; cases ht
  | some f =>
    rcases part_normal v n f t hN hok hf ht with ⟨h1, _⟩ | ⟨x, h1, h2⟩
    · have := (field_tag n f hf).2 h1
      subst this
      exact absurd hr (by decide)
    · simp only [ht, Option.getD_some, partNum, hf]
      simp only at h1
      rw [h1, strToNat_natToStr]
      rcases h2 with h2 | ⟨h2, h3⟩
      · simp only at h2; rw [h2]
      · simp only at h2
        subst h2
        have : v.get "bid".toList = .str v.bid := rfl
        rw [this, h3]

theorem pp_relVals_fields (v : VInfo) : ∀ t : Pat, t.parts.all pepNormalPart = true → Pat.vok v t = true →
    (Pat.relComps v t).map strToNat = (Pat.relNames v t).map (partNum v) := by
  intro t
  induction t with
  | done => intro _ _; rfl
  | lit c rest ih => intro hN hv; exact ih hN hv
  | part n rest ih =>
    intro hN hv
    simp only [Pat.parts, List.all_cons, Bool.and_eq_true] at hN
    simp only [Pat.vok, Bool.and_eq_true] at hv
    simp only [Pat.relComps, Pat.relNames]
    cases hr : isRelPart n with
    | false => simp only [Bool.false_eq_true, if_false]; exact ih hN.2 hv.2
    | true => simp only [if_true, List.map_cons, pp_normal_val v n hN.1 hr hv.1, ih hN.2 hv.2]
  | opt body rest ihb ihr =>
    intro hN hv
    simp only [Pat.parts, List.all_append, Bool.and_eq_true] at hN
    simp only [Pat.vok, Bool.and_eq_true, Bool.or_eq_true] at hv
    simp only [Pat.relComps, Pat.relNames, List.map_append, ihr hN.2 hv.2]
    cases hz : Pat.allZero v body with
    | true => rfl
    | false =>
      have hvb : Pat.vok v body = true := hv.1.resolve_left (by rw [hz]; exact Bool.false_ne_true)
      simp only [Bool.false_eq_true, if_false, ihb hN.1 hvb]

/-- the content of `pepOfRecord` in terms of the record's fields: the release numbers after the first component are
    the field values of the rendered parts -/
theorem pp_release_fields (q : Pat) (v : VInfo) (hn : Pat.pepNormal q = true) (hv : Pat.vok v q = true) :
    pepRelease v q = strToNat (Pat.render v q.headComp) :: (Pat.relNames v q.afterHead).map (partNum v) := by
  have hN : q.afterHead.parts.all pepNormalPart = true := by
    simp only [Pat.pepNormal, Bool.and_eq_true] at hn
    exact hn.1.1.2
  simp only [pepRelease, List.map_cons, pp_relVals_fields v _ hN (vok_afterHead v q hv)]

/-- … spelled out: what the parser reads from the written text, in terms of the record -/
theorem pp_derived_content (q : Pat) (v : VInfo) (hn : Pat.pepNormal q = true) (hs : q.pepParseable = true)
    (hv : Pat.vok v q = true) :
    ∃ ver, parsePep (Pat.render v q) = some ver ∧ ver.epoch = 0 ∧ ver.loc = none ∧
      ver.release = strToNat (Pat.render v q.headComp) :: (Pat.relNames v q.afterHead).map (partNum v) ∧
      (if q.afterHead.tagShown v = true then pepSegOf v.pytag v.num = some (ver.pre, ver.post, ver.dev)
       else ver.pre = none ∧ ver.post = none ∧ ver.dev = none) := by
  obtain ⟨ver, h1, h2, _⟩ := pp_derived_parses q v hn hs hv
  refine ⟨ver, h2, ?_⟩
  have hrel := pp_release_fields q v hn hv
  unfold pepOfRecord at h1
  split at h1
  · next hsh =>
    cases hseg : pepSegOf v.pytag v.num with
    | none => rw [hseg] at h1; cases h1
    | some s =>
      rw [hseg] at h1
      simp only [Option.map_some, Option.some.injEq] at h1
      subst h1
      simp only [pepMk, hrel, hsh, if_true]
      exact ⟨trivial, trivial, trivial, trivial⟩
  · next hsh =>
    simp only [Option.some.injEq] at h1
    subst h1
    simp only [pepMk, hrel, hsh]
    exact ⟨trivial, trivial, trivial, by simp⟩


/-! ## Part F: the version pattern and its derived tree denote the same version -/

/-! ### substituted part names -/

theorem pp_sim_cases (n m : Str) (h : pepSimName n m = true) :
    n = m ∨ lookup n Gen.pep440PartSubstitutions = some m := by
  simp only [pepSimName, Bool.or_eq_true, beq_iff_eq] at h
  exact h

theorem pp_sim_zero (v : VInfo) (hr : PepReady v) (n m : Str) (h : pepSimName n m = true) :
    partIsZero v m = partIsZero v n := by
  rcases pp_sim_cases n m h with rfl | h
  · rfl
  · exact partIsZero_subst v hr n m h

theorem pp_subst_mem (n m : Str) (h : lookup n Gen.pep440PartSubstitutions = some m) :
    (n, m) ∈ Gen.pep440PartSubstitutions := lookup_mem h

theorem pp_sim_rel (n m : Str) (h : pepSimName n m = true) :
    isRelPart m = isRelPart n ∧ isTailPart m = isTailPart n := by
  rcases pp_sim_cases n m h with rfl | h
  · exact ⟨rfl, rfl⟩
  · have htab : Gen.pep440PartSubstitutions.all (fun nm =>
        isRelPart nm.2 == isRelPart nm.1 && isTailPart nm.2 == isTailPart nm.1) = true := by decide +kernel
    simpa using List.all_eq_true.mp htab _ (pp_subst_mem n m h)

/-- the formats under which a text denotes the number of its value -/
def pp_numFmt : Gen.FmtKind → Bool
  | .str => true
  | .int => true
  | .pad _ => true
  | _ => false

theorem pp_val_fmt (kd : Gen.FmtKind) (h : pp_numFmt kd = true) (fv : FV) :
    strToNat (fmtValue kd fv) = strToNat (fmtValue .str fv) := by
  cases kd with
  | str => rfl
  | int => simp only [fmtValue, strToNat_natToStr]
  | pad w => simp only [fmtValue, strToNat_zfill, strToNat_natToStr]
  | _ => cases h

/-- a substituted release part denotes the same number: it shows the same field, and both formats keep the number -/
theorem pp_sim_val (v : VInfo) (n m : Str) (h : pepSimName n m = true) (hr : isRelPart n = true)
    (hok : partOk v n = true) :
    strToNat ((partText v m).getD m) = strToNat ((partText v n).getD n) := by
  rcases pp_sim_cases n m h with rfl | h
  · rfl
  · have htab : Gen.pep440PartSubstitutions.all (fun nm => nm.1 == "TAG".toList ||
        (lookup nm.2 Gen.partFields == lookup nm.1 Gen.partFields &&
         (lookup nm.1 Gen.partFormats).any pp_numFmt && (lookup nm.2 Gen.partFormats).any pp_numFmt)) = true := by
      decide +kernel
    have hnm := List.all_eq_true.mp htab _ (pp_subst_mem n m h)
    simp only [Bool.or_eq_true, Bool.and_eq_true, beq_iff_eq, Option.any_eq_true] at hnm
    rcases hnm with rfl | ⟨⟨hfm, k1, hk1, hn1⟩, k2, hk2, hn2⟩
    · exact absurd hr (by decide)
    · obtain ⟨t, ht, _⟩ := pp_part_digits v n hr hok
      cases hf : lookup n Gen.partFields with
      | none => simp only [partText, hf] at ht; cases ht
      | some f =>
        rw [hf] at hfm
        have hne : v.get f ≠ .none := by
          intro e
          simp only [partText, hf, hk1, e] at ht
          cases ht
        have key : ∀ (p : Str) (k : Gen.FmtKind), lookup p Gen.partFields = some f →
            lookup p Gen.partFormats = some k → pp_numFmt k = true →
            strToNat ((partText v p).getD p) = strToNat (fmtValue .str (v.get f)) := by
          intro p k hpf hpk hk
          -- `simp` takes the second branch of the `match` in `partText` by `hne`
          have : partText v p = some (fmtValue k (v.get f)) := by simp only [partText, hpf, hpk]
          rw [this, Option.getD_some, pp_val_fmt k hk]
        rw [key m k2 hfm hk2 hn2, key n k1 hf hk1 hn1]

/-! ### skeletons -/

theorem pp_allZero_skelIn (v : VInfo) : ∀ t : Pat, Pat.allZero v t.skelIn = Pat.allZero v t := by
  intro t
  induction t with
  | done => rfl
  | lit c rest ih => exact ih
  | part n rest ih => simp only [Pat.skelIn, Pat.allZero, ih]
  | opt body rest ihb ihr => simp only [Pat.skelIn, Pat.allZero, ihb, ihr]

theorem pp_relComps_skelIn (v : VInfo) : ∀ t : Pat, Pat.relComps v t.skelIn = Pat.relComps v t := by
  intro t
  induction t with
  | done => rfl
  | lit c rest ih => exact ih
  | part n rest ih => simp only [Pat.skelIn, Pat.relComps, ih]
  | opt body rest ihb ihr => simp only [Pat.skelIn, Pat.relComps, ihb, ihr, pp_allZero_skelIn]

theorem pp_vok_skelIn (v : VInfo) : ∀ t : Pat, Pat.vok v t.skelIn = Pat.vok v t := by
  intro t
  induction t with
  | done => rfl
  | lit c rest ih => exact ih
  | part n rest ih => simp only [Pat.skelIn, Pat.vok, ih]
  | opt body rest ihb ihr => simp only [Pat.skelIn, Pat.vok, ihb, ihr, pp_allZero_skelIn]

/-- a tree made of tag / number parts has no release component -/
theorem pp_relComps_tailOnly (v : VInfo) : ∀ t : Pat, t.parts.all isTailPart = true → Pat.relComps v t = [] := by
  intro t
  induction t with
  | done => intro _; rfl
  | lit c rest ih => intro h; exact ih h
  | part n rest ih =>
    intro h
    simp only [Pat.parts, List.all_cons, Bool.and_eq_true] at h
    have : isRelPart n = false := by
      simp only [isRelPart, h.1, Bool.not_true, Bool.and_false]
    simp only [Pat.relComps, this, Bool.false_eq_true, if_false]
    exact ih h.2
  | opt body rest ihb ihr =>
    intro h
    simp only [Pat.parts, List.all_append, Bool.and_eq_true] at h
    simp only [Pat.relComps, ihb h.1, ihr h.2, ite_self, List.append_nil]

theorem pp_relComps_skelTop (v : VInfo) : ∀ t : Pat, Pat.relComps v t.skelTop = Pat.relComps v t := by
  intro t
  induction t with
  | done => rfl
  | lit c rest ih => exact ih
  | part n rest ih => simp only [Pat.skelTop, Pat.relComps, ih]
  | opt body rest _ ihr =>
    simp only [Pat.skelTop]
    split
    · next h => simp only [Pat.relComps, pp_relComps_tailOnly v body h, ite_self, List.nil_append, ihr]
    · simp only [Pat.relComps, pp_relComps_skelIn, pp_allZero_skelIn, ihr]

theorem pp_vok_skelTop (v : VInfo) : ∀ t : Pat, Pat.vok v t = true → Pat.vok v t.skelTop = true := by
  intro t
  induction t with
  | done => intro _; rfl
  | lit c rest ih => exact ih
  | part n rest ih =>
    intro h
    simp only [Pat.vok, Bool.and_eq_true] at h
    simp only [Pat.skelTop, Pat.vok, Bool.and_eq_true]
    exact ⟨h.1, ih h.2⟩
  | opt body rest _ ihr =>
    intro h
    simp only [Pat.vok, Bool.and_eq_true] at h
    simp only [Pat.skelTop]
    split
    · exact ihr h.2
    · simp only [Pat.vok, Bool.and_eq_true, pp_allZero_skelIn, pp_vok_skelIn]
      exact ⟨h.1, ihr h.2⟩

/-! ### the same skeleton up to substituted names -/

theorem pp_allZero_sim (v : VInfo) (hr : PepReady v) : ∀ a b : Pat, Pat.pepSim a b = true →
    Pat.allZero v b = Pat.allZero v a := by
  intro a b
  fun_induction Pat.pepSim a b with
  | case1 => intro _; rfl
  | case2 n r1 m r2 ih =>
    intro h
    simp only [Bool.and_eq_true] at h
    simp only [Pat.allZero, pp_sim_zero v hr n m h.1, ih h.2]
  | case3 b1 r1 b2 r2 ihb ihr =>
    intro h
    simp only [Bool.and_eq_true] at h
    simp only [Pat.allZero, ihb h.1, ihr h.2]
  | case4 a b _ _ _ => intro h; cases h

theorem pp_relVals_sim (v : VInfo) (hr : PepReady v) : ∀ a b : Pat, Pat.pepSim a b = true → Pat.vok v a = true →
    (Pat.relComps v b).map strToNat = (Pat.relComps v a).map strToNat := by
  intro a b
  fun_induction Pat.pepSim a b with
  | case1 => intro _ _; rfl
  | case2 n r1 m r2 ih =>
    intro h hv
    simp only [Bool.and_eq_true] at h
    simp only [Pat.vok, Bool.and_eq_true] at hv
    simp only [Pat.relComps, (pp_sim_rel n m h.1).1]
    cases hrel : isRelPart n with
    | false => simp only [Bool.false_eq_true, if_false]; exact ih h.2 hv.2
    | true =>
      simp only [if_true, List.map_cons, pp_sim_val v n m h.1 hrel hv.1, ih h.2 hv.2]
  | case3 b1 r1 b2 r2 ihb ihr =>
    intro h hv
    simp only [Bool.and_eq_true] at h
    simp only [Pat.vok, Bool.and_eq_true, Bool.or_eq_true] at hv
    simp only [Pat.relComps, pp_allZero_sim v hr b1 b2 h.1, List.map_append, ihr h.2 hv.2]
    cases hz : Pat.allZero v b1 with
    | true => rfl
    | false =>
      have hvb : Pat.vok v b1 = true := hv.1.resolve_left (by rw [hz]; exact Bool.false_ne_true)
      simp only [Bool.false_eq_true, if_false, ihb h.1 hvb]
  | case4 a b _ _ _ => intro h; cases h

/-! ### the first component -/

/-- the texts of a list of parts, one after the other -/
def pp_cat (v : VInfo) : List Str → Str
  | [] => []
  | n :: ns => (partText v n).getD n ++ pp_cat v ns

theorem pp_render_cat (v : VInfo) (h : Pat) (hh : Pat.pepHead h = true) : Pat.render v h = pp_cat v h.parts := by
  fun_induction Pat.pepHead h with
  | case1 n => rfl
  | case2 n rest _ ih =>
    simp only [Bool.and_eq_true] at hh
    simp only [Pat.render, Pat.parts, pp_cat, ih hh.2]
  | case3 t h1 h2 => cases hh

theorem pp_head_parts (v : VInfo) (h : Pat) (hh : Pat.pepHead h = true) (hv : Pat.vok v h = true) :
    ∀ n ∈ h.parts, partOk v n = true ∧ isRelPart n = true := by
  fun_induction Pat.pepHead h with
  | case1 n =>
    intro n' hn'
    simp only [Pat.parts, List.mem_cons, List.not_mem_nil, or_false] at hn'
    subst hn'
    simp only [Pat.vok, Bool.and_true] at hv
    exact ⟨hv, hh⟩
  | case2 n rest _ ih =>
    intro n' hn'
    simp only [Bool.and_eq_true] at hh
    simp only [Pat.vok, Bool.and_eq_true] at hv
    simp only [Pat.parts, List.mem_cons] at hn'
    rcases hn' with rfl | hn'
    · exact ⟨hv.1, hh.1⟩
    · exact ih hh.2 hv.2 n' hn'
  | case3 t h1 h2 => cases hh

/-- aligned first components denote the same number -/
theorem pp_head_val (v : VInfo) (a b : Pat) (ha : Pat.pepHead a = true) (hb : Pat.pepHead b = true)
    (hal : pepHeadAligned a.parts b.parts = true) (hv : Pat.vok v a = true) :
    strToNat (Pat.render v b) = strToNat (Pat.render v a) := by
  rw [pp_render_cat v a ha, pp_render_cat v b hb]
  have hp := pp_head_parts v a ha hv
  cases hpa : a.parts with
  | nil => rw [hpa] at hal; cases hal
  | cons n ns =>
    cases hpb : b.parts with
    | nil => rw [hpa, hpb] at hal; cases hal
    | cons m ms =>
      rw [hpa, hpb] at hal
      simp only [pepHeadAligned, Bool.and_eq_true, beq_iff_eq] at hal
      obtain ⟨hs, rfl⟩ := hal
      obtain ⟨hok, hrel⟩ := hp n (by rw [hpa]; exact List.mem_cons_self)
      simp only [pp_cat, strToNat_append, pp_sim_val v n m hs hrel hok]

/-! ### the tag: when it is rendered -/

theorem pp_allZero_false (v : VInfo) (n : Str) (hz : partIsZero v n = false) : ∀ t : Pat, n ∈ t.parts →
    Pat.allZero v t = false := by
  intro t
  induction t with
  | done => intro h; cases h
  | lit c rest ih => intro h; exact ih h
  | part m rest ih =>
    intro h
    simp only [Pat.parts, List.mem_cons] at h
    rcases h with rfl | h
    · simp only [Pat.allZero, hz, Bool.false_and]
    · simp only [Pat.allZero, ih h, Bool.and_false]
  | opt body rest ihb ihr =>
    intro h
    simp only [Pat.parts, List.mem_append] at h
    rcases h with h | h
    · simp only [Pat.allZero, ihb h, Bool.false_and]
    · simp only [Pat.allZero, ihr h, Bool.and_false]

/-- a tree with a tag part renders a tag when the tag parts are not zero (the release is not final) -/
theorem pp_tag_shown (v : VInfo) (hz : ∀ n, isTagPart n = true → partIsZero v n = false) : ∀ t : Pat,
    (∃ n, n ∈ t.parts ∧ isTagPart n = true) → (Pat.tagText v t).isSome = true := by
  intro t
  induction t with
  | done => rintro ⟨n, h, _⟩; cases h
  | lit c rest ih => intro h; exact ih h
  | part m rest ih =>
    rintro ⟨n, hn, ht⟩
    cases hm : isTagPart m with
    | true =>
      simp only [Pat.tagText, hm, if_true]
      rcases pp_tagPart_text v m hm with ⟨_, hx⟩ | ⟨_, hx⟩ <;> rw [hx] <;> rfl
    | false =>
      simp only [Pat.tagText, hm, Bool.false_eq_true, if_false]
      simp only [Pat.parts, List.mem_cons] at hn
      rcases hn with rfl | hn
      · rw [ht] at hm; cases hm
      · exact ih ⟨n, hn, ht⟩
  | opt body rest ihb ihr =>
    rintro ⟨n, hn, ht⟩
    simp only [Pat.parts, List.mem_append] at hn
    simp only [Pat.tagText]
    rcases hn with hn | hn
    · have h1 := pp_allZero_false v n (hz n ht) body hn
      have h2 := ihb ⟨n, hn, ht⟩
      simp only [h1, Bool.false_eq_true, if_false]
      cases hb : Pat.tagText v body with
      | none => rw [hb] at h2; cases h2
      | some t' => rfl
    · have h2 := ihr ⟨n, hn, ht⟩
      split
      · rfl
      · exact h2

/-- a final release renders no tag: a TAG sits in a group of tag / number parts, which is all zero, and a PYTAG
    that is rendered is not empty -/
theorem pp_final_noTag (v : VInfo) (hr : PepReady v) (hf : v.tag = "final".toList) : ∀ t : Pat,
    Pat.tagGuarded t = true → Pat.vok v t = true → Pat.tagText v t = none := by
  have hpy : v.pytag = [] := (pepTag_empty_iff _ _ hr.img).2 hf
  intro t
  induction t with
  | done => intro _ _; rfl
  | lit c rest ih => intro hg hv; exact ih hg hv
  | part n rest ih =>
    intro hg hv
    simp only [Pat.tagGuarded, Bool.and_eq_true, bne_iff_ne, ne_eq] at hg
    simp only [Pat.vok, Bool.and_eq_true] at hv
    cases hn : isTagPart n with
    | true =>
      rcases pp_tagPart_text v n hn with ⟨rfl, _⟩ | ⟨rfl, _⟩
      · exact absurd rfl hg.1
      · have hok : pytagOk v = true := hv.1
        simp only [pytagOk, Bool.and_eq_true, Bool.not_eq_true', List.isEmpty_eq_false_iff] at hok
        exact absurd hpy hok.2
    | false =>
      simp only [Pat.tagText, hn, Bool.false_eq_true, if_false]
      exact ih hg.2 hv.2
  | opt body rest ihb ihr =>
    intro hg hv
    simp only [Pat.tagGuarded, Bool.and_eq_true, Bool.or_eq_true, List.all_eq_true] at hg
    simp only [Pat.vok, Bool.and_eq_true, Bool.or_eq_true] at hv
    simp only [Pat.tagText]
    cases hz : Pat.allZero v body with
    | true => simp only [if_true]; exact ihr hg.2 hv.2
    | false =>
      have hvb : Pat.vok v body = true := hv.1.resolve_left (by rw [hz]; exact Bool.false_ne_true)
      rcases hg.1 with hall | hgb
      · have : Pat.allZero v body = true := by
          apply allZero_of_parts v body
          intro n hn
          have := hall n hn
          simp only [isTailPart, Bool.or_eq_true, beq_iff_eq] at this
          rcases this with (rfl | rfl) | rfl
          · rw [partIsZero_TAG, hf]; rfl
          · rw [partIsZero_PYTAG, hpy]; rfl
          · rw [partIsZero_NUM, hr.num hf]; rfl
        rw [hz] at this; cases this
      · simp only [Bool.false_eq_true, if_false, ihb hgb hvb]
        exact ihr hg.2 hv.2

/-! ### the release number: rendered, or 0 -/

theorem pp_numTail_shown (v : VInfo) (t : Pat) (ht : Pat.isNumTail t = true) (hm : "NUM".toList ∈ t.parts) :
    Pat.numShown v t = true ∨ v.num = 0 := by
  rcases pp_numTail_cases t ht with rfl | rfl | rfl
  · cases hm
  · exact Or.inl rfl
  · by_cases h : v.num = 0
    · exact Or.inr h
    · left
      simp only [Pat.numShown, Pat.allZero, partIsZero_NUM, h, decide_false, Bool.and_true, Bool.not_false,
        beq_self_eq_true, Bool.or_false, Bool.and_self]

theorem pp_noTail_noNum (t : Pat) (hn : t.hasTailPart = false) : "NUM".toList ∉ t.parts := by
  intro hm
  simp only [Pat.hasTailPart, List.any_eq_false] at hn
  exact hn _ hm (by decide)

/-- when the tag is rendered and the pattern has a NUM part, the release number is rendered too, or it is 0 -/
theorem pp_num_shown (v : VInfo) (t : Pat) (ht : Pat.pepTailShape t = true) :
    ∀ tg, Pat.tagText v t = some tg → "NUM".toList ∈ t.parts → Pat.numShown v t = true ∨ v.num = 0 := by
  fun_induction Pat.pepTailShape t with
  | case1 => intro tg h; cases h
  | case2 c n rest hc ih =>
    intro tg h hm
    simp only [Bool.and_eq_true] at ht
    simp only [Pat.tagText, pp_relPart_not_tag n ht.1, Bool.false_eq_true, if_false] at h
    simp only [Pat.parts, List.mem_cons] at hm
    rcases hm with rfl | hm
    · exact absurd ht.1 (by decide)
    · rcases ih ht.2 tg h hm with h' | h'
      · exact Or.inl (by simp only [Pat.numShown, h', Bool.or_true])
      · exact Or.inr h'
  | case3 c n rest hc =>
    intro tg h hm
    simp only [Bool.and_eq_true] at ht
    simp only [Pat.parts, List.mem_cons] at hm
    rcases hm with rfl | hm
    · exact absurd ht.1.2 (by decide)
    · rcases pp_numTail_shown v rest ht.2 hm with h' | h'
      · exact Or.inl (by simp only [Pat.numShown, h', Bool.or_true])
      · exact Or.inr h'
  | case4 n rest =>
    intro tg h hm
    simp only [Bool.and_eq_true] at ht
    simp only [Pat.parts, List.mem_cons] at hm
    rcases hm with rfl | hm
    · exact absurd ht.1 (by decide)
    · rcases pp_numTail_shown v rest ht.2 hm with h' | h'
      · exact Or.inl (by simp only [Pat.numShown, h', Bool.or_true])
      · exact Or.inr h'
  | case5 body rest ihb ihr =>
    intro tg h hm
    simp only [Bool.and_eq_true, Bool.or_eq_true, Bool.not_eq_true'] at ht
    simp only [Pat.parts, List.mem_append] at hm
    simp only [Pat.tagText] at h
    rcases ht.2 with hnt | hd
    · obtain ⟨_, b2, _⟩ := pp_noTail v body ht.1.1 hnt
      simp only [b2, ite_self] at h
      rcases hm with hm | hm
      · exact absurd hm (pp_noTail_noNum body hnt)
      · rcases ihr ht.1.2 tg h hm with h' | h'
        · exact Or.inl (by simp only [Pat.numShown, h', Bool.or_true])
        · exact Or.inr h'
    · cases rest with
      | done =>
        cases hz : Pat.allZero v body with
        | true => simp only [hz, if_true, Pat.tagText] at h; cases h
        | false =>
          simp only [hz, Bool.false_eq_true, if_false] at h
          rcases hm with hm | hm
          · cases hb : Pat.tagText v body with
            | none => rw [hb] at h; cases h
            | some t' =>
              rcases ihb ht.1.1 t' hb hm with h' | h'
              · exact Or.inl (by simp only [Pat.numShown, hz, h', Bool.not_false, Bool.and_self, Bool.true_or])
              · exact Or.inr h'
          · cases hm
      | lit _ _ => cases hd
      | part _ _ => cases hd
      | opt _ _ => cases hd
  | case6 t h1 h2 h3 h4 => cases ht

/-! ### parts of the two halves of a tree -/

theorem pp_parts_head_after : ∀ t : Pat, t.parts = t.headComp.parts ++ t.afterHead.parts := by
  intro t
  induction t with
  | done => rfl
  | lit c rest ih =>
    simp only [Pat.headComp, Pat.afterHead]
    split
    · rfl
    · exact ih
  | part n rest ih => simp only [Pat.headComp, Pat.afterHead, Pat.parts, ih, List.cons_append]
  | opt body rest _ _ => rfl

theorem pp_parts_dropV (p : Pat) : p.dropV.parts = p.parts := by
  rcases dropV_cases p with e | e
  · rw [e]
  · exact (congrArg Pat.parts e).symm

/-- a tag or number part of a tree with a release-only first component sits after it -/
theorem pp_mem_afterHead (v : VInfo) (t : Pat) (hh : Pat.pepHead t.headComp = true)
    (hv : Pat.vok v t = true) (n : Str) (hn : n ∈ t.parts) (hr : isRelPart n = false) : n ∈ t.afterHead.parts := by
  rw [pp_parts_head_after t, List.mem_append] at hn
  rcases hn with hn | hn
  · have := (pp_head_parts v _ hh (pp_vok_headComp v t hv) n hn).2
    rw [hr] at this; cases this
  · exact hn

theorem pp_tagGuarded_afterHead (t : Pat) (h : Pat.tagGuarded t = true) : Pat.tagGuarded t.afterHead = true :=
  afterHead_of_tail (Pat.tagGuarded · = true) (fun _ _ h => h)
    (fun n r h => by simp only [Pat.tagGuarded, Bool.and_eq_true] at h; exact h.2) t h

theorem pp_tagGuarded_noTAG : ∀ t : Pat, "TAG".toList ∉ t.parts → Pat.tagGuarded t = true := by
  intro t
  induction t with
  | done => intro _; rfl
  | lit c rest ih => intro h; exact ih h
  | part n rest ih =>
    intro h
    simp only [Pat.parts, List.mem_cons, not_or] at h
    simp only [Pat.tagGuarded, Bool.and_eq_true, bne_iff_ne, ne_eq]
    exact ⟨fun e => h.1 e.symm, ih h.2⟩
  | opt body rest ihb ihr =>
    intro h
    simp only [Pat.parts, List.mem_append, not_or] at h
    simp only [Pat.tagGuarded, Bool.and_eq_true, Bool.or_eq_true]
    exact ⟨Or.inr (ihb h.1), ihr h.2⟩

/-! ### the version string parses -/

theorem pp_render_dropV (v : VInfo) (p : Pat) :
    Pat.render v p = Pat.render v p.dropV ∨ Pat.render v p = 'v' :: Pat.render v p.dropV :=
  (dropV_cases p).imp (fun e => by rw [e]) (fun e => congrArg (Pat.render v) e)

theorem pp_longTag_word (v : VInfo) (hr : PepReady v) (hnf : v.tag ≠ "final".toList) :
    v.tag ∈ pp_tagWords ∧ lookup v.tag Gen.pep440TagByTag = some v.pytag := by
  have htab : Gen.validReleaseTagValues.all (fun t => t == "final".toList || pp_tagWords.contains t) = true := by
    decide +kernel
  have := List.all_eq_true.mp htab _ (List.contains_iff_mem.mp hr.tag)
  simp only [Bool.or_eq_true, beq_iff_eq, List.contains_iff_mem] at this
  exact ⟨this.resolve_left hnf, hr.img⟩

/-- the tags a guarded version pattern renders are tag words whose short form is `pytag` -/
theorem pp_tags_version (v : VInfo) (hr : PepReady v) (t : Pat) (hg : Pat.tagGuarded t = true)
    (hv : Pat.vok v t = true) :
    ∀ tg, Pat.tagText v t = some tg → tg ∈ pp_tagWords ∧ lookup tg Gen.pep440TagByTag = some v.pytag := by
  intro tg h
  have hnf : v.tag ≠ "final".toList := by
    intro hf
    rw [pp_final_noTag v hr hf t hg hv] at h
    cases h
  rcases pp_tagText_src v t hv tg h with ⟨h1, _, _⟩ | ⟨h1, h2⟩
  · rw [h1]; exact pp_longTag_word v hr hnf
  · rw [h1]; exact pp_shortTag_word _ (pytagOk_short v h2)

/-- the ORIGINAL version string parses to the version the record denotes under the version pattern -/
theorem pp_version_parses (p : Pat) (v : VInfo) (hs : p.dropV.pepParseable = true) (hg : p.tagGuarded = true)
    (hv : Pat.vok v p = true) (hr : pepReady v = true) :
    ∃ ver, pepOfVersion p v = some ver ∧ parsePep (Pat.render v p) = some ver ∧ wfPep ver = true := by
  have hr' := (pepReady_iff v).1 hr
  have hvt := vok_dropV v p hv
  have hgt := tagGuarded_dropV p hg
  have htags := pp_tags_version v hr' _ (pp_tagGuarded_afterHead _ hgt) (vok_afterHead v _ hvt)
  obtain ⟨ver, h1, h2, h3⟩ := pp_parse_tree v p.dropV hs hvt (fun tg h => ⟨(htags tg h).1, _, (htags tg h).2⟩)
  have hh : Pat.pepHead p.dropV.headComp = true := by
    simp only [Pat.pepParseable, Bool.and_eq_true] at hs
    exact hs.1
  have hov : pepOfVersion p v = pepOfVersion p.dropV v := by
    simp only [pepOfVersion, pp_dropV_of_head _ hh]
  rw [← hov] at h1
  rcases pp_render_dropV v p with e | e
  · rw [← e] at h2
    exact ⟨ver, h1, h2, parsePep_wf _ ver h2⟩
  · rw [← e] at h3
    exact ⟨ver, h1, h3, parsePep_wf _ ver h3⟩

/-! ### the version pattern and its derived tree denote the same version -/

theorem pp_tagZero_nonfinal (v : VInfo) (hr : PepReady v) (hnf : v.tag ≠ "final".toList) :
    ∀ n, isTagPart n = true → partIsZero v n = false := by
  intro n hn
  simp only [isTagPart, Bool.or_eq_true, beq_iff_eq] at hn
  rcases hn with rfl | rfl
  · rw [partIsZero_TAG]; exact beq_eq_false_iff_ne.2 hnf
  · rw [partIsZero_PYTAG]
    exact beq_eq_false_iff_ne.2 (fun e => hnf ((pepTag_empty_iff _ _ hr.img).1 e))

/-- under the static relation `Pat.pepShaped` and for a coherent record, the version pattern and its derived
    tree denote THE SAME version -/
theorem pp_version_eq (p : Pat) (v : VInfo) (hs : p.pepShaped = true) (hv : Pat.vok v p = true)
    (hr : pepReady v = true) (hc : pepCoherent p v = true) : pepOfVersion p v = pepOfRecord p.toPep v := by
  have hr' := (pepReady_iff v).1 hr
  simp only [Pat.pepShaped, Bool.and_eq_true] at hs
  obtain ⟨⟨⟨⟨⟨⟨hst, hg⟩, hsq⟩, hnq⟩, hal⟩, hsim⟩, hpy⟩ := hs
  have hvt := vok_dropV v p hv
  have hvq := vok_toPep_guarded p v hv hr' hg
  simp only [Pat.pepParseable, Bool.and_eq_true] at hst hsq
  have hNq : p.toPep.afterHead.parts.all pepNormalPart = true := by
    simp only [Pat.pepNormal, Bool.and_eq_true] at hnq
    exact hnq.1.1.2
  have hntq := pp_normal_noTAG _ hNq
  -- the release numbers
  have hrel : pepRelease v p.toPep = pepRelease v p.dropV := by
    simp only [pepRelease, List.map_cons]
    rw [pp_head_val v _ _ hst.1 hsq.1 hal (pp_vok_headComp v _ hvt)]
    rw [← pp_relComps_skelTop v p.toPep.afterHead, ← pp_relComps_skelTop v p.dropV.afterHead]
    rw [pp_relVals_sim v hr' _ _ hsim (pp_vok_skelTop v _ (vok_afterHead v _ hvt))]
  have hdv := pp_dropV_of_head _ hst.1
  by_cases hf : v.tag = "final".toList
  · -- a final release: no tag on either side
    have hA := pp_final_noTag v hr' hf _ (pp_tagGuarded_afterHead _ (tagGuarded_dropV p hg)) (vok_afterHead v _ hvt)
    have hB := pp_final_noTag v hr' hf _ (pp_tagGuarded_noTAG _ hntq) (vok_afterHead v _ hvq)
    simp only [pepOfVersion, hA, pepOfRecord, Pat.tagShown, hB, Option.isSome_none, Bool.false_eq_true, if_false, hrel]
  · -- a tagged release
    have hz := pp_tagZero_nonfinal v hr' hf
    simp only [pepCoherent, Bool.and_eq_true, Bool.or_eq_true, beq_iff_eq, List.any_eq_true,
      List.contains_iff_mem] at hc
    obtain ⟨n, hn, hnt⟩ : ∃ n, n ∈ p.parts ∧ isTagPart n = true := by
      rcases hc.1 with h | h
      · exact h
      · exact absurd h hf
    have hn' : n ∈ p.dropV.afterHead.parts :=
      pp_mem_afterHead v _ hst.1 hvt n (by rw [pp_parts_dropV]; exact hn) (pp_isTag_not_rel n hnt)
    have hA := pp_tag_shown v hz _ ⟨n, hn', hnt⟩
    have hB := pp_tag_shown v hz p.toPep.afterHead ⟨"PYTAG".toList, by simpa using hpy, by decide⟩
    cases hta : Pat.tagText v p.dropV.afterHead with
    | none => rw [hta] at hA; cases hA
    | some tg =>
      have hl := (pp_tags_version v hr' _ (pp_tagGuarded_afterHead _ (tagGuarded_dropV p hg))
        (vok_afterHead v _ hvt) tg hta).2
      have hnum : (if Pat.numShown v p.dropV.afterHead = true then v.num else 0) = v.num := by
        rcases hc.2 with hm | h0
        · have hm' : "NUM".toList ∈ p.dropV.afterHead.parts :=
            pp_mem_afterHead v _ hst.1 hvt _ (by rw [pp_parts_dropV]; exact hm) (by decide)
          rcases pp_num_shown v _ hst.2 tg hta hm' with h' | h'
          · rw [if_pos h']
          · split
            · rfl
            · exact h'.symm
        · split
          · rfl
          · exact h0.symm
      simp only [pepOfVersion, hta, hl, hnum, pepOfRecord, Pat.tagShown, hB, if_true, hrel]

/-- the ORIGINAL version string and the text written for `{pep440_version}` parse to THE SAME version -/
theorem pp_version_parses_equal (p : Pat) (v : VInfo) (hs : p.pepShaped = true) (hv : Pat.vok v p = true)
    (hr : pepReady v = true) (hc : pepCoherent p v = true) :
    ∃ ver, pepOfRecord p.toPep v = some ver ∧ parsePep (Pat.render v p.toPep) = some ver ∧
      parsePep (Pat.render v p) = some ver ∧ wfPep ver = true := by
  have heq := pp_version_eq p v hs hv hr hc
  simp only [Pat.pepShaped, Bool.and_eq_true] at hs
  obtain ⟨⟨⟨⟨⟨⟨hst, hg⟩, hsq⟩, hnq⟩, _⟩, _⟩, _⟩ := hs
  obtain ⟨ver, h1, h2, h3⟩ := pp_version_parses p v hst hg hv hr
  obtain ⟨ver', g1, g2, _⟩ := pp_derived_parses p.toPep v hnq hsq (vok_toPep_guarded p v hv ((pepReady_iff v).1 hr) hg)
  rw [heq, g1] at h1
  have hvv : ver' = ver := Option.some.inj h1
  subst hvv
  exact ⟨ver', g1, g2, h2, h3⟩

end BV
