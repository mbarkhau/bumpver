/-
  Proofs/V2Lemmas.lean — lemmas about Model/V2Version.lean: `getattr`/`_replace` by field name, the
  `_replace(**reset_items)` fold, `_iter_reset_field_items`, `_reset_rollover_fields`, the calendar guard,
  the flags of `_format_segment`, `_incr_numeric` in stages, the error of `_parse_segtree`.
-/
import BumpverVerif.Model.V2Version
import BumpverVerif.Proofs.Digits
namespace BV

/-! ### field names: `getattr` / `_replace` dispatch on the NAME of the field -/

theorem ofList_beq (f : Str) (s : String) : (String.ofList f == s) = decide (f = s.toList) := by
  by_cases h : f = s.toList
  · subst h; simp
  · simp [h]
    intro h2; apply h; rw [← h2]; simp

theorem ite_apply_eq {α β : Type} (g : α → β) {c : Prop} [Decidable c] {a b : α} {r : β}
    (h1 : c → g a = r) (h2 : ¬ c → g b = r) : g (if c then a else b) = r := by
  by_cases hc : c
  · rw [if_pos hc]; exact h1 hc
  · rw [if_neg hc]; exact h2 hc

/-- `_replace(g=n)` does not change what `getattr(·, f)` sees for another name `f` -/
theorem get_setNat_ne (v : VInfo) (f g : Str) (n : Nat) (h : g ≠ f) :
    (v.setNat g n).get f = v.get f := by
  have hf : ∀ k : String, g = k.toList → ¬ f = k.toList := fun _ e e' => h (e.trans e'.symm)
  unfold VInfo.setNat
  simp only [ofList_beq, decide_eq_true_eq]
  iterate 6
    refine ite_apply_eq (VInfo.get · f) (fun hg => ?_) (fun _ => ?_)
    · unfold VInfo.get; simp only [ofList_beq, decide_eq_true_eq, hf _ hg, ↓reduceIte]
  rfl

/-- the six rows of the generated `V2_FIELD_INITIAL_VALUES` -/
theorem lookup_init_cases (f init : Str) (h : lookup f Gen.fieldInitialValues = some init) :
    (f = "major".toList ∧ init = "0".toList) ∨ (f = "minor".toList ∧ init = "0".toList) ∨
    (f = "patch".toList ∧ init = "0".toList) ∨ (f = "num".toList ∧ init = "0".toList) ∨
    (f = "inc0".toList ∧ init = "0".toList) ∨ (f = "inc1".toList ∧ init = "1".toList) := by
  simp only [Gen.fieldInitialValues, lookup] at h
  by_cases e : f = "major".toList
  · rw [if_pos e] at h; exact .inl ⟨e, (Option.some.inj h).symm⟩
  rw [if_neg e] at h; clear e
  by_cases e : f = "minor".toList
  · rw [if_pos e] at h; exact .inr (.inl ⟨e, (Option.some.inj h).symm⟩)
  rw [if_neg e] at h; clear e
  by_cases e : f = "patch".toList
  · rw [if_pos e] at h; exact .inr (.inr (.inl ⟨e, (Option.some.inj h).symm⟩))
  rw [if_neg e] at h; clear e
  by_cases e : f = "num".toList
  · rw [if_pos e] at h; exact .inr (.inr (.inr (.inl ⟨e, (Option.some.inj h).symm⟩)))
  rw [if_neg e] at h; clear e
  by_cases e : f = "inc0".toList
  · rw [if_pos e] at h; exact .inr (.inr (.inr (.inr (.inl ⟨e, (Option.some.inj h).symm⟩))))
  rw [if_neg e] at h; clear e
  by_cases e : f = "inc1".toList
  · rw [if_pos e] at h; exact .inr (.inr (.inr (.inr (.inr ⟨e, (Option.some.inj h).symm⟩))))
  rw [if_neg e] at h
  cases h

theorem get_setNat_same (v : VInfo) (f init : Str) (n : Nat)
    (h : lookup f Gen.fieldInitialValues = some init) : (v.setNat f n).get f = .nat n := by
  rcases lookup_init_cases f init h with ⟨e, _⟩ | ⟨e, _⟩ | ⟨e, _⟩ | ⟨e, _⟩ | ⟨e, _⟩ | ⟨e, _⟩ <;>
    (subst e; rfl)

/-! ### the `_replace(**reset_items)` fold -/

/-- `cur_vinfo._replace(**reset_items)` -/
def applyItems (items : List (Str × Str)) (v : VInfo) : VInfo :=
  items.foldl (fun (v : VInfo) (fi : Str × Str) => v.setNat fi.1 (strToNat fi.2)) v

theorem applyItems_get (f : Str) : ∀ (items : List (Str × Str)) (v : VInfo),
    (∀ fi ∈ items, lookup fi.1 Gen.fieldInitialValues = some fi.2) →
    (applyItems items v).get f =
      (match lookup f Gen.fieldInitialValues with
       | some init => if items.any (fun fi => fi.1 == f) then FV.nat (strToNat init) else v.get f
       | none => v.get f) := by
  intro items
  induction items with
  | nil =>
    intro v _
    simp only [applyItems, List.foldl_nil, List.any_nil]
    split <;> simp
  | cons gi rest ih =>
    intro v hall
    have hg := hall gi (List.mem_cons_self)
    have hrest : ∀ fi ∈ rest, lookup fi.1 Gen.fieldInitialValues = some fi.2 :=
      fun fi hfi => hall fi (List.mem_cons_of_mem _ hfi)
    have hstep : applyItems (gi :: rest) v = applyItems rest (v.setNat gi.1 (strToNat gi.2)) := rfl
    rw [hstep, ih _ hrest]
    by_cases hgf : gi.1 = f
    · rw [← hgf, hg]
      simp only [List.any_cons, beq_self_eq_true, Bool.true_or, ↓reduceIte]
      rw [get_setNat_same v gi.1 gi.2 _ hg]
      split <;> rfl
    · rw [get_setNat_ne v f gi.1 _ hgf]
      have : (gi.1 == f) = false := by simpa using hgf
      simp only [List.any_cons, this, Bool.false_or]

/-! ### `_iter_reset_field_items` -/

theorem resetItemsGo_mem (old cur : VInfo) : ∀ (fs : List Str) (hr : Bool) (fi : Str × Str),
    fi ∈ resetItemsGo old cur hr fs →
    lookup fi.1 Gen.fieldInitialValues = some fi.2 ∧ fi.1 ∈ fs := by
  intro fs
  induction fs with
  | nil => intro hr fi h; simp [resetItemsGo] at h
  | cons g rest ih =>
    intro hr fi h
    unfold resetItemsGo at h
    split at h
    · next init hinit =>
      split at h
      · rcases List.mem_cons.mp h with e | h'
        · subst e; exact ⟨hinit, List.mem_cons_self⟩
        · have := ih _ _ h'; exact ⟨this.1, List.mem_cons_of_mem _ this.2⟩
      · have := ih _ _ h; exact ⟨this.1, List.mem_cons_of_mem _ this.2⟩
    · have := ih _ _ h; exact ⟨this.1, List.mem_cons_of_mem _ this.2⟩

theorem resetItemsGo_any_not_mem (old cur : VInfo) (fs : List Str) (hr : Bool) (f : Str)
    (h : f ∉ fs) : (resetItemsGo old cur hr fs).any (fun fi => fi.1 == f) = false := by
  rw [Bool.eq_false_iff]
  intro hany
  rcases List.any_eq_true.mp hany with ⟨fi, hfi, he⟩
  have := (resetItemsGo_mem old cur fs hr fi hfi).2
  have e : fi.1 = f := by simpa using he
  exact h (e ▸ this)

/-- a resettable field at position `i` of a duplicate-free field list is emitted iff a reset
    was already pending or some field to its left changed -/
theorem resetItemsGo_any (old cur : VInfo) : ∀ (fs : List Str) (hr : Bool) (i : Nat) (f init : Str),
    fs.Nodup → fs[i]? = some f → lookup f Gen.fieldInitialValues = some init →
    (resetItemsGo old cur hr fs).any (fun fi => fi.1 == f) =
      (hr || (fs.take i).any (fun g => old.get g != cur.get g)) := by
  intro fs
  induction fs with
  | nil => intro hr i f init _ hf; simp at hf
  | cons g rest ih =>
    intro hr i f init hnd hf hinit
    have hnd' := List.nodup_cons.mp hnd
    cases i with
    | zero =>
      have e : g = f := by simpa using hf
      subst e
      simp only [List.take_zero, List.any_nil, Bool.or_false]
      unfold resetItemsGo
      rw [hinit]
      cases hr with
      | true => simp
      | false =>
        simp only [Bool.false_eq_true, ↓reduceIte]
        exact resetItemsGo_any_not_mem old cur rest _ g hnd'.1
    | succ j =>
      have hf' : rest[j]? = some f := by simpa using hf
      have hne : g ≠ f := by
        intro e; subst e
        exact hnd'.1 (List.mem_of_getElem? hf')
      have hbeq : (g == f) = false := by simpa using hne
      simp only [List.take_succ_cons, List.any_cons]
      unfold resetItemsGo
      split
      · next ginit _ =>
        cases hr with
        | true =>
          simp only [↓reduceIte, List.any_cons, hbeq, Bool.false_or, Bool.true_or]
          rw [ih true j f init hnd'.2 hf' hinit]; rfl
        | false =>
          simp only [Bool.false_eq_true, ↓reduceIte, Bool.false_or]
          rw [ih _ j f init hnd'.2 hf' hinit]
      · rw [ih _ j f init hnd'.2 hf' hinit, Bool.or_assoc]

/-! ### `_reset_rollover_fields`: the explicit `_replace` tail is redundant -/

/-- each explicit `_replace` after the fold writes the value the field already has -/
theorem applyItems_replace_tail (items : List (Str × Str)) (cur : VInfo)
    (hP : ∀ fi ∈ items, lookup fi.1 Gen.fieldInitialValues = some fi.2) :
    let a := applyItems items cur
    (if items.any (fun fi => fi.1 == "major".toList) = true then { a with major := 0 } else a) = a ∧
    (if items.any (fun fi => fi.1 == "minor".toList) = true then { a with minor := 0 } else a) = a ∧
    (if items.any (fun fi => fi.1 == "patch".toList) = true then { a with patch := 0 } else a) = a ∧
    (if items.any (fun fi => fi.1 == "inc0".toList) = true then { a with inc0 := 0 } else a) = a ∧
    (if items.any (fun fi => fi.1 == "inc1".toList) = true then { a with inc1 := 1 } else a) = a := by
  intro a
  have key : ∀ (name init : Str) (w : VInfo), lookup name Gen.fieldInitialValues = some init →
      (a.get name = FV.nat (strToNat init) → w = a) →
      (if items.any (fun fi => fi.1 == name) = true then w else a) = a := by
    intro name init w hl hw
    by_cases hany : items.any (fun fi => fi.1 == name) = true
    · rw [if_pos hany]; apply hw
      rw [applyItems_get name _ cur hP, hl]
      simp only [hany, ↓reduceIte]
    · rw [if_neg hany]
  clear_value a
  obtain ⟨cal, ma, mi, pa, bid, tg, pt, nu, i0, i1⟩ := a
  exact ⟨key _ "0".toList _ (by decide) fun e => by cases FV.nat.inj e; rfl,
    key _ "0".toList _ (by decide) fun e => by cases FV.nat.inj e; rfl,
    key _ "0".toList _ (by decide) fun e => by cases FV.nat.inj e; rfl,
    key _ "0".toList _ (by decide) fun e => by cases FV.nat.inj e; rfl,
    key _ "1".toList _ (by decide) fun e => by cases FV.nat.inj e; rfl⟩

theorem resetRolloverFields_eq (fs : List Str) (old cur : VInfo) :
    resetRolloverFields fs old cur = applyItems (resetItemsGo old cur false fs) cur := by
  obtain ⟨h1, h2, h3, h4, h5⟩ := applyItems_replace_tail (resetItemsGo old cur false fs) cur
    (fun fi h => (resetItemsGo_mem old cur fs false fi h).1)
  unfold applyItems at h1 h2 h3 h4 h5 ⊢
  unfold resetRolloverFields
  simp only [h1, h2, h3, h4, h5]

/-- after the reset a field either keeps its value or holds its table initial value -/
theorem resetRolloverFields_get_cases (fs : List Str) (old cur : VInfo) (f : Str) :
    (resetRolloverFields fs old cur).get f = cur.get f ∨
    ∃ init, lookup f Gen.fieldInitialValues = some init ∧
      (resetRolloverFields fs old cur).get f = FV.nat (strToNat init) := by
  rw [resetRolloverFields_eq,
    applyItems_get f _ cur (fun fi h => (resetItemsGo_mem old cur fs false fi h).1)]
  cases hl : lookup f Gen.fieldInitialValues with
  | none => exact .inl rfl
  | some init =>
    simp only
    split
    · exact .inr ⟨init, rfl, rfl⟩
    · exact .inl rfl

/-! ### calendar guard -/

theorem lexLt_irrefl' : ∀ l : List Nat, lexLt l l = false := by
  intro l
  induction l with
  | nil => rfl
  | cons a as ih => simp [lexLt, ih]

/-- `r` has the same value as `l` wherever `l` has one -/
inductive Agree : List (Option Nat) → List (Option Nat) → Prop
  | nil : Agree [] []
  | cons {a b : Option Nat} {l r : List (Option Nat)} :
      (∀ x, a = some x → b = some x) → Agree l r → Agree (a :: l) (b :: r)

/-- `presentPairs l r` pairs equal values when `r` agrees with `l` wherever `l` has a value -/
theorem presentPairs_agree : ∀ (l r : List (Option Nat)), Agree l r →
    (presentPairs l r).map (·.2) = (presentPairs l r).map (·.1) := by
  intro l r h
  induction h with
  | nil => rfl
  | @cons a b l r hab _ ih =>
    cases a with
    | none => cases b <;> simpa [presentPairs] using ih
    | some x =>
      rw [hab x rfl]
      simp [presentPairs, ih]

theorem isCalGt_of_agree (l r : CalOpt)
    (h : Agree l.toList r.toList) :
    isCalGt l r = false := by
  unfold isCalGt
  simp only
  rw [presentPairs_agree _ _ h]
  exact lexLt_irrefl' _

theorem isCalGt_self (l : CalOpt) : isCalGt l l = false := by
  apply isCalGt_of_agree
  simp only [CalOpt.toList]
  repeat' constructor
  all_goals (intro x hx; exact hx)

theorem isCalGt_verToCalInfo (v : VInfo) (dflt : CalInfo) :
    isCalGt v.cal (verToCalInfo v dflt) = false := by
  apply isCalGt_of_agree
  simp only [CalOpt.toList, verToCalInfo]
  repeat' constructor
  all_goals (intro x hx; rw [hx])

/-! ### `_format_segment` flags -/

theorem formatSegment_flags (seg : Str) (pvs : List (Str × Str)) (z : Bool) :
    ((if (formatSegment seg pvs).isLiteral then z else ((formatSegment seg pvs).isZero && z)) = true) ↔
      ((∀ pv ∈ pvs.filter (fun pv => isInfix pv.1 seg), isZeroVal pv.1 pv.2 = true) ∧ z = true) := by
  unfold formatSegment
  simp only
  generalize pvs.filter (fun pv => isInfix pv.1 seg) = used
  by_cases hemp : used.isEmpty = true
  · have : used = [] := by simpa using hemp
    subst this
    simp
  · simp only [hemp, Bool.false_eq_true, ↓reduceIte]
    have hpos : 0 < used.length := by
      cases used with
      | nil => simp at hemp
      | cons => simp
    by_cases hall : ∀ pv ∈ used, isZeroVal pv.1 pv.2 = true
    · have hlen : (used.filter (fun pv => isZeroVal pv.1 pv.2)).length = used.length :=
        List.length_filter_eq_length_iff.mpr hall
      simp only [hlen, hpos, decide_true, BEq.rfl, Bool.and_self, ↓reduceIte, Bool.true_and]
      exact ⟨fun hz => ⟨hall, hz⟩, fun h => h.2⟩
    · have hlen : (used.filter (fun pv => isZeroVal pv.1 pv.2)).length ≠ used.length :=
        fun e => hall (List.length_filter_eq_length_iff.mp e)
      have hb : (decide ((used.filter (fun pv => isZeroVal pv.1 pv.2)).length > 0) &&
          ((used.filter (fun pv => isZeroVal pv.1 pv.2)).length == used.length)) = false := by
        simp [hlen]
      simp only [hb, Bool.false_eq_true, ↓reduceIte, Bool.false_and]
      exact ⟨fun h => h.elim, fun h => absurd h.1 hall⟩

/-! ### `_incr_numeric` in stages -/

def incStep (cur : VInfo) (fl : IncrFlags) : VInfo :=
  let c1 := if fl.major then { cur with major := cur.major + 1 } else cur
  let c2 := if fl.minor then { c1 with minor := c1.minor + 1 } else c1
  let c3 := if fl.patch then { c2 with patch := c2.patch + 1 } else c2
  if fl.tagNum then { c3 with num := c3.num + 1 } else c3

def tagStep (c4 : VInfo) (tag : Option Str) : Except PErr VInfo :=
  match tag with
  | some t =>
    if t.isEmpty then pure c4
    else
      let c := if t != c4.tag then { c4 with num := 0 } else c4
      match lookup t Gen.pep440TagByTag with
      | some p => pure { c with tag := t, pytag := p }
      | none => throw .keyError
  | none => pure c4

def finStep (c5 : VInfo) (fl : IncrFlags) : VInfo :=
  let c5' := if c5.tag == "final".toList then { c5 with num := 0 } else c5
  if !fl.pinIncrements then { c5' with inc0 := c5'.inc0 + 1, inc1 := c5'.inc1 + 1 } else c5'

def bidStep (fields : List Str) (old c6 : VInfo) : Except PErr VInfo :=
  if !allDigits c6.bid || c6.bid.isEmpty then throw .valueError
  else
    let c7 := { c6 with bid := padBid c6.bid }
    match nextId c7.bid with
    | none => throw .overflow
    | some b => pure (resetRolloverFields fields old { c7 with bid := b })

theorem incrNumeric_eq (fs : List Str) (old cur : VInfo) (fl : IncrFlags) :
    incrNumeric fs old cur fl =
      (match tagStep (incStep cur fl) fl.tag with
       | .error e => .error e
       | .ok c5 => bidStep fs old (finStep c5 fl)) := by
  unfold incrNumeric
  extract_lets c1 c2 c3 c4 jp
  have hc4 : incStep cur fl = c4 := rfl
  rw [hc4]
  have hjp : ∀ c5, jp c5 = bidStep fs old (finStep c5 fl) := by
    intro c5
    simp only [jp, bidStep, finStep]
    split <;> rfl
  clear_value c4 jp
  unfold tagStep
  cases fl.tag with
  | none => exact hjp c4
  | some t =>
    simp only
    split
    · exact hjp c4
    · cases lookup t Gen.pep440TagByTag with
      | none => rfl
      | some p => exact hjp _

theorem incStep_eq (cur : VInfo) (fl : IncrFlags) :
    incStep cur fl =
      { cur with major := cur.major + (if fl.major then 1 else 0),
                 minor := cur.minor + (if fl.minor then 1 else 0),
                 patch := cur.patch + (if fl.patch then 1 else 0),
                 num := cur.num + (if fl.tagNum then 1 else 0) } := by
  rcases fl with ⟨a, b, c, d, e, f, g⟩
  cases a <;> cases b <;> cases c <;> cases e <;> rfl

theorem finStep_eq (c5 : VInfo) (fl : IncrFlags) :
    finStep c5 fl =
      { c5 with num := if c5.tag = "final".toList then 0 else c5.num,
                inc0 := c5.inc0 + (if fl.pinIncrements then 0 else 1),
                inc1 := c5.inc1 + (if fl.pinIncrements then 0 else 1) } := by
  unfold finStep
  by_cases ht : (c5.tag == "final".toList) = true
  · have ht' : c5.tag = "final".toList := eq_of_beq ht
    simp only [ht', ↓reduceIte]
    cases fl.pinIncrements <;> rfl
  · have ht' : ¬ c5.tag = "final".toList := fun e => ht (by rw [e]; exact beq_self_eq_true _)
    simp only [ht, ht', ↓reduceIte]
    cases fl.pinIncrements <;> rfl

theorem tagStep_ok (c4 c5 : VInfo) (tag : Option Str) (h : tagStep c4 tag = .ok c5) :
    ((tag = none ∨ tag = some []) ∧ c5 = c4) ∨
    ∃ t p, tag = some t ∧ t ≠ [] ∧ lookup t Gen.pep440TagByTag = some p ∧
      c5 = { c4 with num := if t ≠ c4.tag then 0 else c4.num, tag := t, pytag := p } := by
  unfold tagStep at h
  cases tag with
  | none => exact .inl ⟨.inl rfl, (Except.ok.inj h).symm⟩
  | some t =>
    cases t with
    | nil => exact .inl ⟨.inr rfl, (Except.ok.inj h).symm⟩
    | cons ch r =>
      right
      simp only [List.isEmpty_cons, Bool.false_eq_true, ↓reduceIte] at h
      cases hl : lookup (ch :: r) Gen.pep440TagByTag with
      | none => rw [hl] at h; cases h
      | some p =>
        rw [hl] at h
        refine ⟨ch :: r, p, rfl, by simp, hl, ?_⟩
        rw [← Except.ok.inj h]
        by_cases ht : (ch :: r) = c4.tag <;> simp [ht]

theorem bidStep_ok (fs : List Str) (old c6 new : VInfo) (h : bidStep fs old c6 = .ok new) :
    ∃ b, bumpBid c6.bid = some b ∧ new = resetRolloverFields fs old { c6 with bid := b } := by
  unfold bidStep at h
  split at h
  · cases h
  · simp only at h
    unfold bumpBid
    cases hn : nextId (padBid c6.bid) with
    | none => rw [hn] at h; cases h
    | some b => rw [hn] at h; exact ⟨b, rfl, (Except.ok.inj h).symm⟩

/-- `_incr_numeric` in one piece: the record it hands to `_reset_rollover_fields` -/
theorem incrNumeric_ok (fs : List Str) (old cur : VInfo) (fl : IncrFlags) (new : VInfo)
    (h : incrNumeric fs old cur fl = .ok new) :
    ∃ b tg pt, bumpBid cur.bid = some b ∧
      (((fl.tag = none ∨ fl.tag = some []) ∧ tg = cur.tag ∧ pt = cur.pytag) ∨
        (fl.tag = some tg ∧ tg ≠ [] ∧ lookup tg Gen.pep440TagByTag = some pt)) ∧
      new = resetRolloverFields fs old
        { cal := cur.cal,
          major := cur.major + (if fl.major then 1 else 0),
          minor := cur.minor + (if fl.minor then 1 else 0),
          patch := cur.patch + (if fl.patch then 1 else 0),
          bid := b, tag := tg, pytag := pt,
          num := if tg ≠ cur.tag ∨ tg = "final".toList then 0
                 else cur.num + (if fl.tagNum then 1 else 0),
          inc0 := cur.inc0 + (if fl.pinIncrements then 0 else 1),
          inc1 := cur.inc1 + (if fl.pinIncrements then 0 else 1) } := by
  rw [incrNumeric_eq] at h
  cases ht : tagStep (incStep cur fl) fl.tag with
  | error e => rw [ht] at h; cases h
  | ok c5 =>
    rw [ht] at h
    simp only at h
    obtain ⟨b, hb, hnew⟩ := bidStep_ok fs old _ new h
    rw [finStep_eq] at hb hnew
    rcases tagStep_ok _ _ _ ht with ⟨hno, hc5⟩ | ⟨t, p, htag, hne, hl, hc5⟩
    · subst hc5
      rw [incStep_eq] at hb hnew
      refine ⟨b, cur.tag, cur.pytag, hb, .inl ⟨hno, rfl, rfl⟩, ?_⟩
      rw [hnew]
      congr 1
      -- (`simp` would spell the literal out as a list of characters and compare it with `"final".toList` by evaluation)
      generalize "final".toList = fin
      simp
    · subst hc5
      rw [incStep_eq] at hb hnew
      refine ⟨b, t, p, hb, .inr ⟨htag, hne, hl⟩, ?_⟩
      rw [hnew]
      congr 1
      generalize "final".toList = fin
      simp only [VInfo.mk.injEq, true_and, and_true]
      by_cases h1 : t = cur.tag <;> by_cases h2 : t = fin <;> simp [h1, h2]

theorem optNat_inj {a b : Option Nat} (h : optNat a = optNat b) : a = b := by
  cases a <;> cases b <;> simp only [optNat, FV.nat.injEq, reduceCtorEq] at h <;> simp only [h]

/-! ### `parseSegtree` only fails with ValueError -/

theorem segtreeGo_error (stack : List (List Seg)) (cur : Str) (prev : Option Char) (r : Str) (e : PErr)
    (h : segtreeGo stack cur prev r = .error e) : e = .valueError := by
  induction r generalizing stack cur prev with
  | nil => simp [segtreeGo] at h
  | cons c r ih =>
    unfold segtreeGo at h
    dsimp only at h
    split at h
    · split at h
      · cases h; rfl
      · split at h
        · exact ih _ _ _ h
        · split at h
          · cases h; rfl
          · exact ih _ _ _ h
    · exact ih _ _ _ h

theorem parseSegtree_valueError (raw : Str) (e : PErr) (h : parseSegtree raw = .error e) : e = .valueError := by
  unfold parseSegtree at h
  split at h
  · rename_i e' he
    cases h
    exact segtreeGo_error _ _ _ _ _ he
  · split at h
    · cases h
    · cases h; rfl
  · cases h; rfl

end BV
