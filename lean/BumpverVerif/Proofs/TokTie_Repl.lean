/-
  Proofs/TokTie_Repl.lean — `str.replace` (`replaceAll`) on a text that is a concatenation of chunks:
  a chunk in which no occurrence begins is copied, a chunk that IS the pattern is replaced
  (`replaceAll_skip`, `replaceAll_hit`, chunk by chunk `replaceAll_flatMap`), and on an item list in which the pattern occurs only as whole tokens
  it replaces exactly those tokens (`replaceAll_items`).
-/
import BumpverVerif.Proofs.TokTie_Items
namespace BV

theorem replaceAllF_fuel (pat rep : Str) : ∀ (f : Nat) (s : Str) (f' : Nat), s.length < f → s.length < f' →
    replaceAllF f pat rep s = replaceAllF f' pat rep s := by
  intro f
  induction f with
  | zero => intro s f' h; omega
  | succ g ih =>
    intro s f' h h'
    cases f' with
    | zero => omega
    | succ g' =>
      cases s with
      | nil => simp [replaceAllF]
      | cons c cs =>
        simp only [List.length_cons] at h h'
        simp only [replaceAllF]
        split
        · rfl
        · split
          · rename_i hne hp
            have hl : ((c :: cs).drop pat.length).length ≤ cs.length := by
              have h0 : 0 < pat.length := by cases pat <;> simp_all
              simp only [List.length_drop, List.length_cons]; omega
            rw [ih _ g' (by omega) (by omega)]
          · rw [ih cs g' (by omega) (by omega)]

theorem replaceAll_on_nil (pat rep : Str) : replaceAll pat rep [] = [] := by simp [replaceAll, replaceAllF]

theorem replaceAll_cons_skip (pat rep : Str) (c : Char) (cs : Str) (hne : pat ≠ [])
    (h : pat.isPrefixOf (c :: cs) = false) : replaceAll pat rep (c :: cs) = c :: replaceAll pat rep cs := by
  have he : pat.isEmpty = false := by cases pat <;> simp_all
  simp only [replaceAll, List.length_cons, replaceAllF, he, h, Bool.false_eq_true, if_false]

/-- a chunk in which no occurrence begins is copied -/
theorem replaceAll_skip (pat rep : Str) (hne : pat ≠ []) (A R : Str)
    (h : ∀ o, o < A.length → pat.isPrefixOf (A.drop o ++ R) = false) :
    replaceAll pat rep (A ++ R) = A ++ replaceAll pat rep R := by
  induction A with
  | nil => rfl
  | cons c cs ih =>
    have h0 := h 0 (by simp)
    simp only [List.drop_zero, List.cons_append] at h0
    rw [List.cons_append, replaceAll_cons_skip pat rep c (cs ++ R) hne h0, ih]
    · rfl
    · intro o ho
      have := h (o + 1) (by simp only [List.length_cons]; omega)
      simpa using this

/-- a chunk that is the pattern is replaced -/
theorem replaceAll_hit (pat rep : Str) (hne : pat ≠ []) (R : Str) :
    replaceAll pat rep (pat ++ R) = rep ++ replaceAll pat rep R := by
  have he : pat.isEmpty = false := by cases pat <;> simp_all
  cases hp : pat with
  | nil => exact absurd hp hne
  | cons c cs =>
    have hpre : (c :: cs).isPrefixOf (c :: (cs ++ R)) = true := by
      simp
    have he' : (c :: cs).isEmpty = false := rfl
    simp only [replaceAll, List.cons_append, List.length_cons, replaceAllF, he', hpre, Bool.false_eq_true, if_false, if_true]
    congr 1
    have hd : (c :: (cs ++ R)).drop (cs.length + 1) = R := by simp
    rw [hd]
    exact replaceAllF_fuel _ _ _ _ _ (by simp only [List.length_append]; omega) (by omega)

/-- no occurrence begins in a chunk that does not contain the pattern's first character -/
theorem no_occ_of_head (h0 : Char) (pt A R : Str) (h : h0 ∉ A) :
    ∀ o, o < A.length → (h0 :: pt).isPrefixOf (A.drop o ++ R) = false := by
  intro o ho
  cases hd : A.drop o with
  | nil =>
    have := congrArg List.length hd
    simp only [List.length_drop, List.length_nil] at this
    omega
  | cons x xs =>
    have hx : x ∈ A := List.mem_of_mem_drop (by rw [hd]; exact List.mem_cons_self)
    have : (h0 == x) = false := beq_eq_false_iff_ne.mpr fun e => h (e ▸ hx)
    simp [List.isPrefixOf, this]

/-- a pattern whose first character does not occur in the text leaves it unchanged -/
theorem replaceAll_no_head (h0 : Char) (pt rep s : Str) (h : h0 ∉ s) : replaceAll (h0 :: pt) rep s = s := by
  have := replaceAll_skip (h0 :: pt) rep (by simp) s [] (no_occ_of_head h0 pt s [] h)
  simpa [replaceAll_on_nil] using this

theorem replaceAll_flatMap {α} (pat rep : Str) (hne : pat ≠ []) (f g : α → Str) (l : List α)
    (h : ∀ a ∈ l, (f a = pat ∧ g a = rep) ∨
      (g a = f a ∧ ∀ R o, o < (f a).length → pat.isPrefixOf ((f a).drop o ++ R) = false)) :
    replaceAll pat rep (l.flatMap f) = l.flatMap g := by
  induction l with
  | nil => exact replaceAll_on_nil pat rep
  | cons a r ih =>
    have ihr := ih fun b hb => h b (List.mem_cons_of_mem _ hb)
    rw [List.flatMap_cons, List.flatMap_cons]
    rcases h a List.mem_cons_self with ⟨e1, e2⟩ | ⟨e1, e2⟩
    · rw [e1, e2, replaceAll_hit pat rep hne, ihr]
    · rw [e1, replaceAll_skip pat rep hne _ _ (e2 _), ihr]

/-! ### on item lists -/

/-- the pattern `m` occurs in the concatenated sources only as a whole token `m` -/
def cleanFor (m : Str) : List Item → Prop
  | [] => True
  | x :: r =>
    (∀ o, o < x.src.length → m.isPrefixOf (x.src.drop o ++ srcAll r) = true → x = .tok m ∧ o = 0) ∧ cleanFor m r

/-- replace the tokens named `m` by the raw text `w` -/
def substTok (m w : Str) : List Item → List Item
  | [] => []
  | .raw s :: r => .raw s :: substTok m w r
  | .tok n :: r => (if n = m then .raw w else .tok n) :: substTok m w r

theorem replaceAll_items (m w : Str) (hm : m ≠ []) (items : List Item) (h : cleanFor m items) :
    replaceAll m w (srcAll items) = srcAll (substTok m w items) := by
  induction items with
  | nil => simp [srcAll, substTok, replaceAll_on_nil]
  | cons x r ih =>
    simp only [cleanFor] at h
    have ihr := ih h.2
    cases x with
    | raw s =>
      simp only [srcAll_cons, Item.src, substTok]
      rw [replaceAll_skip m w hm s _ ?_, ihr]
      intro o ho
      cases hp : m.isPrefixOf (s.drop o ++ srcAll r) with
      | false => rfl
      | true => have := (h.1 o ho hp).1; cases this
    | tok n =>
      by_cases hn : n = m
      · subst hn
        simp only [srcAll_cons, Item.src, substTok, if_true]
        rw [replaceAll_hit n w hm, ihr]
      · simp only [srcAll_cons, Item.src, substTok, hn, if_false]
        rw [replaceAll_skip m w hm n _ ?_, ihr]
        intro o ho
        cases hp : m.isPrefixOf (n.drop o ++ srcAll r) with
        | false => rfl
        | true =>
          have := (h.1 o ho hp).1
          injection this with e
          exact absurd e hn

end BV
