/-
  Proofs/Tie_argvEndToEnd.lean — the source-level ties of this group COMPOSED, on the standard objects
  `VCSAPI("git")` / `VCSAPI("hg")` of the generated table: what process runs, with which ARGUMENT VECTOR.

      generated VCSAPI.commit / tag / push_tag / add          (Proofs/Tie_argvCommit|Tag|PushTag|Add.lean)
        → generated VCSAPI.__call__ = callRef = `argv`         (Proofs/Tie_argvCall.lean, `tie_argvCall_std`)
        → `argv` on the template of the working tree           (Props/C12.lean, `C12_*_argv`)

  Every theorem is an EQUATION for all strings (messages, tag names, paths, remotes — any Unicode, quotes,
  backslashes, newlines, leading dashes), all worlds and traces: the value is exactly ONE element of the
  argument vector, verbatim; nothing is added, removed or altered.
-/
import BumpverVerif.Proofs.Tie_argvCommit
import BumpverVerif.Proofs.Tie_argvTag
import BumpverVerif.Proofs.Tie_argvPushTag
import BumpverVerif.Proofs.Tie_argvAdd
import BumpverVerif.Props.C12
namespace BV.TieK
open BV.TieK.Gen

theorem callRef_std (vcs cmd : String)
    (h : ((lookup vcs.toList BV.Gen.vcsTemplates).bind (lookup cmd.toList)).isSome = true)
    (env : Option EnvMap) (kw : List (Str × Str)) (w : World) (s : List KEv) :
    callRef (VcsApi.std vcs.toList) cmd.toList env kw w s =
      match argv (tmplOf vcs cmd) kw with
      | .error e => (s, .error (stopOfArgv e))
      | .ok parts => Eff.checkOutput parts env true w s := by
  cases h1 : lookup vcs.toList BV.Gen.vcsTemplates with
  | none => rw [h1] at h; cases h
  | some tbl =>
    rw [h1] at h
    cases h2 : lookup cmd.toList tbl with
    | none => simp only [Option.bind_some] at h; rw [h2] at h; cases h
    | some tmpl =>
      have ht : tmplOf vcs cmd = tmpl := by simp only [tmplOf, h1, Option.bind_some, h2, Option.getD_some]
      rw [← tie_argvCall, tie_argvCall_std h1 h2]
      subst ht
      rfl

/-- the same without looking the command up: an `argv` that is not empty can only come from a template of the table -/
theorem callRef_std_ok (vcs cmd : String) (env : Option EnvMap) (kw : List (Str × Str)) (w : World) (s : List KEv)
    (parts : List Str) (ha : argv (tmplOf vcs cmd) kw = .ok parts) (hne : parts ≠ []) :
    callRef (VcsApi.std vcs.toList) cmd.toList env kw w s = Eff.checkOutput parts env true w s := by
  cases h : (lookup vcs.toList BV.Gen.vcsTemplates).bind (lookup cmd.toList) with
  | some tmpl => rw [callRef_std vcs cmd (by rw [h]; rfl), ha]
  | none =>
    rw [tmplOf, h] at ha
    cases ha
    exact absurd rfl hne

/-- a successful or failing process, output forgotten -/
def runProc (argv : List Str) (env : Option EnvMap) (w : World) (s : List KEv) : List KEv × Except Stop Unit :=
  unitOf (Eff.checkOutput argv env true w s)

theorem unitOf_callRef_std (vcs cmd : String) {env : Option EnvMap} {kw : List (Str × Str)} {w : World} {s : List KEv}
    {parts : List Str} (ha : argv (tmplOf vcs cmd) kw = .ok parts) (hne : parts ≠ []) :
    unitOf (callRef (VcsApi.std vcs.toList) cmd.toList env kw w s) = runProc parts env w s :=
  congrArg unitOf (callRef_std_ok vcs cmd env kw w s parts ha hne)

/-! ### commit -/

theorem src_git_commit (m : Str) (w : World) (s : List KEv) :
    argvCommit (VcsApi.std "git".toList) m w s
      = runProc ["git".toList, "commit".toList, "--message".toList, m] (some w.environ) w s := by
  rw [tie_argvCommit]
  have hn : (VcsApi.std "git".toList).name = ['g', 'i', 't'] := rfl
  simp only [commitRef, hn, if_true]
  exact unitOf_callRef_std "git" "commit" (C12_git_commit_argv m) (List.cons_ne_nil _ _)

theorem src_hg_commit (m : Str) (w : World) (s : List KEv) :
    argvCommit (VcsApi.std "hg".toList) m w s =
      (KEv.unlink (w.tmpName s) ::
        (Eff.checkOutput ["hg".toList, "commit".toList, "--logfile".toList, w.tmpName s]
          (some (dictSet "HGENCODING".toList "utf-8".toList w.environ)) true w
          (KEv.tmpClose (w.tmpName s) :: KEv.tmpWrite (w.tmpName s) m :: KEv.tmpCreate (w.tmpName s) :: s)).1,
       (Eff.checkOutput ["hg".toList, "commit".toList, "--logfile".toList, w.tmpName s]
          (some (dictSet "HGENCODING".toList "utf-8".toList w.environ)) true w
          (KEv.tmpClose (w.tmpName s) :: KEv.tmpWrite (w.tmpName s) m :: KEv.tmpCreate (w.tmpName s) :: s)).2.map
            (fun _ => ())) := by
  rw [tie_argvCommit]
  have hn : ¬ (VcsApi.std "hg".toList).name = ['g', 'i', 't'] := by decide
  simp only [commitRef, hn, if_false, utf8Encode]
  exact congrArg (fun r => (KEv.unlink (w.tmpName s) :: r.1, r.2.map fun _ => ()))
    (callRef_std_ok "hg" "commit" _ _ w _ _ (C12_hg_commit_argv (w.tmpName s)) (List.cons_ne_nil _ _))

/-! ### tag -/

theorem src_git_tag (t m : Str) (hm : m ≠ []) (w : World) (s : List KEv) :
    argvTag (VcsApi.std "git".toList) t m w s
      = runProc ["git".toList, "tag".toList, "--annotate".toList, t, "--message".toList, m] none w s := by
  rw [tie_argvTag]
  simp only [tagRef, hm, ne_eq, not_false_eq_true, if_true]
  exact unitOf_callRef_std "git" "tag" (C12_git_tag_argv t m) (List.cons_ne_nil _ _)

/-- an empty tag message: a lightweight tag — no message argument at all -/
theorem src_git_tag_light (t : Str) (w : World) (s : List KEv) :
    argvTag (VcsApi.std "git".toList) t [] w s = runProc ["git".toList, "tag".toList, t] none w s := by
  rw [tie_argvTag]
  simp only [tagRef, ne_eq, not_true_eq_false, if_false]
  exact unitOf_callRef_std "git" "tag_light" (C12_git_tag_light_argv t) (List.cons_ne_nil _ _)

theorem src_hg_tag (t m : Str) (hm : m ≠ []) (w : World) (s : List KEv) :
    argvTag (VcsApi.std "hg".toList) t m w s
      = runProc ["hg".toList, "tag".toList, t, "--message".toList, m] none w s := by
  rw [tie_argvTag]
  simp only [tagRef, hm, ne_eq, not_false_eq_true, if_true]
  exact unitOf_callRef_std "hg" "tag" (C12_hg_tag_argv t m) (List.cons_ne_nil _ _)

theorem src_hg_tag_light (t : Str) (w : World) (s : List KEv) :
    argvTag (VcsApi.std "hg".toList) t [] w s = runProc ["hg".toList, "tag".toList, t] none w s := by
  rw [tie_argvTag]
  simp only [tagRef, ne_eq, not_true_eq_false, if_false]
  exact unitOf_callRef_std "hg" "tag_light" (C12_hg_tag_light_argv t) (List.cons_ne_nil _ _)

/-! ### push_tag -/

theorem src_git_push_tag (t r : Str) (w : World) (s : List KEv) (hr : w.remote s = some r) (hne : r ≠ []) :
    argvPushTag (VcsApi.std "git".toList) t w s
      = runProc ["git".toList, "push".toList, r, "--follow-tags".toList, t, "HEAD".toList] none w s := by
  rw [tie_argvPushTag]
  simp only [pushTagRef, hr, hne, ne_eq, not_false_eq_true, if_true]
  exact unitOf_callRef_std "git" "push_tag" (C12_git_push_tag_argv r t) (List.cons_ne_nil _ _)

theorem src_hg_push_tag (t r : Str) (w : World) (s : List KEv) (hr : w.remote s = some r) (hne : r ≠ []) :
    argvPushTag (VcsApi.std "hg".toList) t w s = runProc ["hg".toList, "push".toList, t] none w s := by
  rw [tie_argvPushTag]
  simp only [pushTagRef, hr, hne, ne_eq, not_false_eq_true, if_true]
  exact unitOf_callRef_std "hg" "push_tag" (hg_push_tag_argv t r) (List.cons_ne_nil _ _)

/-- without a remote nothing runs -/
theorem src_push_tag_no_remote (self : VcsApi) (t : Str) (w : World) (s : List KEv)
    (hr : w.remote s = none ∨ w.remote s = some []) :
    argvPushTag self t w s = (s, .ok ()) := by
  rw [tie_argvPushTag]
  rcases hr with hr | hr <;> simp [pushTagRef, hr]

/-! ### add -/

/-- git: the path is the last argument; any failure is passed on -/
theorem src_git_add (p : Str) (w : World) (s : List KEv) :
    argvAdd (VcsApi.std "git".toList) p w s
      = runProc ["git".toList, "add".toList, "--update".toList, p] none w s := by
  have hn : ¬ (VcsApi.std "git".toList).name = ['h', 'g'] := by decide
  have h : callRef (VcsApi.std "git".toList) ['a', 'd', 'd', '_', 'p', 'a', 't', 'h'] none [(['p', 'a', 't', 'h'], p)] w s
      = Eff.checkOutput ["git".toList, "add".toList, "--update".toList, p] none true w s :=
    callRef_std_ok "git" "add_path" none _ w s _ (C12_git_add_argv p) (List.cons_ne_nil _ _)
  rw [tie_argvAdd, addRef, h, runProc, unitOf]
  rcases Eff.checkOutput _ none true w s with ⟨s', x | a⟩
  · cases x <;> first | rfl | exact if_neg (fun hc => hn hc.1)
  · rfl

/-- hg: the path is the last argument; a failure is passed on unless Mercurial says "already tracked!" -/
theorem src_hg_add (p : Str) (w : World) (s : List KEv) :
    argvAdd (VcsApi.std "hg".toList) p w s =
      match Eff.checkOutput ["hg".toList, "add".toList, p] none true w s with
      | (s', .ok _) => (s', .ok ())
      | (s', .error (.called se)) =>
        if isInfix "already tracked!".toList (se.getD []) = true then (s', .ok ()) else (s', .error (.called se))
      | (s', .error x) => (s', .error x) := by
  have h : callRef (VcsApi.std "hg".toList) ['a', 'd', 'd', '_', 'p', 'a', 't', 'h'] none [(['p', 'a', 't', 'h'], p)] w s
      = Eff.checkOutput ["hg".toList, "add".toList, p] none true w s :=
    callRef_std_ok "hg" "add_path" none _ w s _ (C12_hg_add_argv p) (List.cons_ne_nil _ _)
  rw [tie_argvAdd, addRef, h]
  -- `addRef` spells Mercurial's message as a character list; `String.toList_ofList` does the same to the literals
  repeat rw [String.toList_ofList]
  rcases Eff.checkOutput _ none true w s with ⟨s', x | a⟩
  · cases x <;> first | rfl | simp only [VcsApi.std, true_and]
  · rfl

end BV.TieK
