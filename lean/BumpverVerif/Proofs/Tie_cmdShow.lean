/-
  Proofs/Tie_cmdShow.lean — the definition GENERATED from the Python source of the command `cli.show`
  (Gen/F_cmdShow.lean, `GenL.cmdShow`; harness/translate_commands.py) against the hand model of "the version an update
  starts from" (`BV.startVersion`, Model/Cli.lean; `UpdIn.decide.start`, Model/Update.lean).

    tie_cmdShow         (any pattern) plain `show` = the configuration as read, passed through `_update_cfg_from_vcs(cfg, fetch)`
                        exactly when `--ignore-vcs-tag` is absent (its VCS invocations, its exception — and none at all
                        under `--ignore-vcs-tag`), then the two lines `Current Version: <cfg.current_version>` and
                        `PEP440         : <cfg.pep440_version>` of the RESULTING record, exit 0.
    tie_cmdShow_new     new-style pattern: the trace is that of the model's `getTags e fetch (scope = branch)`; a failing VCS
                        invocation is exit 1 with nothing echoed; otherwise `Current Version: v` with
                        `startVersion scope pat cfgVersion today tags = .ok v` and `PEP440         : to_pep440 v`
                        (a crash of the tag parser propagates, nothing echoed).
    tie_cmdShow_legacy  pattern with braces: the same over the legacy parser's valid tags (`v1ParseVersionTags`, `latestOf`).
    cmdShow_reports_update_start   C08 / C09: the version `show` reports IS the version `bumpver update` (same configuration,
                        same flags, same tags) starts from: `(updateFull`'s `u.decide).start`.
    cmdShow_no_config   no configuration could be read: exit 1, nothing echoed, the VCS is not asked.

  `--env` / `--environ` (the KEY=value dump) are translated too (Gen/F_cmdShow.lean) but not tied: the per-field rendering is
  the uninterpreted parameter `env_dump`.
  Hypothesis `hpep` of the `PEP440` statement: the record read from the file has `pep440_version = to_pep440(current_version)`
  (config.py computes it so; the record is a parameter here).
-/
import BumpverVerif.Gen.F_cmdShow
import BumpverVerif.Proofs.Tie_cmdUpdate
set_option linter.unusedSimpArgs false
namespace BV
namespace TieL

/-- `"Current Version: "` -/
def currentVersionLabel : Str := ['C', 'u', 'r', 'r', 'e', 'n', 't', ' ', 'V', 'e', 'r', 's', 'i', 'o', 'n', ':', ' ']
/-- `"PEP440         : "` -/
def showPepLabel : Str := ['P', 'E', 'P', '4', '4', '0', ' ', ' ', ' ', ' ', ' ', ' ', ' ', ' ', ' ', ':', ' ']

theorem currentVersionLabel_eq : currentVersionLabel = "Current Version: ".toList := by simp [currentVersionLabel]
theorem showPepLabel_eq : showPepLabel = "PEP440         : ".toList := by simp [showPepLabel]

/-- the two lines of plain `show` for a record, echoed on top of `out` (most recent first) -/
def showOut {α : Type} (c : GenE.Config α) (out : List Str) : List Str :=
  (showPepLabel ++ c.pep440_version) :: (currentVersionLabel ++ c.current_version) :: out

/-- plain `show` after the (optional) tag lookup -/
def showAfter {α : Type} (r : CState × Except CStop (GenE.Config α)) : CState × Except CStop Unit :=
  match r with
  | (s', .ok c) => ({ s' with out := showOut c s'.out }, .ok ())
  | (s', .error x) => (s', .error x)

end TieL
open TieL

attribute [local irreducible] isValid parseVersionInfo v1IsValid v1ParseVersionInfo latestVersionTag startVersion BV.getTags

theorem tie_cmdShow {α Ctx : Type} (today : Date) (dump : String → VInfo → List Str) (vg verbose : Int) (ctx : Ctx)
    (cfg0 : GenE.Config α) (ignore fetch : Bool) (ce : CmdEnv) (s : CState) :
    GenL.cmdShow today dump vg (ctx, some cfg0) verbose ignore fetch false false ce s =
      showAfter (if ignore then (s, .ok cfg0) else GenL.updateCfgFromVcs today cfg0 fetch ce s) := by
  unfold GenL.cmdShow showAfter showOut
  cases ignore with
  | true => simp [Cmd.bind, Cmd.pure, Cmd.echo, currentVersionLabel, showPepLabel]
  | false =>
    simp only [Bool.false_eq_true, if_false, Cmd.bind, Cmd.pure]
    rcases GenL.updateCfgFromVcs today cfg0 fetch ce s with ⟨s', r⟩
    cases r <;> simp [Cmd.echo, currentVersionLabel, showPepLabel]

theorem cmdShow_no_config {α Ctx : Type} (today : Date) (dump : String → VInfo → List Str) (vg verbose : Int) (ctx : Ctx)
    (ignore fetch env environ : Bool) (ce : CmdEnv) (s : CState) :
    GenL.cmdShow (α := α) today dump vg (ctx, none) verbose ignore fetch env environ ce s
      = (s, .error (.eff (.exit 1))) := by
  unfold GenL.cmdShow
  rfl

/-- new-style pattern: trace of the model's `getTags`, the model's start version, its PEP 440 form -/
theorem tie_cmdShow_new {α Ctx : Type} (today : Date) (dump : String → VInfo → List Str) (vg verbose : Int) (ctx : Ctx)
    (cfg0 : GenE.Config α) (ignore fetch : Bool) (ce : CmdEnv) (s : CState)
    (hn : cfg0.is_new_pattern = true) (hrem : RemoteCoherent ce.eff)
    (hpep : cfg0.pep440_version = verStr (parseVersion cfg0.current_version)) :
    GenL.cmdShow today dump vg (ctx, some cfg0) verbose ignore fetch false false ce s =
      (match (if ignore then (s.p, Outcome.ok) else BV.getTags ce.eff.plan fetch (cfg0.tag_scope == .BRANCH) s.p) with
       | (p', .failed) => ({ s with p := p' }, .error (.eff .called))
       | (p', .ok) =>
         match (if ignore then .ok cfg0.current_version
                else startVersion (absScopeE cfg0.tag_scope) cfg0.version_pattern cfg0.current_version today
                  (tagsServed ce.eff cfg0.tag_scope s.p)) with
         | .error e => ({ s with p := p' }, .error (.exc (.v2 e)))
         | .ok v =>
           ({ p := p', out := (showPepLabel ++ verStr (parseVersion v)) :: (currentVersionLabel ++ v) :: s.out }, .ok ())) := by
  rw [tie_cmdShow]
  cases ignore with
  | true => simp [showAfter, showOut, hpep]
  | false =>
    simp only [Bool.false_eq_true, if_false]
    rw [tie_cmdUpdateCfgFromVcs_new today cfg0 fetch hn, tagsThen_run _ _ _ _ _ hrem, ← updCfg_startVersion]
    rcases BV.getTags ce.eff.plan fetch (cfg0.tag_scope == GenE.TagScope.BRANCH) s.p with ⟨p', o⟩
    cases o with
    | failed => rfl
    | ok =>
      simp only [showAfter]
      cases hl : latestVersionTag cfg0.version_pattern today (tagsServed ce.eff cfg0.tag_scope s.p) with
      | error e => rfl
      | ok l =>
        simp only [ofV2, Except.map, showOut]
        cases l with
        | none => simp [updCfg, hpep]
        | some t =>
          simp only [updCfg]
          split <;> simp [hpep]

/-- pattern with braces: the same over the legacy parser's valid tags -/
theorem tie_cmdShow_legacy {α Ctx : Type} (today : Date) (dump : String → VInfo → List Str) (vg verbose : Int) (ctx : Ctx)
    (cfg0 : GenE.Config α) (fetch : Bool) (ce : CmdEnv) (s : CState) (hn : cfg0.is_new_pattern = false) :
    GenL.cmdShow today dump vg (ctx, some cfg0) verbose false fetch false false ce s =
      showAfter (tagsThen fetch cfg0.tag_scope (fun tags =>
        ofV1 ((v1ParseVersionTags cfg0.version_pattern tags).map (fun vts => updCfg cfg0 (latestOf vts)))) ce s) := by
  rw [tie_cmdShow]
  simp only [Bool.false_eq_true, if_false]
  congr 1
  rw [tie_cmdUpdateCfgFromVcs]
  unfold Cmd.bind
  rw [tie_cmdGetLatest_legacy today cfg0 fetch hn]
  unfold tagsThen
  rcases GenE.getTags fetch cfg0.tag_scope ce.eff s.p with ⟨p', r⟩
  cases r with
  | error x => rfl
  | ok tags =>
    simp only []
    cases hl : v1ParseVersionTags cfg0.version_pattern tags <;> simp [hl, Cmd.pure, Except.map, ofV1]

/-- the start version of the composed update model, for a command line without `--tag-scope` -/
theorem TieL.updIn_decide_start {α : Type} (A : UpdArgs) (cfg0 : GenE.Config α) (e : EffEnv) (today date : Date)
    (dg tme : Bool) (fs : FS) (fps : List (Str × List CPat)) (hsc : A.tag_scope = none) :
    let u := updInOf A cfg0 e today date dg tme fs fps
    u.decide.start = (match (if A.ignore_vcs_tag then Except.ok cfg0.current_version
        else startVersion (absScopeE cfg0.tag_scope) cfg0.version_pattern cfg0.current_version today
          (tagsServed e cfg0.tag_scope ⟨[], 0⟩)) with
      | .ok v => v
      | .error _ => cfg0.current_version) := by
  intro u
  have hts : ∀ s, A.tag_scope = some s → (GenF.TagScope.ofValue s).isSome = true := by
    intro s h; rw [hsc] at h; cases h
  have hscopeE : scopeE A cfg0 = cfg0.tag_scope := by unfold scopeE; rw [hsc]
  have huscope : u.scope = absScopeE cfg0.tag_scope := by
    rw [← hscopeE]; exact updInOf_scope _ _ _ _ _ _ _ _ _ hts
  have hutags : u.tagsSeen = tagsServed e cfg0.tag_scope ⟨[], 0⟩ := by
    unfold UpdIn.tagsSeen tagsServed
    rw [isUsable_congr u.baseEnv e.plan rfl rfl]
    simp only [u, updInOf, hscopeE]
  have hds : u.decide.start = u.start := by
    unfold UpdIn.decide
    cases u.cand <;> rfl
  rw [hds]
  unfold UpdIn.start UpdIn.startE
  have e1 : u.a.ignoreVcsTag = A.ignore_vcs_tag := rfl
  have e2 : u.pat = cfg0.version_pattern := rfl
  have e3 : u.cfgVersion = cfg0.current_version := rfl
  have e4 : u.today = today := rfl
  rw [e1, huscope, hutags, e2, e3, e4]
  cases A.ignore_vcs_tag with
  | true => rfl
  | false =>
    simp only [Bool.false_eq_true, if_false]
    cases startVersion (absScopeE cfg0.tag_scope) cfg0.version_pattern cfg0.current_version today
      (tagsServed e cfg0.tag_scope ⟨[], 0⟩) <;> rfl

/-- C08 / C09: THE VERSION `show` REPORTS IS THE VERSION AN UPDATE STARTS FROM.  A successful plain `show` echoes exactly
    two lines, and the version on the `Current Version:` line is `(u.decide).start` of the composed update model
    (`updateFull`, Model/Update.lean) for the same configuration, the same `--ignore-vcs-tag` / `--fetch` flags, the same
    environment (tags served, failure position) — whatever the other options of the update are (no `--tag-scope`: `show`
    has none). -/
theorem cmdShow_reports_update_start {α Ctx : Type} (today date : Date) (dg tme : Bool) (fs : FS)
    (fps : List (Str × List CPat)) (dump : String → VInfo → List Str) (vg verbose : Int) (ctx : Ctx)
    (cfg0 : GenE.Config α) (A : UpdArgs) (ce : CmdEnv) (hsc : A.tag_scope = none)
    (hn : cfg0.is_new_pattern = true) (hrem : RemoteCoherent ce.eff) (s' : CState)
    (hrun : GenL.cmdShow today dump vg (ctx, some cfg0) verbose A.ignore_vcs_tag A.fetch false false ce ⟨⟨[], 0⟩, []⟩
      = (s', .ok ())) :
    ∃ pep, s'.out = [showPepLabel ++ pep,
      currentVersionLabel ++ (updInOf A cfg0 ce.eff today date dg tme fs fps).decide.start] := by
  have hst := updIn_decide_start A cfg0 ce.eff today date dg tme fs fps hsc
  simp only at hst
  rw [hst]
  rw [tie_cmdShow] at hrun
  cases hign : A.ignore_vcs_tag with
  | true =>
    rw [hign] at hrun
    simp only [if_true, showAfter, showOut] at hrun
    injection hrun with h1 _
    subst h1
    exact ⟨cfg0.pep440_version, rfl⟩
  | false =>
    rw [hign] at hrun
    simp only [Bool.false_eq_true, if_false] at hrun ⊢
    rw [tie_cmdUpdateCfgFromVcs_new today cfg0 A.fetch hn, tagsThen_run _ _ _ _ _ hrem] at hrun
    rw [← updCfg_startVersion]
    simp only [] at hrun
    rcases hg : BV.getTags ce.eff.plan A.fetch (cfg0.tag_scope == GenE.TagScope.BRANCH) ⟨[], 0⟩ with ⟨p', o⟩
    rw [hg] at hrun
    cases o with
    | failed => simp [showAfter] at hrun
    | ok =>
      cases hl : latestVersionTag cfg0.version_pattern today (tagsServed ce.eff cfg0.tag_scope ⟨[], 0⟩) with
      | error e => rw [hl] at hrun; simp [showAfter, ofV2, Except.map] at hrun
      | ok l =>
        rw [hl] at hrun
        simp only [showAfter, ofV2, Except.map, showOut] at hrun
        injection hrun with h1 _
        subst h1
        exact ⟨(updCfg cfg0 l).pep440_version, by simp [Except.map]⟩

end BV
