/-
  Proofs/Tie_cmdUpdateExtra.lean — companions of `tie_cmdUpdate_updateFull` (Proofs/Tie_cmdUpdate.lean):

    tie_cmdUpdate_plan        the same run against `BV.plan` for the derived environment `u.env` (Model/Plan.lean)
    cmdUpdate_no_config       no configuration could be read (`config.init` gives None): exit 1, nothing happens
    cmdUpdate_unparsable_date an unparsable `--date`: exit 1, nothing happens (the model takes the date parsed)
    updateRealises_exists     NON-VACUITY: the hypotheses of the main tie are jointly satisfiable for EVERY command line,
                              configuration, failure position, tag / status output and hook behaviour
    decide_cliUpdateVersion   the version decision of the composed model (`UpdIn.decide`, what the main tie reaches) in
                              terms of `BV.cliUpdateVersion` (Model/Cli.lean; C01 / C09)
    cmdUpdate_writes_only_announced   whenever a run writes the project files, `cliUpdateVersion` announces exactly the
                              version that is written (C01 / C09 at the level of the source)
    cmdUpdate_dry_pure        `--dry`: nothing is written, no hook runs, no mutating VCS command (C13)
    cmdUpdate_failed_leaves_untouched   closed gate or failing rewrite: exit 1 and the same three "nothing happens" (C01 / C06)
-/
import BumpverVerif.Proofs.Tie_cmdUpdate
set_option linter.unusedSimpArgs false
namespace BV
open TieL

/-- the translated `cli.update` against `plan` for the derived environment -/
theorem tie_cmdUpdate_plan {α DateTime Ctx : Type} (strptime : Str → Str → Option DateTime)
    (dateOf : DateTime → Date) (subT : Str → Str) (vg : Int) (ctx : Ctx) (cfg0 : GenE.Config α) (ce : CmdEnv)
    (A : UpdArgs) (today date : Date) (dateGiven tme : Bool) (fs : FS) (fps : List (Str × List CPat)) (u : UpdIn)
    (h : UpdateRealises strptime dateOf subT vg cfg0 ce A today date dateGiven tme fs fps u) :
    cmdView (runUpdate today strptime dateOf subT vg (ctx, some cfg0) ce.eff.plan.files A ce ⟨⟨[], 0⟩, []⟩)
      = if !validReleaseTag A.fl.tag || (dateGiven && A.fl.pinDate) then ([], 1) else plan u.c0 u.a ce.eff.plan := by
  rw [tie_cmdUpdate_updateFull strptime dateOf subT vg ctx cfg0 ce A today date dateGiven tme fs fps u h]
  obtain ⟨-, -, -, -, -, -, hufl, hudg, -⟩ := updInOf_fields h.input
  rw [← hufl, ← hudg, h.env]
  cases hv : (!validReleaseTag u.fl.tag || (u.dateGiven && u.fl.pinDate))
  · rw [updateFull_valid u hv]; rfl
  · rw [updateFull_invalid u hv]; rfl

theorem TieL.validateDateRef_error {DateTime : Type} (strptime : Str → Str → Option DateTime) (dateOf : DateTime → Date)
    (date : Option Str) (pin : Bool) (x : Exc) (h : validateDateRef strptime dateOf date pin = .error x) :
    x = .sysExit 1 := by
  unfold validateDateRef at h
  cases date with
  | none => cases h
  | some s =>
    simp only at h
    split at h
    · cases h; rfl
    · split at h
      · cases h; rfl
      · cases h

/-- `config.init` found no (valid) configuration: `sys.exit(1)` before anything is asked of the VCS -/
theorem cmdUpdate_no_config {α DateTime Ctx : Type} (today : Date) (strptime : Str → Str → Option DateTime)
    (dateOf : DateTime → Date) (subT : Str → Str) (vg : Int) (ctx : Ctx) (files : List Str) (A : UpdArgs)
    (ce : CmdEnv) (s0 : CState) :
    cmdView (runUpdate (α := α) today strptime dateOf subT vg (ctx, none) files A ce s0) = (s0.p.evs.reverse, 1) := by
  unfold runUpdate GenL.update
  simp only [Cmd.bind_liftExc, tie_validateReleaseTag, tie_validateDate]
  cases hrt : validReleaseTag A.fl.tag
  · simp [cmdView, Cmd.exitCode, CStop.code]
  · simp only [if_true]
    cases hvd : validateDateRef strptime dateOf A.date A.fl.pinDate with
    | error x =>
      have := validateDateRef_error _ _ _ _ _ hvd
      subst this
      simp [cmdView, Cmd.exitCode, CStop.code]
    | ok md => simp [cmdView, Cmd.exitCode, CStop.code, Cmd.exit, Cmd.throw]

/-- an unparsable `--date`: `sys.exit(1)` before the configuration is even read -/
theorem cmdUpdate_unparsable_date {α DateTime Ctx : Type} (today : Date) (strptime : Str → Str → Option DateTime)
    (dateOf : DateTime → Date) (subT : Str → Str) (vg : Int) (ci : Ctx × Option (GenE.Config α)) (files : List Str)
    (A : UpdArgs) (d : Str) (hd : A.date = some d) (hsp : strptime d "%Y-%m-%d".toList = none)
    (ce : CmdEnv) (s0 : CState) :
    cmdView (runUpdate today strptime dateOf subT vg ci files A ce s0) = (s0.p.evs.reverse, 1) := by
  unfold runUpdate GenL.update
  simp only [Cmd.bind_liftExc, tie_validateReleaseTag, tie_validateDate]
  have hvd : validateDateRef strptime dateOf A.date A.fl.pinDate = .error (.sysExit 1) := by
    unfold validateDateRef
    rw [hd]
    simp only [hsp]
    split <;> rfl
  cases hrt : validReleaseTag A.fl.tag
  · simp [cmdView, Cmd.exitCode, CStop.code]
  · simp [hvd, cmdView, Cmd.exitCode, CStop.code]

/-- NON-VACUITY of `UpdateRealises`: for every command line, configuration (new-style), base environment (which
    invocation fails, which VCS, what the subcommands print, what the hooks answer), project files and file patterns
    there is a command environment that realises the corresponding model input — provided only the facts about the
    PRIMITIVES hold (the remote probes are read coherently, hg's "already tracked!" case, click's guarantees, the
    `--date` text is readable, `-v` compiles the pattern).  The decision Booleans of the plan environment are then
    DEFINED by the model (`u.env`), the diff oracle by `u.rewriteOk`, and every template renders to the empty text. -/
theorem updateRealises_exists {α DateTime : Type} (strptime : Str → Str → Option DateTime) (dateOf : DateTime → Date)
    (subT : Str → Str) (vg : Int) (cfg0 : GenE.Config α) (e0 : EffEnv) (A : UpdArgs) (today date : Date)
    (dateGiven : Bool) (fs : FS) (fps : List (Str × List CPat))
    (hrem : RemoteCoherent e0)
    (hnt : e0.plan.kind = .hg → isInfix alreadyTracked e0.excStderr = false)
    (hnew : cfg0.is_new_pattern = true ∧ isNewPattern cfg0.version_pattern = true)
    (hdate : DateReading strptime dateOf A.date today dateGiven date)
    (hempty : strptime [] "%Y-%m-%d".toList = none)
    (hts : ∀ s, A.tag_scope = some s → (GenF.TagScope.ofValue s).isSome = true)
    (hpre : A.pre_commit_hook ≠ some []) (hpost : A.post_commit_hook ≠ some [])
    (hverb : pyMaxInt vg A.verbose ≠ 0 → ∃ r, pyV2CompilePattern cfg0.version_pattern = .ok r) :
    ∃ (ce : CmdEnv) (u : UpdIn),
      UpdateRealises strptime dateOf subT vg cfg0 ce A today date dateGiven true fs fps u ∧
      ce.eff.output = e0.output ∧ ce.eff.plan.failAt = e0.plan.failAt ∧ ce.eff.plan.kind = e0.plan.kind ∧
      ce.eff.plan.vcsPresent = e0.plan.vcsPresent ∧ ce.eff.plan.preOk = e0.plan.preOk ∧
      ce.eff.plan.postOk = e0.plan.postOk := by
  let u := updInOf A cfg0 e0 today date dateGiven true fs fps
  let ce : CmdEnv :=
    { eff := { e0 with plan := u.env }
      diffOk := fun _ _ _ => if A.dry then u.rewriteOk u.decide else true
      fmt := fun _ _ => some [] }
  refine ⟨ce, u, ?_, rfl, rfl, rfl, rfl, rfl, rfl⟩
  exact
    { input := rfl
      env := rfl
      remote := ⟨hrem.branch, hrem.remoteGroup, hrem.url⟩
      notTracked := hnt
      newStyle := hnew
      date := hdate
      emptyDate := hempty
      scopeChoice := hts
      preHook := hpre
      postHook := hpost
      verbose1 := hverb
      diffDry := by intro hd _; simp only [ce, hd, if_true]
      diffVerbose := by intro hd _ _; simp only [ce, hd, Bool.false_eq_true, if_false]
      fmtCommit := fun _ => ⟨[], rfl⟩
      fmtTag := fun _ => ⟨[], rfl, rfl⟩ }

/-! ### the version decision of the composed model and `cliUpdateVersion` -/

attribute [local irreducible] isValid parseVersionInfo incr formatVersion normalizeSetVersion latestVersionTag
  parseVersionTags startVersion in
/-- THE VERSION PART.  `tie_cmdUpdate_updateFull` ties the translated command to `updateFull u`, whose version decision
    is `u.decide` (start version, candidate, first half of the gate, uniqueness).  This lemma states that decision in
    terms of `BV.cliUpdateVersion` (the hand model of "the version part of `bumpver update`", the subject of C01 / C09
    and of the driver op `cli_update_version`), for the tag listing `G` that the uniqueness check is served:
    * it ANNOUNCES `new` from `old`  ⇒ the composed model's gate is open, it starts from `old`, its candidate is `new`,
      and (when the uniqueness check applies) `new` is not among the valid tags of `G`;
    * it answers EXIT 1 / CRASH  ⇒ either the composed model's gate is closed, or it is open and the uniqueness check
      over `G` rejects / crashes in the same way. -/
theorem decide_cliUpdateVersion (u : UpdIn) (G : List Str)
    (hv : (!validReleaseTag u.fl.tag || (u.dateGiven && u.fl.pinDate)) = false) :
    match cliUpdateVersion u.scope u.a.ignoreVcsTag u.pat u.cfgVersion u.fl u.dateGiven u.date u.today u.setVersion
        u.tagsSeen G with
    | (.announce new pep, old) =>
        u.decide.gateOk = true ∧ u.decide.start = old ∧ u.decide.new = some new ∧ pep = verStr (parseVersion new) ∧
        ((u.scope == .branch || u.setVersion.isSome) = true →
          ∃ vts, parseVersionTags u.pat u.today G = .ok vts ∧ vts.contains new = false)
    | (.exit1, _) =>
        u.decide.gateOk = false ∨
        (u.decide.gateOk = true ∧ (u.scope == .branch || u.setVersion.isSome) = true ∧
          ∃ vts new, u.decide.new = some new ∧ parseVersionTags u.pat u.today G = .ok vts ∧ vts.contains new = true)
    | (.crash e, _) =>
        u.decide.gateOk = false ∨
        (u.decide.gateOk = true ∧ (u.scope == .branch || u.setVersion.isSome) = true ∧
          parseVersionTags u.pat u.today G = .error e) := by
  have hrt : validReleaseTag u.fl.tag = true := by
    cases h : validReleaseTag u.fl.tag
    · rw [h] at hv; cases hv
    · rfl
  have hdp : (u.dateGiven && u.fl.pinDate) = false := by
    rw [hrt] at hv; simpa using hv
  unfold cliUpdateVersion
  simp only [hrt, hdp, Bool.not_true, Bool.false_eq_true, if_false]
  -- the start version
  have hstart : ∀ (r : Except PErr Str),
      (if u.a.ignoreVcsTag = true then Except.ok u.cfgVersion
        else startVersion u.scope u.pat u.cfgVersion u.today u.tagsSeen) = r →
      u.startE = (match r with | .ok v => some v | .error _ => none) := by
    intro r hr
    unfold UpdIn.startE
    cases hign : u.a.ignoreVcsTag
    · rw [hign] at hr; simp only [Bool.false_eq_true, if_false] at hr ⊢; rw [hr]; cases r <;> rfl
    · rw [hign] at hr; simp only [if_true] at hr ⊢; rw [← hr]
  generalize hr : (if u.a.ignoreVcsTag = true then Except.ok u.cfgVersion
        else startVersion u.scope u.pat u.cfgVersion u.today u.tagsSeen) = r
  have hsE := hstart r hr
  cases r with
  | error e =>
    left
    exact decide_gateOk_of_cand_none u (cand_none_of_startE_none u hsE)
  | ok old =>
    have hsE' : u.startE = some old := hsE
    simp only
    -- the candidate
    have hcand : u.cand = (match candidateE old u.pat u.fl u.date u.today u.setVersion with
        | .ok r => r
        | .error _ => none) := by
      unfold UpdIn.cand candidateE
      rw [hsE']
      cases u.setVersion with
      | none => rfl
      | some v => cases hn : normalizeSetVersion u.pat v u.today <;> simp [hn, Except.map]
    cases hc : candidateE old u.pat u.fl u.date u.today u.setVersion with
    | error e =>
      rw [hc] at hcand
      left; exact decide_gateOk_of_cand_none u hcand
    | ok o =>
      rw [hc] at hcand
      cases o with
      | none => left; exact decide_gateOk_of_cand_none u hcand
      | some new =>
        obtain ⟨hst, hnw, hgate, -⟩ := decide_of_cand u hsE' hcand
        simp only
        rw [gate_split]
        cases hg : gate u.pat old new false [] u.today with
        | error e => left; rw [hgate, hg]
        | ok v =>
          cases v with
          | accept =>
            have hgo : u.decide.gateOk = true := by rw [hgate, hg]
            by_cases huq : (u.scope == TagScope.branch || u.setVersion.isSome) = true
            · simp only [huq, if_true]
              cases hp : parseVersionTags u.pat u.today G with
              | error e => right; exact ⟨hgo, trivial, rfl⟩
              | ok vts =>
                by_cases hcn : vts.contains new = true
                · simp only [hcn, if_true]
                  right; exact ⟨hgo, trivial, vts, new, hnw, rfl, hcn⟩
                · simp only [hcn, Bool.false_eq_true, if_false]
                  exact ⟨hgo, hst, hnw, trivial, fun _ => ⟨vts, rfl, by simpa using hcn⟩⟩
            · simp only [huq, Bool.false_eq_true, if_false]
              exact ⟨hgo, hst, hnw, trivial, fun h => h.elim⟩
          | rejectPattern => left; rw [hgate, hg]
          | rejectNotGreater => left; rw [hgate, hg]
          | rejectNotUnique => left; rw [hgate, hg]

/-- the two ties together, at the level of the SOURCE: whenever a run of the translated `cli.update` writes the project
    files, `cliUpdateVersion` (start version from the tags the run saw, candidate, gate) ANNOUNCES the version that is
    written, from the version the hooks and messages see as the old one.  (With the theorems of Props/C01 and Props/C09
    about an announcing `cliUpdateVersion`: that version matches the pattern in full and is strictly greater.) -/
theorem cmdUpdate_writes_only_announced {α DateTime Ctx : Type} (strptime : Str → Str → Option DateTime)
    (dateOf : DateTime → Date) (subT : Str → Str) (vg : Int) (ctx : Ctx) (cfg0 : GenE.Config α) (ce : CmdEnv)
    (A : UpdArgs) (today date : Date) (dateGiven tme : Bool) (fs : FS) (fps : List (Str × List CPat)) (u : UpdIn)
    (h : UpdateRealises strptime dateOf subT vg cfg0 ce A today date dateGiven tme fs fps u)
    (hw : Ev.rewrite ∈ (cmdView (runUpdate today strptime dateOf subT vg (ctx, some cfg0) ce.eff.plan.files A ce
      ⟨⟨[], 0⟩, []⟩)).1) :
    A.dry = false ∧
    ∃ new pep, cliUpdateVersion u.scope A.ignore_vcs_tag cfg0.version_pattern cfg0.current_version A.fl dateGiven date
        today A.set_version u.tagsSeen [] = (.announce new pep, u.decide.start) ∧
      ce.eff.plan.announced = new ∧ ce.eff.plan.startVersion = u.decide.start := by
  rw [tie_cmdUpdate_updateFull strptime dateOf subT vg ctx cfg0 ce A today date dateGiven tme fs fps u h] at hw
  obtain ⟨hdry, hgo, -, hv⟩ := Update_rewrite_needs u hw
  obtain ⟨-, -, e1, e9, e2, e3, e4, e5, e6, e7, e8, -⟩ := updInOf_fields h.input
  refine ⟨by rw [← e9]; exact hdry, ?_⟩
  have hd := decide_cliUpdateVersion u [] hv
  rw [e1, e2, e3, e4, e5, e6, e7, e8] at hd
  have han : ce.eff.plan.announced = u.decide.new.getD [] := by rw [h.env]; rfl
  have hsv : ce.eff.plan.startVersion = u.decide.start := by rw [h.env]; rfl
  rcases hc : cliUpdateVersion u.scope A.ignore_vcs_tag cfg0.version_pattern cfg0.current_version A.fl dateGiven date
      today A.set_version u.tagsSeen [] with ⟨o, old⟩
  rw [hc] at hd
  cases o with
  | announce new pep =>
    obtain ⟨-, hst, hnw, -, -⟩ := hd
    refine ⟨new, pep, ?_, by rw [han, hnw]; rfl, hsv⟩
    rw [hst]
  | exit1 =>
    rcases hd with hd | ⟨-, -, vts, new, -, hp, hcn⟩
    · rw [hgo] at hd; cases hd
    · rw [parseVersionTags_nil] at hp
      cases hp
      cases hcn
  | crash e =>
    rcases hd with hd | ⟨-, -, hp⟩
    · rw [hgo] at hd; cases hd
    · rw [parseVersionTags_nil] at hp
      cases hp

/-- C13 at the level of the SOURCE: a run of the translated `cli.update` with `--dry` writes nothing, runs no hook and
    issues no mutating VCS command (`Update_dry_pure` through the tie) -/
theorem cmdUpdate_dry_pure {α DateTime Ctx : Type} (strptime : Str → Str → Option DateTime)
    (dateOf : DateTime → Date) (subT : Str → Str) (vg : Int) (ctx : Ctx) (cfg0 : GenE.Config α) (ce : CmdEnv)
    (A : UpdArgs) (today date : Date) (dateGiven tme : Bool) (fs : FS) (fps : List (Str × List CPat)) (u : UpdIn)
    (h : UpdateRealises strptime dateOf subT vg cfg0 ce A today date dateGiven tme fs fps u) (hd : A.dry = true) :
    ∀ ev ∈ (cmdView (runUpdate today strptime dateOf subT vg (ctx, some cfg0) ce.eff.plan.files A ce ⟨⟨[], 0⟩, []⟩)).1,
      ev ≠ .rewrite ∧ ev.mutating = false ∧ ev.isHook = false := by
  rw [tie_cmdUpdate_updateFull strptime dateOf subT vg ctx cfg0 ce A today date dateGiven tme fs fps u h]
  have e9 : u.a.dry = true := by rw [h.input]; exact hd
  exact (Update_dry_pure u e9).2

/-- C01 (last clause) / C06 at the level of the SOURCE: when the model's gate is closed (no acceptable new version) or
    the rewrite phase cannot complete, the translated command exits 1, writes nothing, runs no hook and issues no
    mutating VCS command -/
theorem cmdUpdate_failed_leaves_untouched {α DateTime Ctx : Type} (strptime : Str → Str → Option DateTime)
    (dateOf : DateTime → Date) (subT : Str → Str) (vg : Int) (ctx : Ctx) (cfg0 : GenE.Config α) (ce : CmdEnv)
    (A : UpdArgs) (today date : Date) (dateGiven tme : Bool) (fs : FS) (fps : List (Str × List CPat)) (u : UpdIn)
    (h : UpdateRealises strptime dateOf subT vg cfg0 ce A today date dateGiven tme fs fps u)
    (hf : u.decide.gateOk = false ∨ u.rewriteOk u.decide = false) :
    let v := cmdView (runUpdate today strptime dateOf subT vg (ctx, some cfg0) ce.eff.plan.files A ce ⟨⟨[], 0⟩, []⟩)
    v.2 = 1 ∧ ∀ ev ∈ v.1, ev ≠ .rewrite ∧ ev.mutating = false ∧ ev.isHook = false := by
  intro v
  simp only [v]
  rw [tie_cmdUpdate_updateFull strptime dateOf subT vg ctx cfg0 ce A today date dateGiven tme fs fps u h]
  obtain ⟨h1, -, h3⟩ := Update_failed_leaves_untouched u hf
  exact ⟨h1, h3⟩

end BV
