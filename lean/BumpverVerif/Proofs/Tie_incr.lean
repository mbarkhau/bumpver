/-
  Proofs/Tie_incr.lean — the definition GENERATED from the Python source of `v2version.incr` equals the
  hand model `BV.incr`.

  The abstraction, made explicit in the statement:
  * the keyword-only arguments major … pin_date are the fields of the model's `IncrFlags` (`mkFlags`);
  * `maybe_date` / `version.TODAY`: the model takes the bump date `date` = `maybe_date` or TODAY, and
    `today`; dates are (year, month, day) triples;
  * callees that are NOT translated are the MODEL functions on both sides: `parse_version_info` ↦
    `parseVersionInfo`, `cal_info` ↦ `calInfo`, `format_version` ↦ `formatVersion`,
    `_parse_pattern_fields` ↦ `parsePatternFields`;
  * callees that ARE translated enter through their ties: `is_valid_week_pattern`, `_ver_to_cal_info`,
    `_is_cal_gt`, `_incr_numeric` (and through it `_reset_rollover_fields`, `_iter_reset_field_items`);
  * `try … except version.PatternError: return None` is a match on the error of `parseVersionInfo`.

  HYPOTHESIS `hf` (`_parse_pattern_fields(raw_pattern)` does not raise).  Python evaluates it LAST, inside
  `_reset_rollover_fields`; the hand model evaluates `parsePatternFields raw` BEFORE `incrNumeric`.  When it
  raises (ValueError for unbalanced brackets) AND `_incr_numeric` raises something else first, the two
  disagree on WHICH exception comes out.  Witness (real code): `incr("\\", "\\\\", tag="bogus")` with
  raw_pattern = two backslashes raises KeyError('bogus') (from `PEP440_TAG_BY_TAG[tag]`), while
  `_parse_pattern_fields("\\\\")` alone raises ValueError; the model answers with the latter.
  Both are uncaught exceptions of a call with a malformed pattern; no result value is affected.
  The field-name hypothesis of the three inner ties is DISCHARGED here (`parsePatternFields_known`):
  `parsePatternFields` only returns values of the generated `PATTERN_PART_FIELDS`, all of them fields.
-/
import BumpverVerif.Gen.F_incr
import BumpverVerif.Proofs.Tie_incrNumeric
import BumpverVerif.Proofs.Tie_isValidWeekPattern
import BumpverVerif.Proofs.Tie_verToCalInfo
import BumpverVerif.Proofs.Tie_isCalGt
import BumpverVerif.Proofs.Basics
namespace BV

namespace TieA

/-! ### `_parse_pattern_fields` only returns field names -/

theorem insertIdx_snd (P : Str → Prop) (x : (Nat × Nat) × Str) (l : List ((Nat × Nat) × Str))
    (hx : P x.2) (hl : ∀ y ∈ l, P y.2) : ∀ y ∈ insertIdx x l, P y.2 := by
  induction l with
  | nil => intro y hy; simp [insertIdx] at hy; subst hy; exact hx
  | cons z rest ih =>
    intro y hy
    unfold insertIdx at hy
    split at hy
    · rcases List.mem_cons.mp hy with e | h
      · subst e; exact hx
      · exact hl y (List.mem_cons_of_mem _ h)
    · split at hy
      · rcases List.mem_cons.mp hy with e | h
        · subst e; exact hx
        · exact hl y h
      · rcases List.mem_cons.mp hy with e | h
        · exact e ▸ hl z List.mem_cons_self
        · exact ih (fun w hw => hl w (List.mem_cons_of_mem _ hw)) y h

theorem foldl_insertIdx_snd (P : Str → Prop) (xs acc : List ((Nat × Nat) × Str))
    (hxs : ∀ x ∈ xs, P x.2) (hacc : ∀ y ∈ acc, P y.2) :
    ∀ y ∈ xs.foldl (fun acc x => insertIdx x acc) acc, P y.2 := by
  induction xs generalizing acc with
  | nil => exact hacc
  | cons x rest ih =>
    exact ih _ (fun w hw => hxs w (List.mem_cons_of_mem _ hw))
      (insertIdx_snd P x acc (hxs x List.mem_cons_self) hacc)

/-- every value of the generated `PATTERN_PART_FIELDS` is a field of V2VersionInfo -/
theorem partFields_values_known : ∀ pf ∈ Gen.partFields, pf.2 ∈ GenF.fieldNamesVInfo := by decide

theorem parsePatternFields_known (raw : Str) (fs : List Str) (h : parsePatternFields raw = .ok fs) :
    ∀ f ∈ fs, f ∈ GenF.fieldNamesVInfo := by
  unfold parsePatternFields at h
  split at h
  · cases h
  · next items _ =>
    simp only [Except.ok.injEq] at h
    subst h
    intro f hf
    rcases List.mem_map.mp hf with ⟨y, hy, rfl⟩
    refine foldl_insertIdx_snd (fun f => f ∈ GenF.fieldNamesVInfo) _ [] ?_ (by intro y hy; cases hy) y hy
    intro x hx
    rcases List.mem_flatMap.mp hx with ⟨si, _, hx'⟩
    rcases List.mem_filterMap.mp hx' with ⟨part, _, hpart⟩
    split at hpart
    · next i _ =>
      cases hl : lookup part Gen.partFields with
      | none => rw [hl] at hpart; cases hpart
      | some fld =>
        rw [hl] at hpart
        simp only [Option.map_some, Option.some.injEq] at hpart
        subst hpart
        exact partFields_values_known _ (lookup_mem hl)
    · cases hpart

/-! ### the model's `incr` in explicit form -/

/-- the calendar `incr` bumps to: the old one under `--pin-date`, else the bump date's -/
def incrCal (old : VInfo) (pinDate : Bool) (date today : Nat × Nat × Nat) : CalOpt :=
  if pinDate then verToCalInfo old (calInfo today.1 today.2.1 today.2.2)
  else (calInfo date.1 date.2.1 date.2.2).toOpt

/-- never backwards: an old version from the future keeps its calendar -/
def incrCur (old : VInfo) (curC : CalOpt) : VInfo :=
  if isCalGt old.cal curC then old else { old with cal := curC }

/-- `incr` from the `--tag-num` gate on -/
def incrCore (oldVersion raw : Str) (fl : IncrFlags) (old cur : VInfo) : Except PErr (Option Str) :=
  if fl.tagNum && !(match fl.tag with | some t => !t.isEmpty | none => false) && !(cur.tag != "final".toList)
  then .ok none
  else
    match parsePatternFields raw with
    | .error e => .error e
    | .ok fields =>
      match incrNumeric fields old cur fl with
      | .error e => .error e
      | .ok new =>
        match formatVersion new raw with
        | .error e => .error e
        | .ok s => if s.isEmpty then .ok none else if s == oldVersion then .ok none else .ok (some s)

theorem incrCore_do (oldVersion raw : Str) (fl : IncrFlags) (old cur : VInfo) :
    (if (fl.tagNum && !(match fl.tag with | some t => !t.isEmpty | none => false) && !(cur.tag != "final".toList)) = true
     then (pure none : Except PErr (Option Str))
     else do
       let fields ← parsePatternFields raw
       let new ← incrNumeric fields old cur fl
       let s ← formatVersion new raw
       if s.isEmpty then pure none else if s == oldVersion then pure none else pure (some s)) =
      incrCore oldVersion raw fl old cur := by
  unfold incrCore
  refine ite_congr rfl (fun _ => rfl) (fun _ => ?_)
  cases parsePatternFields raw with
  | error e => rfl
  | ok fields =>
    cases hn : incrNumeric fields old cur fl with
    | error e => simp only [bind, Except.bind, hn]
    | ok new =>
      cases hv : formatVersion new raw with
      | error e => simp only [bind, Except.bind, hn, hv]
      | ok s => simp only [bind, Except.bind, hn, hv]; rfl

theorem incr_eq (oldVersion raw : Str) (fl : IncrFlags) (date today : Nat × Nat × Nat) :
    incr oldVersion raw fl date today =
      if !isValidWeekPattern raw then .ok none
      else match parseVersionInfo oldVersion raw today with
        | .error .pattern => .ok none
        | .error e => .error e
        | .ok old => incrCore oldVersion raw fl old (incrCur old (incrCal old fl.pinDate date today)) := by
  unfold incr
  cases isValidWeekPattern raw
  · simp only [Bool.not_false, if_true]; rfl
  · simp only [Bool.not_true, Bool.false_eq_true, if_false]
    cases parseVersionInfo oldVersion raw today with
    | error e => cases e <;> rfl
    | ok old =>
      simp only [pure_bind]
      exact incrCore_do oldVersion raw fl old (incrCur old (incrCal old fl.pinDate date today))

/-! ### the tie -/

theorem calOpt_eta (c : CalOpt) :
    ({ yearY := c.yearY, yearG := c.yearG, quarter := c.quarter, month := c.month, dom := c.dom, doy := c.doy,
       weekW := c.weekW, weekU := c.weekU, weekV := c.weekV } : CalOpt) = c := rfl

end TieA
open TieA

theorem tie_incr (old_version raw_pattern : Str) (major minor patch : Bool) (tag : Option Str)
    (tag_num pin_increments pin_date : Bool) (maybe_date : Option (Nat × Nat × Nat))
    (today : Nat × Nat × Nat)
    (hf : ∃ fs, parsePatternFields raw_pattern = .ok fs) :
    GenF.incr old_version raw_pattern major minor patch tag tag_num pin_increments pin_date maybe_date today =
      incr old_version raw_pattern (mkFlags major minor patch tag tag_num pin_increments pin_date)
        (match maybe_date with | none => today | some d => d) today := by
  obtain ⟨fs, hfs⟩ := hf
  have hk := parsePatternFields_known raw_pattern fs hfs
  rw [incr_eq]
  unfold GenF.incr
  rw [tie_isValidWeekPattern]
  cases isValidWeekPattern raw_pattern
  · rfl
  · simp -zeta only [Bool.not_true, Bool.false_eq_true, if_false, if_true]
    cases parseVersionInfo old_version raw_pattern today with
    | error e => cases e <;> rfl
    | ok old =>
      have hnum : ∀ c tg, GenF.incrNumeric raw_pattern old c major minor patch tg tag_num pin_increments (.ok fs) =
          incrNumeric fs old c (mkFlags major minor patch tg tag_num pin_increments pin_date) :=
        fun c tg => tie_incrNumeric raw_pattern fs old c major minor patch tg tag_num pin_increments pin_date hk
      have hemp : ∀ s : Str, (s == "".toList) = s.isEmpty := by intro s; cases s <;> rfl
      simp -zeta only [tie_verToCalInfo, tie_isCalGt, hfs, hemp]
      -- the choice of the calendar (bump date or pinned), then the never-backwards guard: the model's `incrCur`
      extract_lets date cC
      simp -zeta only []
      extract_lets cI _ _ cur ht
      have hcur : incrCur old (incrCal old (mkFlags major minor patch tag tag_num pin_increments pin_date).pinDate
          (match maybe_date with | none => today | some d => d) today) = cur := by
        cases maybe_date <;> cases pin_date <;> rfl
      have hC : cC = old := rfl
      have hht : (cur.tag != "final".toList) = ht := rfl
      simp only [incrCore, hfs, hcur, hht]
      clear_value ht cur cC
      subst hC
      simp only [hnum, mkFlags]
      -- the `--tag-num` gate; behind it both sides are the same three steps
      cases tag_num
      · rfl
      · cases tag with
        | none => cases ht <;> rfl
        | some t =>
          cases t <;> cases ht <;> rfl
end BV
