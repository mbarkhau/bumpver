/-
  Proofs/Tie_v1FormatVersion.lean — the definition GENERATED from `v1version.format_version(vinfo, raw_pattern)` equals
  the hand model `BV.v1FormatVersion` (Model/V1.lean) for every record whose `bid` is a digit string:

   * `full_pattern`: one `str.replace("{" + part + "}", format)` per entry of `FULL_PART_FORMATS`, in table order;
   * `kwargs`: `vinfo._asdict()`, then `release` / `pep440_tag` (empty for `final`; `"-" + tag` and
     `PEP440_TAG_BY_TAG[tag] + "0"` otherwise — KeyError for an unknown tag), `release_tag`, `yy` / `yyyy` only for a
     truthy year, `BID = int(bid)`, then the loop over `ID_FIELDS_BY_PART` (the part named like its field gets the
     integer, the repeated-letter parts the zero-filled text);
   * `full_pattern.format(**kwargs)` (callee: the model's `v1PyFormat`, a trusted primitive).
  The dict is an association list with the NEWEST binding first on both sides, so the tie is an equality of lists.

  Hypothesis `hbid : isDigitStr v.bid`: `int(vinfo.bid, 10)` is rendered as `strToNat`; the model answers
  `unsupported` for anything that is not a digit string (Python's `int` accepts `" 12 "`, `"+1"`, `"1_0"` …).
  The loop can raise KeyError (`kwargs[field]`) and AssertionError in Python; with the GENERATED table
  `ID_FIELDS_BY_PART` neither happens (`v1IdFieldsByPart_ok`, kernel-checked over the 22 entries), which is why the
  model's loop is a pure fold.  The model as a chain of these steps is `v1FormatVersion_spec` (Proofs/V1Lemmas.lean).
-/
import BumpverVerif.Gen.F_v1FormatVersion
import BumpverVerif.Proofs.V1Lemmas
set_option linter.unusedSimpArgs false
set_option linter.unusedVariables false
namespace BV
open GenV1

/-! ### generic: a monadic fold that cannot fail -/

/-- a monadic fold whose every step succeeds (under an invariant `K` of the state and a property `P` of the
    elements) is the pure fold -/
theorem v1_foldlM_eq_ok {σ β : Type} (K : σ → Prop) (P : β → Prop) (stepM : σ → β → Except V1Err σ) (step : σ → β → σ)
    (h : ∀ s b, K s → P b → stepM s b = .ok (step s b) ∧ K (step s b)) :
    ∀ (l : List β) (s : σ), (∀ b ∈ l, P b) → K s →
      List.foldlM (m := Except V1Err) stepM s l = .ok (List.foldl step s l) := by
  intro l
  induction l with
  | nil => intro s _ _; rfl
  | cons b l ih =>
    intro s hP hK
    obtain ⟨h1, h2⟩ := h s b hK (hP b List.mem_cons_self)
    simp only [List.foldlM_cons, List.foldl_cons, h1]
    exact ih (step s b) (fun b' hb' => hP b' (List.mem_cons_of_mem _ hb')) h2

theorem v1_lookup_isSome_eq_keys {α} (f : Str) (kw : List (Str × α)) :
    (lookup f kw).isSome = (kw.map (fun kv => kv.1)).contains f := by
  induction kw with
  | nil => rfl
  | cons kv kw ih =>
    obtain ⟨k, v⟩ := kv
    simp only [lookup, List.map_cons, List.contains_cons]
    by_cases h : f = k
    · simp [h]
    · simp [h, ih]

theorem v1_lookup_isSome_append {α} (f : Str) (a b : List (Str × α)) (h : (lookup f b).isSome = true) :
    (lookup f (a ++ b)).isSome = true := by
  induction a with
  | nil => exact h
  | cons kv a ih =>
    obtain ⟨k, v⟩ := kv
    simp only [List.cons_append, lookup]
    split <;> simp [ih]

/-! ### the loop never fails on the generated table -/

def idFields : List Str := ["major".toList, "minor".toList, "patch".toList, "bid".toList]

/-- what the loop needs of a table entry: a known field, and either the part is the field's name (up to case) or
    it is one repeated character (the `assert`) -/
def idPartOk (pf : Str × Str) : Bool :=
  idFields.contains pf.2 && (lowerStr pf.1 == lowerStr pf.2 || (List.eraseDups pf.1).length == 1)

theorem v1IdFieldsByPart_ok : ∀ pf ∈ Gen.v1IdFieldsByPart, idPartOk pf = true := by decide +kernel

/-- the invariant of the loop: the kwargs still end in `vinfo._asdict()` (bindings are only added in front) -/
def kwOver (v : V1Info) (kw : List (Str × FV)) : Prop := ∃ pre, kw = pre ++ fmtBase v

theorem kwOver_lookup (v : V1Info) (kw : List (Str × FV)) (h : kwOver v kw) (f : Str) (hf : idFields.contains f = true) :
    ∃ val, lookup f kw = some val := by
  obtain ⟨pre, rfl⟩ := h
  have hb : (lookup f (fmtBase v)).isSome = true := by
    rw [v1_lookup_isSome_eq_keys]
    have : (fmtBase v).map (fun kv => kv.1) = ["year".toList, "quarter".toList, "month".toList, "dom".toList,
        "doy".toList, "iso_week".toList, "us_week".toList, "major".toList, "minor".toList, "patch".toList,
        "bid".toList, "tag".toList] := rfl
    rw [this]
    have hmem : f ∈ idFields := by simpa using hf
    clear hf
    revert f
    decide
  have := v1_lookup_isSome_append f pre (fmtBase v) hb
  exact Option.isSome_iff_exists.mp this

theorem kwOver_cons (v : V1Info) (kw : List (Str × FV)) (h : kwOver v kw) (x : Str × FV) : kwOver v (x :: kw) := by
  obtain ⟨pre, rfl⟩ := h
  exact ⟨x :: pre, rfl⟩

theorem kwOver_idStep (v : V1Info) (kw : List (Str × FV)) (h : kwOver v kw) (pf : Str × Str) :
    kwOver v (idStep kw pf) := by
  unfold idStep
  dsimp only
  split
  · split <;> exact kwOver_cons v kw h _
  · exact kwOver_cons v kw h _

/-- after the head and the year are decided: rewrite the generated loop into the model's fold, then compare the
    kwargs lists -/
macro "fmt_finish" v:ident raw:ident rp:term:max hloop:ident hstep:ident hok:ident hs:ident* : tactic => `(tactic| (
    refine (congrArg (fun r => Except.bind r _) ($hloop:ident _ _ ($hstep:ident _ ?hs) ?hk)).trans ?_
    case hk =>
      refine ⟨fmtPre $v:ident $rp, ?_⟩
      simp only [fmtPre, fmtBase, List.nil_append, List.cons_append, if_true, if_false, Bool.false_eq_true, $[$hs:term],*]
      try rfl
    case hs =>
      intro s b val hval hor
      try dsimp only
      have hcomm : (lowerStr b.2 == lowerStr b.1) = (lowerStr b.1 == lowerStr b.2) := by
        rw [Bool.eq_iff_iff]; simp only [beq_iff_eq]; exact eq_comm
      try simp only [hcomm]
      simp only [pyGetItem, hval, v1_ebind_ok, idStep, Option.getD_some]
      by_cases hl : (lowerStr b.1 == lowerStr b.2) = true
      · simp only [hl, if_true, v1_ebind_ok]
        cases val <;> rfl
      · have hone : ((List.eraseDups b.1).length == 1) = true := by
          simp only [Bool.or_eq_true] at hor
          rcases hor with h | h
          · exact absurd h hl
          · exact h
        simp only [hl, if_false, Bool.false_eq_true, hone, pyAssert, if_true, v1_ebind_ok]
        cases val <;> rfl
    rw [v1_ebind_ok, $hok:ident]
    refine congrArg (fun kw => v1PyFormat (List.foldl idStep kw Gen.v1IdFieldsByPart)
      (v1FullPattern Gen.v1FullPartFormats $raw:ident)) ?_
    simp only [fmtPre, fmtBase, List.nil_append, List.cons_append, if_true, if_false, Bool.false_eq_true, $[$hs:term],*]
    try rfl))

/-! ### the tie -/

theorem tie_v1FormatVersion (v : V1Info) (raw : Str) (hbid : isDigitStr v.bid = true) :
    GenV1.v1FormatVersion v raw = v1FormatVersion v raw := by
  rw [v1FormatVersion_spec v raw hbid]
  unfold GenV1.v1FormatVersion
  dsimp only
  -- the pattern with the composite parts expanded
  have hfp : ∀ (f : Str → Str × Str → Str), (∀ st it, f st it = pyReplace (("{".toList ++ it.1) ++ "}".toList) it.2 st) →
      List.foldl f raw Gen.v1FullPartFormats = v1FullPattern Gen.v1FullPartFormats raw := by
    intro f hf
    unfold v1FullPattern
    refine congrArg (fun g => List.foldl g raw Gen.v1FullPartFormats) ?_
    funext st it
    rw [hf]
    simp [pyReplace]
  rw [hfp _ (fun st it => rfl)]
  -- release / pep440_tag: `final`, a known tag, an unknown tag (KeyError)
  refine v1_ebind_congr_map
    (fun rp => [("pep440_tag".toList, FV.str rp.2), ("release".toList, FV.str rp.1)] ++ fmtBase v) ?_ (fun rp => ?_)
  · unfold fmtHead
    have htn : (v.tag != "final".toList) = !(v.tag == "final".toList) := rfl
    cases ht : (v.tag == "final".toList) with
    | true =>
      simp only [htn, ht, Bool.not_true, Bool.not_false, Bool.false_eq_true, if_true, if_false]
      rfl
    | false =>
      simp only [htn, ht, Bool.not_true, Bool.not_false, Bool.false_eq_true, if_true, if_false]
      unfold pyGetItem
      cases lookup v.tag Gen.pep440TagByTag <;> rfl
  · -- the kwargs before the loop: `yy` / `yyyy` only for a truthy year
    refine (congrArg (fun kw => Except.bind (List.foldlM _ kw _) _)
      (?_ : _ = fmtPre v rp ++ fmtBase v)).trans ?_
    · unfold fmtPre
      rcases v.year with _ | y
      · rfl
      · by_cases hy : (y != 0) = true <;> simp only [hy, if_true, if_false, Bool.false_eq_true] <;> rfl
    -- the loop is the model's pure fold: `kwargs[field]` is bound, the `assert` holds; by cases on the looked-up
    -- value, not on the shape of the code
    refine (congrArg (fun r => Except.bind r _) (v1_foldlM_eq_ok (kwOver v) (fun b => idPartOk b = true) _ idStep
      (fun s b hK hP => ⟨?_, kwOver_idStep v s hK b⟩) _ _ v1IdFieldsByPart_ok ⟨fmtPre v rp, rfl⟩)).trans ?_
    · unfold idPartOk at hP
      simp only [Bool.and_eq_true] at hP
      obtain ⟨val, hval⟩ := kwOver_lookup v s hK b.2 hP.1
      have hcomm : (lowerStr b.2 == lowerStr b.1) = (lowerStr b.1 == lowerStr b.2) := by
        rw [Bool.eq_iff_iff]; simp only [beq_iff_eq]; exact eq_comm
      try simp only [hcomm]
      simp only [pyGetItem, hval, v1_ebind_ok, idStep, Option.getD_some]
      by_cases hl : (lowerStr b.1 == lowerStr b.2) = true
      · simp only [hl, if_true, v1_ebind_ok]
        cases val <;> rfl
      · have hone : ((List.eraseDups b.1).length == 1) = true := by
          rcases Bool.or_eq_true _ _ ▸ hP.2 with h | h
          · exact absurd h hl
          · exact h
        simp only [hl, if_false, Bool.false_eq_true, hone, pyAssert, if_true, v1_ebind_ok]
        cases val <;> rfl
    · rw [v1_ebind_ok]
      cases v1PyFormat _ _ <;> rfl
/-- `hbid` is needed: for a `bid` that is not a digit string the model says `unsupported` (it does not model what
    `int()` accepts beyond digits), the generated code computes with `strToNat` -/
theorem tie_v1FormatVersion_bid_witness :
    let v : V1Info := { year := none, quarter := none, month := none, dom := none, doy := none, isoWeek := none,
                        usWeek := none, major := 0, minor := 0, patch := 0, bid := [], tag := "final".toList }
    GenV1.v1FormatVersion v "x".toList = .ok "x".toList ∧ v1FormatVersion v "x".toList = .error .unsupported := by
  decide +kernel

end BV
