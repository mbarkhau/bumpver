/-
  Proofs/Tie_v1IterRewritten.lean — the definition GENERATED from the Python source of
  `v1rewrite.iter_rewritten` (Gen/F_v1IterRewritten.lean: the generator run to exhaustion, with the lazily
  consumed generator `rewrite.iter_path_patterns_items` inlined) against the hand model `v1PlanWrites`:
  it leaves the file system as it is, and the list of records it yields is, file by file, what the model
  plans to write — or it fails with the model's error at the model's file.

  The proof asks of ONE iteration only that it does not touch the file system and appends the record of
  the file (path, separator, split content, the model's `v1RewriteLines` of it) or fails as the model does
  (the fold lemmas `TieM.planRfds…` of Tie_iterRewritten at `v1Engine`).
-/
import BumpverVerif.Gen.F_v1IterRewritten
import BumpverVerif.Proofs.Tie_v1RfdFromContent
import BumpverVerif.Proofs.Tie_iterRewritten
namespace BV

open GenF (PatternMatch Pattern RewrittenFileData)

namespace TieM

/-- every configured pattern was made by the legacy compiler -/
def WfFilePatterns1 (fp : List (Str × List Pattern)) : Prop := ∀ it ∈ fp, ∀ p ∈ it.2, Wf1 p

end TieM

/-- `v1rewrite.iter_rewritten` run to exhaustion: the file system is untouched, the result is `planRfds` -/
theorem tie_v1IterRewritten (file_patterns : List (Str × List Pattern)) (new_vinfo : V1Info) (fs : FS)
    (hwf : TieM.WfFilePatterns1 file_patterns) :
    GenF.v1IterRewritten file_patterns new_vinfo fs
      = (fs, TieM.planRfds v1Engine new_vinfo fs file_patterns []) := by
  unfold GenF.v1IterRewritten
  simp only []
  rw [TieM.pyForFS_eq_planRfds v1Engine new_vinfo (fun it => ∀ p ∈ it.2, TieM.Wf1 p) _ ?hb file_patterns hwf]
  case hb =>
    intro it acc fs' hit
    simp only [GenF.pyExists, GenF.pyRead, TieM.stepRfds]
    have hl : lookup it.1 fs' = none ∨ ∃ c, lookup it.1 fs' = some c := by
      cases lookup it.1 fs' <;> simp
    rcases hl with hl | ⟨content, hl⟩
    · simp [hl]
    · simp only [hl, Option.isSome_some, if_true, tie_v1RfdFromContent it.2 new_vinfo content _ hit, v1RewriteLines]
      cases v1Engine.rewriteLines (it.2.map Pattern.abs) new_vinfo (splitOn (detectLineSep content) content) <;> rfl
  cases TieM.planRfds v1Engine new_vinfo fs file_patterns [] <;> rfl

/-- … and that is the model's `v1PlanWrites` -/
theorem tie_v1IterRewritten_planWrites (file_patterns : List (Str × List Pattern)) (new_vinfo : V1Info) (fs : FS)
    (hwf : TieM.WfFilePatterns1 file_patterns) :
    (GenF.v1IterRewritten file_patterns new_vinfo fs).1 = fs ∧
    ((GenF.v1IterRewritten file_patterns new_vinfo fs).2).map (List.map RewrittenFileData.toWrite)
      = v1PlanWrites fs new_vinfo (GenF.absFilePatterns file_patterns) := by
  rw [tie_v1IterRewritten _ _ _ hwf]
  refine ⟨rfl, ?_⟩
  simp only []
  rw [TieM.planRfds_planWrites]
  unfold v1PlanWrites
  cases v1Engine.planWrites fs new_vinfo (GenF.absFilePatterns file_patterns) <;> simp [Except.map]

end BV
