/-
  Proofs/ArgvLemmas.lean — lemmas shared by the argv-level ties (Proofs/Tie_argv*.lean).

  * running the combinators of `BV.TieK.Eff` (Model/EffK.lean) at a world and a trace; monad laws;
  * `Eff.mapM` of `str.format` over the tokens  =  the hand model's `mapFormat`;
  * the FORMAT SKELETON of a template: the names `str.format` looks up, in order, and the error it ends in when
    all of them are there.  `errOf_fmtGo`: whether and how `tmpl.format(**kw)` fails is determined by the
    skeleton and by WHICH keys `kw` has.  With it "formatting the whole template (for the log line of
    `VCSAPI.__call__`) fails exactly when formatting its tokens fails, with the same exception" becomes a
    decidable property of the template (`logAgrees`), checked on the regenerated table by `decide`.
-/
import BumpverVerif.Model.EffK
import BumpverVerif.Proofs.VcsLemmas
namespace BV.TieK

/-! ### running the combinators -/

theorem Eff.ite_run {α : Type} (c : Prop) [Decidable c] (m n : Eff α) (w : World) (s : List KEv) :
    (if c then m else n) w s = if c then m w s else n w s := by split <;> rfl

theorem Eff.bind_pure_right {α : Type} (m : Eff α) : Eff.bind m (fun a => Eff.pure a) = m := by
  funext w s
  simp only [Eff.bind, Eff.pure]
  rcases m w s with ⟨s', r⟩
  cases r <;> rfl

theorem Eff.bind_pure_left {α β : Type} (a : α) (f : α → Eff β) : Eff.bind (Eff.pure a) f = f a := rfl

theorem Eff.bind_assoc {α β γ : Type} (m : Eff α) (f : α → Eff β) (g : β → Eff γ) :
    Eff.bind (Eff.bind m f) g = Eff.bind m (fun a => Eff.bind (f a) g) := by
  funext w s
  simp only [Eff.bind]
  rcases m w s with ⟨s', r⟩
  cases r <;> rfl

@[simp] theorem Stop.isA_called (se : Option Str) (c : ExcClass) :
    (Stop.called se).isA c = (c == .baseException || c == .exception || c == .calledProcessError) := by
  cases c <;> rfl
@[simp] theorem Stop.isA_exit (n : Nat) (c : ExcClass) : (Stop.exit n).isA c = (c == .baseException) := by
  cases c <;> rfl
@[simp] theorem Stop.isA_osError (c : ExcClass) :
    Stop.osError.isA c = (c == .baseException || c == .exception || c == .osError) := by
  cases c <;> rfl
@[simp] theorem Stop.isA_valueError (c : ExcClass) :
    Stop.valueError.isA c = (c == .baseException || c == .exception || c == .valueError) := by
  cases c <;> rfl
@[simp] theorem Stop.isA_keyError (c : ExcClass) :
    Stop.keyError.isA c = (c == .baseException || c == .exception || c == .keyError) := by
  cases c <;> rfl
@[simp] theorem Stop.isA_unsupported (c : ExcClass) :
    Stop.unsupported.isA c = (c == .baseException || c == .exception) := by
  cases c <;> rfl

/-- a pure `Except` value as an effect that touches nothing -/
def Eff.ofExcept {α : Type} : Except Stop α → Eff α
  | .ok a => Eff.pure a
  | .error x => Eff.throw x

theorem Eff.format_eq (tmpl : Str) (kw : List (Str × Str)) :
    Eff.format tmpl kw = Eff.ofExcept ((pyFormat kw tmpl).mapError stopOfFmt) := by
  unfold Eff.format
  cases pyFormat kw tmpl <;> rfl

/-! ### `[part.format(**kw) for part in toks]` is the hand model's `mapFormat` -/

theorem Eff.mapM_format (kw : List (Str × Str)) (toks : List Str) (w : World) (s : List KEv) :
    Eff.mapM (fun part => Eff.format part kw) toks w s
      = (s, (mapFormat kw toks).mapError stopOfArgv) := by
  induction toks with
  | nil => rfl
  | cons t ts ih =>
    simp only [Eff.mapM, mapFormat, Eff.bind]
    rw [Eff.format_eq]
    cases pyFormat kw t with
    | error e => rfl
    | ok a =>
      simp only [Eff.ofExcept, Except.mapError, Eff.pure, ih]
      cases mapFormat kw ts <;> rfl

/-! ### `str.format(**kw)` only LOOKS keys UP: dictionaries with the same bindings format alike
      (the order in which keyword arguments are written does not matter) -/

theorem fmtGo_congr {kw kw' : List (Str × Str)} (h : ∀ k, lookup k kw = lookup k kw') (s : Str) :
    ∀ st, fmtGo kw st s = fmtGo kw' st s := by
  induction s with
  | nil => intro st; cases st <;> rfl
  | cons c s ih =>
    intro st
    cases st with
    | text => simp only [fmtGo, ih]
    | open_ => simp only [fmtGo, ih]
    | close_ => simp only [fmtGo, ih]
    | field acc => simp only [fmtGo, ih, h]

theorem pyFormat_congr {kw kw' : List (Str × Str)} (h : ∀ k, lookup k kw = lookup k kw') (t : Str) :
    pyFormat kw t = pyFormat kw' t := fmtGo_congr h t .text

theorem mapFormat_congr {kw kw' : List (Str × Str)} (h : ∀ k, lookup k kw = lookup k kw') (ts : List Str) :
    mapFormat kw ts = mapFormat kw' ts := by
  induction ts with
  | nil => rfl
  | cons t ts ih => simp only [mapFormat, pyFormat_congr h, ih]

theorem argv_congr {kw kw' : List (Str × Str)} (h : ∀ k, lookup k kw = lookup k kw') (t : Str) :
    argv t kw = argv t kw' := by
  simp only [argv, mapFormat_congr h]

/-- two bindings with different keys, written in either order -/
theorem lookup_swap2 {α : Type} (a b : Str) (x y : α) (hab : a ≠ b) (k : Str) :
    lookup k [(a, x), (b, y)] = lookup k [(b, y), (a, x)] := by
  simp only [lookup]
  by_cases h1 : k = a
  · subst h1; simp [hab]
  · by_cases h2 : k = b
    · subst h2; simp [h1]
    · simp [h1, h2]

/-! ### the format skeleton -/

def errOf {ε α : Type} : Except ε α → Option ε
  | .ok _ => none
  | .error e => some e

@[simp] theorem errOf_map {ε α β : Type} (f : α → β) (x : Except ε α) : errOf (x.map f) = errOf x := by
  cases x <;> rfl

theorem errOf_none {ε α : Type} {x : Except ε α} (h : errOf x = none) : ∃ a, x = .ok a := by
  cases x with
  | ok a => exact ⟨a, rfl⟩
  | error e => cases h

theorem errOf_some {ε α : Type} {x : Except ε α} {e : ε} (h : errOf x = some e) : x = .error e := by
  cases x with
  | ok a => cases h
  | error e' => cases h; rfl

/-- the names `fmtGo` looks up, in order, and the error it ends in when all of them are present -/
def fmtSkelGo : FState → Str → List Str × Option FmtErr
  | .text, [] => ([], none)
  | .text, c :: r =>
    if c == '{' then fmtSkelGo .open_ r
    else if c == '}' then fmtSkelGo .close_ r
    else fmtSkelGo .text r
  | .open_, [] => ([], some .valueError)
  | .open_, c :: r =>
    if c == '{' then fmtSkelGo .text r
    else if c == '}' then ([], some .unsupported)
    else fmtSkelGo (.field [c]) r
  | .close_, [] => ([], some .valueError)
  | .close_, c :: r => if c == '}' then fmtSkelGo .text r else ([], some .valueError)
  | .field _, [] => ([], some .valueError)
  | .field acc, c :: r =>
    if c == '}' then
      if !simpleName acc.reverse then ([], some .unsupported)
      else (acc.reverse :: (fmtSkelGo .text r).1, (fmtSkelGo .text r).2)
    else fmtSkelGo (.field (c :: acc)) r

def fmtSkel (tmpl : Str) : List Str × Option FmtErr := fmtSkelGo .text tmpl

/-- how a formatting with this skeleton ends under the keywords `kw` -/
def firstErr (kw : List (Str × Str)) : List Str → Option FmtErr → Option FmtErr
  | [], e => e
  | k :: ks, e => if (lookup k kw).isSome then firstErr kw ks e else some .keyError

theorem errOf_fmtGo (kw : List (Str × Str)) (s : Str) :
    ∀ st, errOf (fmtGo kw st s) = firstErr kw (fmtSkelGo st s).1 (fmtSkelGo st s).2 := by
  induction s with
  | nil => intro st; cases st <;> rfl
  | cons c s ih =>
    intro st
    cases st with
    | text =>
      simp only [fmtGo, fmtSkelGo]
      split
      · exact ih _
      · split
        · exact ih _
        · rw [errOf_map]; exact ih _
    | open_ =>
      simp only [fmtGo, fmtSkelGo]
      split
      · rw [errOf_map]; exact ih _
      · split
        · rfl
        · exact ih _
    | close_ =>
      simp only [fmtGo, fmtSkelGo]
      split
      · rw [errOf_map]; exact ih _
      · rfl
    | field acc =>
      simp only [fmtGo, fmtSkelGo]
      split
      · split
        · rfl
        · simp only [firstErr]
          cases hl : lookup acc.reverse kw with
          | none => rfl
          | some v => simp only [Option.isSome_some, if_true, errOf_map]; exact ih _
      · exact ih _

theorem errOf_pyFormat (kw : List (Str × Str)) (tmpl : Str) :
    errOf (pyFormat kw tmpl) = firstErr kw (fmtSkel tmpl).1 (fmtSkel tmpl).2 := errOf_fmtGo kw tmpl .text

theorem firstErr_append (kw : List (Str × Str)) (ks ks' : List Str) (e : Option FmtErr) :
    firstErr kw (ks ++ ks') e = match firstErr kw ks none with
      | some x => some x
      | none => firstErr kw ks' e := by
  induction ks with
  | nil => rfl
  | cons k ks ih =>
    simp only [List.cons_append, firstErr]
    split
    · exact ih
    · rfl

theorem firstErr_some_ne_none (kw : List (Str × Str)) (ks : List Str) (e : FmtErr) :
    firstErr kw ks (some e) ≠ none := by
  induction ks with
  | nil => simp [firstErr]
  | cons k ks ih =>
    simp only [firstErr]
    split
    · exact ih
    · simp

/-- the skeleton of a token list formatted one after the other (`mapFormat`): the first token that ends in an
    error ends everything -/
def skelCat : List Str → List Str × Option FmtErr
  | [] => ([], none)
  | t :: ts =>
    match (fmtSkel t).2 with
    | some e => ((fmtSkel t).1, some e)
    | none => ((fmtSkel t).1 ++ (skelCat ts).1, (skelCat ts).2)

theorem errOf_mapFormat (kw : List (Str × Str)) (toks : List Str) :
    errOf (mapFormat kw toks) = (firstErr kw (skelCat toks).1 (skelCat toks).2).map ArgvErr.fmt := by
  induction toks with
  | nil => rfl
  | cons t ts ih =>
    have ht := errOf_pyFormat kw t
    simp only [mapFormat, skelCat]
    cases hp : pyFormat kw t with
    | error e =>
      rw [hp] at ht
      simp only [errOf] at ht ⊢
      cases h2 : (fmtSkel t).2 with
      | some e' => simp only [h2] at ht ⊢; rw [← ht]; rfl
      | none =>
        simp only [h2] at ht ⊢
        rw [firstErr_append, ← ht]; rfl
    | ok a =>
      rw [hp] at ht
      simp only [errOf] at ht
      rw [errOf_map, ih]
      cases h2 : (fmtSkel t).2 with
      | some e' => rw [h2] at ht; exact absurd ht.symm (firstErr_some_ne_none kw _ e')
      | none =>
        simp only [h2] at ht ⊢
        rw [firstErr_append, ← ht]

/-! ### small steps of the generated VCS methods -/

/-- forget the output of a VCS invocation -/
def unitOf {α : Type} (r : List KEv × Except Stop α) : List KEv × Except Stop Unit :=
  (r.1, r.2.map (fun _ => ()))

theorem bind_unit {α : Type} (m : Eff α) (w : World) (s : List KEv) :
    Eff.bind m (fun _ => Eff.pure ()) w s = unitOf (m w s) := by
  simp only [Eff.bind, unitOf]
  rcases m w s with ⟨s', r⟩
  cases r <;> rfl

theorem bind_unit_id (m : Eff Unit) : Eff.bind m (fun _ => Eff.pure ()) = m := by
  funext w s
  simp only [Eff.bind]
  rcases m w s with ⟨s', r⟩
  cases r <;> rfl

theorem getRemote_bind {β : Type} (self : VcsApi) (f : Option Str → Eff β) (w : World) (s : List KEv) :
    Eff.bind (Eff.getRemote self) f w s = f (w.remote s) w s := rfl

theorem excStderr_bind {β : Type} (se : Option Str) (f : Option Str → Eff β) (w : World) (s : List KEv) :
    Eff.bind (Eff.excStderr (.called se)) f w s = f se w s := rfl

end BV.TieK
