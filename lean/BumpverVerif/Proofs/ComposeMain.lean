/-
  Proofs/ComposeMain.lean — THE COMPOSITION of the per-part lemmas over a whole pattern tree.

  `Pat.wf`   : the static, decidable well-formedness of a pattern ("uniquely readable"): every
               variable-width numeric part is followed by something that cannot start with a digit,
               and the body of every optional group starts with a literal character / a part that
               cannot start what follows the group (so an OMITTED group is not read into what follows).
  `Pat.vok`  : the version record lies in the domain of every part that is RENDERED (parts inside an
               omitted group carry their zero value and are not rendered).
  `Pat.caps` : the named groups the match reports, in match order.

  `compose_head` : for a well-formed pattern and a record in its domain, the FIRST success of the
  compiled regex (what `re.match` reports) on the rendered text followed by any admissible
  continuation consumes exactly the rendered text and captures exactly the rendered part texts.
-/
import BumpverVerif.Proofs.PartRows
namespace BV

/-! ### characters and continuation classes -/

theorem lower_not_digit (c : Char) (h : isLower c = true) : isDigit c = false := by
  cases hd : isDigit c with
  | false => rfl
  | true => rw [isDigit_iff] at hd; rw [isLower_iff] at h; omega

theorem digit_not_lower (c : Char) (h : isDigit c = true) : isLower c = false := by
  cases hd : isLower c with
  | false => rfl
  | true => rw [lower_not_digit c hd] at h; cases h

theorem FSet.has_union_left (A B : FSet) (k : Str) (h : A.has k = true) :
    (A.union B).has k = true := by
  cases k with
  | nil =>
    simp only [FSet.has] at h
    simp only [FSet.has, FSet.union, h, Bool.true_or]
  | cons c k =>
    simp only [FSet.has, FSet.hasChar, Bool.or_eq_true, Bool.and_eq_true,
      List.contains_iff_mem] at h
    simp only [FSet.has, FSet.hasChar, FSet.union, Bool.or_eq_true, Bool.and_eq_true,
      List.contains_iff_mem, List.mem_append]
    rcases h with (h | h) | h
    · exact Or.inl (Or.inl ⟨Or.inl h.1, h.2⟩)
    · exact Or.inl (Or.inr ⟨Or.inl h.1, h.2⟩)
    · exact Or.inr (Or.inl h)

theorem FSet.has_union_right (A B : FSet) (k : Str) (h : B.has k = true) :
    (A.union B).has k = true := by
  cases k with
  | nil =>
    simp only [FSet.has] at h
    simp only [FSet.has, FSet.union, h, Bool.or_true]
  | cons c k =>
    simp only [FSet.has, FSet.hasChar, Bool.or_eq_true, Bool.and_eq_true,
      List.contains_iff_mem] at h
    simp only [FSet.has, FSet.hasChar, FSet.union, Bool.or_eq_true, Bool.and_eq_true,
      List.contains_iff_mem, List.mem_append]
    rcases h with (h | h) | h
    · exact Or.inl (Or.inl ⟨Or.inr h.1, h.2⟩)
    · exact Or.inl (Or.inr ⟨Or.inr h.1, h.2⟩)
    · exact Or.inr (Or.inr h)

theorem FSet.noDigit_ahead (F : FSet) (k : Str) (hn : F.noDigit = true) (hk : F.has k = true) :
    NoDigitAhead k := by
  intro c hc
  cases k with
  | nil => cases hc
  | cons x xs =>
    simp only [List.head?_cons, Option.some.injEq] at hc
    subst hc
    simp only [FSet.noDigit, Bool.and_eq_true, Bool.not_eq_true', List.all_eq_true] at hn
    simp only [FSet.has, FSet.hasChar, hn.1, Bool.false_and, Bool.false_or, Bool.or_eq_true,
      Bool.and_eq_true, List.contains_iff_mem] at hk
    rcases hk with hl | hm
    · exact lower_not_digit _ hl.2
    · exact hn.2 _ hm

def NoLowerAhead (k : Str) : Prop := ∀ c, k.head? = some c → isLower c = false

theorem FSet.noLower_ahead (F : FSet) (k : Str) (hn : F.noLower = true) (hk : F.has k = true) :
    NoLowerAhead k := by
  intro c hc
  cases k with
  | nil => cases hc
  | cons x xs =>
    simp only [List.head?_cons, Option.some.injEq] at hc
    subst hc
    simp only [FSet.noLower, Bool.and_eq_true, Bool.not_eq_true', List.all_eq_true] at hn
    simp only [FSet.has, FSet.hasChar, hn.1, Bool.false_and, Bool.or_false, Bool.or_eq_true,
      Bool.and_eq_true, List.contains_iff_mem] at hk
    rcases hk with hl | hm
    · exact digit_not_lower _ hl.2
    · exact hn.2 _ hm

/-! ### inversion of `Pat.compile`, unfolding of `render` / `caps` -/

theorem compile_lit_inv (c : Char) (rest : Pat) (r : Re) (h : Pat.compile (.lit c rest) = some r) :
    ∃ r', Pat.compile rest = some r' ∧ r = seqR (.chr c) r' := by
  simp only [Pat.compile] at h
  cases hr : Pat.compile rest with
  | none => rw [hr] at h; cases h
  | some r' =>
    rw [hr] at h
    simp only [Option.map_some, Option.some.injEq] at h
    exact ⟨r', rfl, h.symm⟩

theorem compile_part_inv (n : Str) (rest : Pat) (r : Re) (h : Pat.compile (.part n rest) = some r) :
    ∃ rx f r', partReOf n = some rx ∧ lookup n Gen.partFields = some f ∧
      Pat.compile rest = some r' ∧ r = seqR (.grp f rx) r' := by
  simp only [Pat.compile] at h
  split at h
  · next rx f r' h1 h2 h3 =>
    simp only [Option.some.injEq] at h
    exact ⟨rx, f, r', h1, h2, h3, h.symm⟩
  · cases h

theorem compile_opt_inv (body rest : Pat) (r : Re) (h : Pat.compile (.opt body rest) = some r) :
    ∃ b r', Pat.compile body = some b ∧ Pat.compile rest = some r' ∧
      r = seqR (.rep b 0 (some 1)) r' := by
  simp only [Pat.compile] at h
  split at h
  · next b r' h1 h2 =>
    simp only [Option.some.injEq] at h
    exact ⟨b, r', h1, h2, h.symm⟩
  · cases h

theorem render_part (v : VInfo) (n : Str) (rest : Pat) (t : Str) (ht : partText v n = some t) :
    Pat.render v (.part n rest) = t ++ Pat.render v rest := by
  simp only [Pat.render, ht, Option.getD_some]

theorem caps_part (v : VInfo) (n : Str) (rest : Pat) (f t : Str)
    (hf : lookup n Gen.partFields = some f) (ht : partText v n = some t) :
    Pat.caps v (.part n rest) = (f, t) :: Pat.caps v rest := by
  simp only [Pat.caps, hf, ht]

/-! ### the rendered text followed by `k` starts inside `Pat.first` -/

theorem first_has (v : VInfo) : ∀ (p : Pat) (F : FSet) (k : Str), Pat.vok v p = true →
    (Pat.compile p).isSome = true → F.has k = true →
    (Pat.first p F).has (Pat.render v p ++ k) = true := by
  intro p
  induction p with
  | done => intro F k _ _ hk; simpa only [Pat.first, Pat.render, List.nil_append] using hk
  | lit c rest _ =>
    intro F k _ _ _
    simp [Pat.first, Pat.render, FSet.has, FSet.hasChar]
  | part n rest _ =>
    intro F k hv hc _
    cases hcc : Pat.compile (.part n rest) with
    | none => rw [hcc] at hc; cases hc
    | some r =>
      obtain ⟨rx, f, r', hrx, _, _, _⟩ := compile_part_inv n rest r hcc
      simp only [Pat.vok, Bool.and_eq_true] at hv
      obtain ⟨t, ht, hne, hfo, _⟩ := part_head v n hv.1 rx hrx
      rw [render_part v n rest t ht]
      cases t with
      | nil => exact absurd rfl hne
      | cons c t' =>
        have hc1 := hfo c rfl
        simp only [Pat.first, List.cons_append, FSet.has]
        cases htag : isTagPart n with
        | true =>
          rw [htag] at hc1
          simp only [↓reduceIte] at hc1
          simp [FSet.hasChar, hc1]
        | false =>
          rw [htag] at hc1
          simp only [Bool.false_eq_true, ↓reduceIte] at hc1
          simp [FSet.hasChar, hc1]
  | opt body rest ihb ihr =>
    intro F k hv hc hk
    cases hcc : Pat.compile (.opt body rest) with
    | none => rw [hcc] at hc; cases hc
    | some r =>
      obtain ⟨b, r', hb, hr', _⟩ := compile_opt_inv body rest r hcc
      simp only [Pat.vok, Bool.and_eq_true, Bool.or_eq_true] at hv
      have h1 := ihr F k hv.2 (by rw [hr']; rfl) hk
      simp only [Pat.first, Pat.render]
      cases hz : Pat.allZero v body with
      | true =>
        simp only [↓reduceIte, List.nil_append]
        exact FSet.has_union_right _ _ _ h1
      | false =>
        have hvb : Pat.vok v body = true := by
          rcases hv.1 with h | h
          · rw [hz] at h; cases h
          · exact h
        simp only [Bool.false_eq_true, ↓reduceIte, List.append_assoc]
        exact FSet.has_union_left _ _ _ (ihb _ _ hvb (by rw [hb]; rfl) h1)

/-- a group body that passes `failsOn` starts with a literal or a part: it renders non-empty -/
theorem render_ne_nil (v : VInfo) (body : Pat) (F : FSet) (hf : Pat.failsOn body F = true)
    (hv : Pat.vok v body = true) (hc : (Pat.compile body).isSome = true) :
    Pat.render v body ≠ [] := by
  cases body with
  | done => simp [Pat.failsOn] at hf
  | lit c rest => simp [Pat.render]
  | part n rest =>
    cases hcc : Pat.compile (.part n rest) with
    | none => rw [hcc] at hc; cases hc
    | some r =>
      obtain ⟨rx, f, r', hrx, _, _, _⟩ := compile_part_inv n rest r hcc
      simp only [Pat.vok, Bool.and_eq_true] at hv
      obtain ⟨t, ht, hne, _, _⟩ := part_head v n hv.1 rx hrx
      rw [render_part v n rest t ht]
      intro h
      exact hne (List.append_eq_nil_iff.mp h).1
  | opt b r => simp [Pat.failsOn] at hf

/-! ### an omitted group: the compiled body has no success at all -/

theorem seqR_nil (a b : Re) (st : MSt) (h : a.m st = []) : (seqR a b).m st = [] := by
  unfold seqR
  split
  · exact h
  · simp only [Re.m, h, List.flatMap_nil]

theorem opt_absent (b : Re) (st : MSt) (h : b.m st = []) : (Re.rep b 0 (some 1)).m st = [st] := by
  cases hl : st.rest.length with
  | zero => simp [Re.m, hl, mRep]
  | succ n => simp [Re.m, hl, mRep, h]

theorem chr_nil (c : Char) (st : MSt) (h : ∀ x, st.rest.head? = some x → x ≠ c) :
    (Re.chr c).m st = [] := by
  cases hr : st.rest with
  | nil => simp [Re.m, hr]
  | cons x r =>
    have := h x (by rw [hr]; rfl)
    simp [Re.m, hr, this]

theorem litRe_nolower (w : Str) (hw : firstLower w = true) (st : MSt) (hs : NoLowerAhead st.rest) :
    (litRe w).m st = [] := by
  cases w with
  | nil => cases hw
  | cons c cs =>
    simp only [firstLower] at hw
    have hc : (Re.chr c).m st = [] := by
      apply chr_nil
      intro x hx e
      subst e
      rw [hs x hx] at hw; cases hw
    cases cs with
    | nil => exact hc
    | cons d ds =>
      show List.flatMap (litRe (d :: ds)).m ((Re.chr c).m st) = []
      rw [hc]; rfl

theorem altLits_nolower : ∀ (ws : List Str), ws ≠ [] → ws.all firstLower = true →
    ∀ st : MSt, NoLowerAhead st.rest → (altLits ws).m st = [] := by
  intro ws
  induction ws with
  | nil => intro h; exact absurd rfl h
  | cons w ws ih =>
    intro _ hall st hs
    simp only [List.all_cons, Bool.and_eq_true] at hall
    cases ws with
    | nil => exact litRe_nolower w hall.1 st hs
    | cons w2 ws' =>
      simp only [altLits, Re.m, litRe_nolower w hall.1 st hs, List.nil_append]
      exact ih (by simp) hall.2 st hs

theorem nontag_nil (n : Str) (rx : Re) (hd : (lookup n partDoms).isSome = true)
    (ht : isTagPart n = false) (hrx : partReOf n = some rx) (st : MSt)
    (hk : NoDigitAhead st.rest) : rx.m st = [] := by
  obtain ⟨hdo, he⟩ := (partRe_facts n rx hrx).2 hd ht
  have e : st = MSt.tr st.rest st.caps st.start emptySt := by
    obtain ⟨r, s, c⟩ := st
    simp [MSt.tr, emptySt]
  rw [e, digitOnly_tr st.rest hk st.caps st.start rx hdo emptySt, he]
  rfl

theorem tag_nil (n : Str) (rx : Re) (ht : isTagPart n = true) (hrx : partReOf n = some rx)
    (st : MSt) (hk : NoLowerAhead st.rest) : rx.m st = [] := by
  simp only [isTagPart, Bool.or_eq_true, beq_iff_eq] at ht
  rcases ht with rfl | rfl
  · rw [re_tags.1] at hrx
    have hrx := (Option.some.inj hrx).symm
    subst hrx
    exact altLits_nolower tagWords (by decide +kernel) (by decide +kernel) st hk
  · rw [re_tags.2] at hrx
    have hrx := (Option.some.inj hrx).symm
    subst hrx
    exact altLits_nolower pytagWords (by decide +kernel) (by decide +kernel) st hk

theorem body_fails (body : Pat) (F : FSet) (b : Re) (st : MSt) (hwf : Pat.wf body F = true)
    (hf : Pat.failsOn body F = true) (hc : Pat.compile body = some b)
    (hk : F.has st.rest = true) : b.m st = [] := by
  cases body with
  | done => simp [Pat.failsOn] at hf
  | lit c rest =>
    obtain ⟨r', _, rfl⟩ := compile_lit_inv c rest b hc
    apply seqR_nil
    apply chr_nil
    intro x hx e
    subst e
    simp only [Pat.failsOn, Bool.not_eq_true'] at hf
    cases hr : st.rest with
    | nil => rw [hr] at hx; cases hx
    | cons y r =>
      rw [hr] at hx hk
      simp only [List.head?_cons, Option.some.injEq] at hx
      subst hx
      simp only [FSet.has] at hk
      rw [hk] at hf; cases hf
  | part n rest =>
    obtain ⟨rx, f, r', hrx, _, _, rfl⟩ := compile_part_inv n rest b hc
    apply seqR_nil
    simp only [Pat.wf, Bool.and_eq_true] at hwf
    have hrxn : rx.m st = [] := by
      cases htag : isTagPart n with
      | true =>
        simp only [Pat.failsOn, htag, ↓reduceIte] at hf
        exact tag_nil n rx htag hrx st (FSet.noLower_ahead F _ hf hk)
      | false =>
        simp only [Pat.failsOn, htag, Bool.false_eq_true, ↓reduceIte] at hf
        exact nontag_nil n rx hwf.1.1 htag hrx st (FSet.noDigit_ahead F _ hf hk)
    simp only [Re.m, hrxn, List.map_nil]
  | opt b' r => simp [Pat.failsOn] at hf

/-- THE COMPOSITION LEMMA -/
theorem compose_head (v : VInfo) : ∀ (p : Pat) (F : FSet) (r : Re) (k : Str) (st : MSt),
    Pat.wf p F = true → Pat.vok v p = true → Pat.compile p = some r → F.has k = true →
    st.rest = Pat.render v p ++ k →
    ∃ st', (r.m st).head? = some st' ∧ st'.rest = k ∧ st'.caps = (Pat.caps v p).reverse ++ st.caps := by
  intro p
  induction p with
  | done =>
    intro F r k st _ _ hr _ hst
    simp only [Pat.compile, Option.some.injEq] at hr
    subst hr
    refine ⟨st, rfl, ?_, ?_⟩
    · simpa only [Pat.render, List.nil_append] using hst
    · simp only [Pat.caps, List.reverse_nil, List.nil_append]
  | lit c rest ih =>
    intro F r k st hwf hv hr hk hst
    obtain ⟨r', hr', rfl⟩ := compile_lit_inv c rest r hr
    simp only [Pat.wf] at hwf
    simp only [Pat.vok] at hv
    have hst' : st.rest = c :: (Pat.render v rest ++ k) := by
      simpa only [Pat.render, List.cons_append] using hst
    obtain ⟨st2, h2, hr2, hc2⟩ :=
      ih F r' k (st.step (Pat.render v rest ++ k)) hwf hv hr' hk rfl
    refine ⟨st2, head_seqR _ _ st _ st2 (head_chr c st _ hst') h2, hr2, ?_⟩
    rw [hc2]
    simp only [Pat.caps]
    rfl
  | part n rest ih =>
    intro F r k st hwf hv hr hk hst
    obtain ⟨rx, f, r', hrx, hf, hr', rfl⟩ := compile_part_inv n rest r hr
    simp only [Pat.wf, Bool.and_eq_true] at hwf
    simp only [Pat.vok, Bool.and_eq_true] at hv
    obtain ⟨t, ht, hne, hfo, hcons⟩ := part_head v n hv.1 rx hrx
    have hk' : (Pat.first rest F).has (Pat.render v rest ++ k) = true :=
      first_has v rest F k hv.2 (by rw [hr']; rfl) hk
    have hnd : needND n = true → NoDigitAhead (Pat.render v rest ++ k) := by
      intro hn
      have h2 := hwf.2
      rw [hn] at h2
      simp only [Bool.not_true, Bool.false_or] at h2
      exact FSet.noDigit_ahead _ _ h2 hk'
    have hst' : st.rest = t ++ (Pat.render v rest ++ k) := by
      rw [hst, render_part v n rest t ht, List.append_assoc]
    obtain ⟨st0, h0, hr0, hc0⟩ := hcons _ hnd st hst'
    obtain ⟨st1, h1, hr1, hc1⟩ := head_grp f rx st st0 t _ hst' h0 hr0
    obtain ⟨st2, h2, hr2, hc2⟩ := ih F r' k st1 hwf.1.2 hv.2 hr' hk hr1
    refine ⟨st2, head_seqR _ _ st st1 st2 h1 h2, hr2, ?_⟩
    rw [hc2, hc1, hc0, caps_part v n rest f t hf ht]
    simp only [List.reverse_cons, List.append_assoc, List.cons_append, List.nil_append]
  | opt body rest ihb ihr =>
    intro F r k st hwf hv hr hk hst
    obtain ⟨b, r', hb, hr', rfl⟩ := compile_opt_inv body rest r hr
    simp only [Pat.wf, Bool.and_eq_true] at hwf
    simp only [Pat.vok, Bool.and_eq_true, Bool.or_eq_true] at hv
    have hk' : (Pat.first rest F).has (Pat.render v rest ++ k) = true :=
      first_has v rest F k hv.2 (by rw [hr']; rfl) hk
    cases hz : Pat.allZero v body with
    | true =>
      have hst' : st.rest = Pat.render v rest ++ k := by
        rw [hst]; simp only [Pat.render, hz, ↓reduceIte, List.nil_append]
      have hbn : b.m st = [] :=
        body_fails body _ b st hwf.1.1 hwf.2 hb (by rw [hst']; exact hk')
      have h1 : ((Re.rep b 0 (some 1)).m st).head? = some st := by
        rw [opt_absent b st hbn]; rfl
      obtain ⟨st2, h2, hr2, hc2⟩ := ihr F r' k st hwf.1.2 hv.2 hr' hk hst'
      refine ⟨st2, head_seqR _ _ st st st2 h1 h2, hr2, ?_⟩
      rw [hc2]
      simp only [Pat.caps, hz, ↓reduceIte, List.nil_append]
    | false =>
      have hvb : Pat.vok v body = true := by
        rcases hv.1 with h | h
        · rw [hz] at h; cases h
        · exact h
      have hst' : st.rest = Pat.render v body ++ (Pat.render v rest ++ k) := by
        rw [hst]
        simp only [Pat.render, hz, Bool.false_eq_true, ↓reduceIte, List.append_assoc]
      obtain ⟨st1, h1, hr1, hc1⟩ := ihb (Pat.first rest F) b _ st hwf.1.1 hvb hb hk' hst'
      have hpos : Pat.render v body ≠ [] :=
        render_ne_nil v body _ hwf.2 hvb (by rw [hb]; rfl)
      have hlt : st1.rest.length < st.rest.length := by
        rw [hr1, hst']
        simp only [List.length_append]
        have := List.length_pos_iff.mpr hpos
        omega
      have h1' := head_opt_present b st st1 h1 hlt
      obtain ⟨st2, h2, hr2, hc2⟩ := ihr F r' k st1 hwf.1.2 hv.2 hr' hk hr1
      refine ⟨st2, head_seqR _ _ st st1 st2 h1' h2, hr2, ?_⟩
      rw [hc2, hc1]
      simp only [Pat.caps, hz, Bool.false_eq_true, ↓reduceIte, List.reverse_append,
        List.append_assoc]

/-- `re.match` on the rendered version: consumed in full, captures = the rendered parts -/
theorem compose_match (v : VInfo) (p : Pat) (r : Re) (hwf : Pat.wf p FSet.endOnly = true)
    (hv : Pat.vok v p = true) (hr : Pat.compile p = some r) :
    reMatch r (Pat.render v p) =
      some { start := 0, stop := (Pat.render v p).length, caps := (Pat.caps v p).reverse } := by
  obtain ⟨st', h, hr', hc⟩ := compose_head v p FSet.endOnly r []
    { rest := Pat.render v p, start := true, caps := [] } hwf hv hr rfl (by simp)
  simp only [reMatch, h, hr', hc, List.length_nil, Nat.sub_zero, List.append_nil]

end BV
