/-
  Proofs/TokTie_Text.lean — from the pattern source text of a tree (`Pat.text`) through the escape loop and the
  bracket loop to `Pat.gtext` (`escape_brackets_text`).
  The `while True` loop of `_replace_pattern_parts` (`bracketsToGroups`) rewrites, on EVERY string, every bare
  bracket (one not preceded by a backslash) to `(?:` / `)?` (`bracketsToGroups_eq_brAll`).
  The facts about `PART_PATTERNS`, `PATTERN_PART_FIELDS` and `RE_PATTERN_ESCAPES` (`tbl_names`, `tbl_escapes`) are
  evaluated here.
-/
import BumpverVerif.Model.V2Patterns
import BumpverVerif.Proofs.PatternLemmas
import BumpverVerif.Model.PatText
namespace BV

/-- the specification: every bare `[` becomes `(?:`, every bare `]` becomes `)?`;
    `pb` = the character before the string is a backslash -/
def brAll : Bool → Str → Str
  | _, [] => []
  | pb, c :: r =>
    if c == '[' && !pb then "(?:".toList ++ brAll false r
    else if c == ']' && !pb then ")?".toList ++ brAll false r
    else c :: brAll (c == '\\') r

/-- number of bare brackets -/
def bareTot : Bool → Str → Nat
  | _, [] => 0
  | pb, c :: r => (if (c == '[' || c == ']') && !pb then 1 else 0) + bareTot (c == '\\') r

/-- characters that `brAll` copies and that do not escape their successor -/
def plainCh (c : Char) : Bool := c != '[' && c != ']' && c != '\\'

theorem brAll_cons_plain (pb : Bool) (c : Char) (x : Str) (hc : plainCh c = true) :
    brAll pb (c :: x) = c :: brAll false x := by
  simp only [plainCh, Bool.and_eq_true, bne_iff_ne, ne_eq, ← beq_eq_false_iff_ne] at hc
  simp only [brAll, hc.1.1, hc.1.2, hc.2, Bool.false_and, Bool.false_eq_true, if_false]

theorem bareTot_cons_plain (pb : Bool) (c : Char) (x : Str) (hc : plainCh c = true) :
    bareTot pb (c :: x) = bareTot false x := by
  simp only [plainCh, Bool.and_eq_true, bne_iff_ne, ne_eq, ← beq_eq_false_iff_ne] at hc
  simp only [bareTot, hc.1.1, hc.1.2, hc.2, Bool.or_self, Bool.false_and, Bool.false_eq_true, if_false, Nat.zero_add]

theorem brAll_plain (w : Str) (hw : w.all plainCh = true) (hne : w ≠ []) (pb : Bool) (x : Str) :
    brAll pb (w ++ x) = w ++ brAll false x := by
  induction w generalizing pb with
  | nil => exact absurd rfl hne
  | cons c r ih =>
    simp only [List.all_cons, Bool.and_eq_true] at hw
    rw [List.cons_append, brAll_cons_plain pb c _ hw.1]
    cases r with
    | nil => rfl
    | cons d r' => rw [ih hw.2 (by simp)]; rfl

theorem bareTot_plain (w : Str) (hw : w.all plainCh = true) (hne : w ≠ []) (pb : Bool) (x : Str) :
    bareTot pb (w ++ x) = bareTot false x := by
  induction w generalizing pb with
  | nil => exact absurd rfl hne
  | cons c r ih =>
    simp only [List.all_cons, Bool.and_eq_true] at hw
    rw [List.cons_append, bareTot_cons_plain pb c _ hw.1]
    cases r with
    | nil => rfl
    | cons d r' => exact ih hw.2 (by simp) false

/-- what the proof needs to know about one substitution pass: bracket `b`, replacement `repl` -/
structure PassOk (b : Char) (repl : Str) : Prop where
  nbs : (b == '\\') = false
  isBr : (b == '[' || b == ']') = true
  bare : ∀ x, brAll false (b :: x) = repl ++ brAll false x
  thru : ∀ pb x, brAll pb (repl ++ x) = repl ++ brAll false x
  cnt : ∀ pb x, bareTot pb (repl ++ x) = bareTot false x

theorem passOk_open : PassOk '[' "(?:".toList :=
  ⟨by decide, by decide, fun _ => rfl, brAll_plain _ (by decide) (by decide), bareTot_plain _ (by decide) (by decide)⟩

theorem passOk_close : PassOk ']' ")?".toList :=
  ⟨by decide, by decide, fun _ => rfl, brAll_plain _ (by decide) (by decide), bareTot_plain _ (by decide) (by decide)⟩

theorem bareTot_cons_br (b : Char) (x : Str) (h : (b == '[' || b == ']') = true) (hb : (b == '\\') = false) :
    bareTot false (b :: x) = 1 + bareTot false x := by
  simp only [bareTot, h, hb, Bool.not_false, Bool.and_self, if_true]

theorem bareTot_cons (pb : Bool) (c : Char) (x : Str) :
    bareTot pb (c :: x) = (if (c == '[' || c == ']') && !pb then 1 else 0) + bareTot (c == '\\') x := rfl

theorem brAll_cons_congr (pb : Bool) (c : Char) (x y : Str)
    (h : brAll (c == '\\') x = brAll (c == '\\') y) (h0 : brAll false x = brAll false y) :
    brAll pb (c :: x) = brAll pb (c :: y) := by
  simp only [brAll, h, h0]

/-- a pass does not change the final target, and removes exactly as many bare brackets as it counts -/
theorem pass_spec (b : Char) (repl : Str) (ok : PassOk b repl) (atStart pb : Bool) (s : Str)
    (hs : (atStart && pb) = false) :
    brAll pb (subBracketGo b repl atStart s).1 = brAll pb s ∧
      bareTot pb (subBracketGo b repl atStart s).1 + (subBracketGo b repl atStart s).2 = bareTot pb s := by
  fun_induction subBracketGo b repl atStart s generalizing pb with
  | case1 => exact ⟨rfl, rfl⟩
  | case2 atStart c hc =>
    simp only [Bool.and_eq_true, beq_iff_eq] at hc
    obtain ⟨ha, hcb⟩ := hc
    subst ha; subst hcb
    have hpb : pb = false := by simpa using hs
    subst hpb
    have h2 := ok.thru false []
    have h3 := ok.cnt false []
    simp only [List.append_nil] at h2 h3
    exact ⟨by rw [ok.bare [], h2], by rw [h3, bareTot_cons_br c [] ok.isBr ok.nbs]; rfl⟩
  | case3 => exact ⟨rfl, rfl⟩
  | case4 atStart c c2 rest2 hc out n hout ih =>
    simp only [Bool.and_eq_true, bne_iff_ne, ne_eq, beq_iff_eq] at hc
    obtain ⟨hcb, hc2⟩ := hc
    subst hc2
    have hcb' : (c == '\\') = false := by simpa using hcb
    obtain ⟨i1, i2⟩ := ih false rfl
    rw [hout] at i1 i2
    have e : brAll false (repl ++ out) = brAll false (c2 :: rest2) := by rw [ok.thru, ok.bare, i1]
    refine ⟨brAll_cons_congr pb c _ _ (by rw [hcb']; exact e) e, ?_⟩
    show bareTot pb (c :: (repl ++ out)) + (n + 1) = bareTot pb (c :: c2 :: rest2)
    rw [bareTot_cons pb c, bareTot_cons pb c, hcb', ok.cnt, bareTot_cons_br c2 rest2 ok.isBr ok.nbs]
    simp only at i2
    omega
  | case5 atStart c c2 rest2 hn hc out n hout ih =>
    simp only [Bool.and_eq_true, beq_iff_eq] at hc
    obtain ⟨ha, hcb⟩ := hc
    subst ha; subst hcb
    have hpb : pb = false := by simpa using hs
    subst hpb
    obtain ⟨i1, i2⟩ := ih false rfl
    rw [hout] at i1 i2
    refine ⟨?_, ?_⟩
    · show brAll false (repl ++ out) = _
      rw [ok.bare, ok.thru, i1]
    · show bareTot false (repl ++ out) + (n + 1) = _
      rw [ok.cnt, bareTot_cons_br c _ ok.isBr ok.nbs]
      simp only at i2
      omega
  | case6 atStart c c2 rest2 hn hc out n hout ih =>
    obtain ⟨i1, i2⟩ := ih (c == '\\') rfl
    have i0 := (ih false rfl).1
    rw [hout] at i1 i2 i0
    refine ⟨brAll_cons_congr pb c _ _ i1 i0, ?_⟩
    show bareTot pb (c :: out) + n = _
    rw [bareTot_cons pb c, bareTot_cons pb c]
    simp only at i2
    omega

/-- a pass that substitutes nothing found no bare bracket (the head is exempt when not at the start) -/
theorem pass_zero (b : Char) (repl : Str) (atStart pb : Bool) (s : Str)
    (h : (subBracketGo b repl atStart s).2 = 0) : noBare b (pb || !atStart) s = true := by
  fun_induction subBracketGo b repl atStart s generalizing pb with
  | case1 => rfl
  | case2 atStart c hc => simp at h
  | case3 atStart c hc =>
    simp only [noBare, Bool.and_true, Bool.or_eq_true, bne_iff_ne, ne_eq, Bool.not_eq_true']
    simp only [Bool.and_eq_true, beq_iff_eq, not_and] at hc
    cases atStart <;> simp_all
  | case4 atStart c c2 rest2 hc out n hout ih => simp at h
  | case5 atStart c c2 rest2 hn hc out n hout ih => simp at h
  | case6 atStart c c2 rest2 hn hc out n hout ih =>
    rw [hout] at ih
    have h' : n = 0 := by simpa using h
    have := ih (c == '\\') h'
    simp only [Bool.not_false, Bool.or_true] at this
    -- the head of `c2 :: rest2` is exempt in `this`; but `c2 = b` is impossible after a non-backslash
    simp only [noBare, Bool.and_eq_true, Bool.or_eq_true, bne_iff_ne, ne_eq] at this ⊢
    simp only [Bool.and_eq_true, bne_iff_ne, ne_eq, beq_iff_eq, not_and] at hn
    simp only [Bool.and_eq_true, beq_iff_eq, not_and] at hc
    refine ⟨?_, ?_, this.2⟩
    · cases atStart <;> simp_all
    · by_cases hcb : c = '\\'
      · right; simp [hcb]
      · left; intro e; exact (hn hcb) e

theorem brAll_id (pb : Bool) (s : Str) (h1 : noBare '[' pb s = true) (h2 : noBare ']' pb s = true) :
    brAll pb s = s := by
  induction s generalizing pb with
  | nil => rfl
  | cons c r ih =>
    simp only [noBare, Bool.and_eq_true, Bool.or_eq_true, bne_iff_ne, ne_eq] at h1 h2
    have ihr := ih (c == '\\') h1.2 h2.2
    have e1 : (c == '[' && !pb) = false := by
      rcases h1.1 with h | h
      · simp [h]
      · simp [h]
    have e2 : (c == ']' && !pb) = false := by
      rcases h2.1 with h | h
      · simp [h]
      · simp [h]
    simp only [brAll, e1, e2, ihr, Bool.false_eq_true, if_false]

theorem bareTot_le (pb : Bool) (s : Str) : bareTot pb s ≤ s.length := by
  induction s generalizing pb with
  | nil => simp [bareTot]
  | cons c r ih =>
    have := ih (c == '\\')
    simp only [bareTot, List.length_cons]
    split <;> omega

theorem bracketsToGroups_succ (f : Nat) (s s1 s2 : Str) (n m : Nat)
    (hA : subBracketGo '[' "(?:".toList true s = (s1, n))
    (hB : subBracketGo ']' ")?".toList true s1 = (s2, m)) :
    bracketsToGroups (f + 1) s = if n + m == 0 then s2 else bracketsToGroups f s2 := by
  simp only [bracketsToGroups, subBracket, hA, hB]

theorem bracketsToGroups_eq_brAll_fuel (fuel : Nat) (s : Str) (h : bareTot false s < fuel) :
    bracketsToGroups fuel s = brAll false s := by
  induction fuel generalizing s with
  | zero => omega
  | succ f ih =>
    obtain ⟨s1, n, hA⟩ : ∃ s1 n, subBracketGo '[' "(?:".toList true s = (s1, n) := ⟨_, _, rfl⟩
    obtain ⟨s2, m, hB⟩ : ∃ s2 m, subBracketGo ']' ")?".toList true s1 = (s2, m) := ⟨_, _, rfl⟩
    obtain ⟨b1, c1⟩ := pass_spec '[' _ passOk_open true false s rfl
    obtain ⟨b2, c2⟩ := pass_spec ']' _ passOk_close true false s1 rfl
    rw [hA] at c1 b1
    rw [hB] at c2 b2
    simp only at c1 b1 c2 b2
    rw [bracketsToGroups_succ f s s1 s2 n m hA hB]
    split
    · rename_i hz
      have hn : n = 0 := by simp at hz; omega
      have hm : m = 0 := by simp at hz; omega
      subst hn; subst hm
      have z1 := pass_zero '[' "(?:".toList true false s (by rw [hA])
      have z2 := pass_zero ']' ")?".toList true false s1 (by rw [hB])
      simp only [Bool.not_true, Bool.or_false] at z1 z2
      have e1 := subBracketGo_id '[' "(?:".toList true false s z1 rfl
      rw [hA] at e1
      have hs1 : s1 = s := by simpa using congrArg Prod.fst e1
      subst hs1
      have e2 := subBracketGo_id ']' ")?".toList true false s1 z2 rfl
      rw [hB] at e2
      have hs2 : s2 = s1 := by simpa using congrArg Prod.fst e2
      subst hs2
      exact (brAll_id false s2 z1 z2).symm
    · rename_i hz
      have hnm : n + m ≠ 0 := by simpa using hz
      rw [ih s2 (by omega), b2, b1]

/-- THE BRACKET LOOP, on every string: all bare brackets become group delimiters -/
theorem bracketsToGroups_eq_brAll (s : Str) : bracketsToGroups (s.length + 1) s = brAll false s :=
  bracketsToGroups_eq_brAll_fuel _ s (Nat.lt_succ_of_le (bareTot_le false s))

/-! ### facts about the generated tables

  Each group is ONE kernel evaluation: the kernel converts the string literals of a table once per declaration. -/

/-- characters of part names -/
def nameChar (c : Char) : Bool := isUpper c || isDigit c

/-- no EARLIER entry of `PART_PATTERNS` is contained in a LATER entry with the same field (so a part such as
    YYYY is registered in `used_fields` before the YY found inside it); in particular names are distinct -/
def orderOk : List (Str × Str) → Bool
  | [] => true
  | e' :: rest => rest.all (fun e => !(isInfix e'.1 e.1 && fieldOf e'.1 == fieldOf e.1)) && orderOk rest

/-- part names are non-empty, consist of upper-case letters and digits, are distinct and in `orderOk` order; the keys of
    `PATTERN_PART_FIELDS` are distinct part names, and no field name contains `>` (a group name ends at the first `>`) -/
theorem tbl_names :
    partNames.all (fun m => m.all nameChar && !m.isEmpty) = true ∧ partNames.Nodup ∧ orderOk Gen.partPatterns = true ∧
    (Gen.partFields.map (·.1)).Nodup ∧
    Gen.partFields.all (fun e => partNames.contains e.1 && !e.2.contains '>') = true := by
  decide +kernel

theorem tbl_order : orderOk Gen.partPatterns = true := tbl_names.2.2.1

theorem tbl_escapes :
    tblShape Gen.rePatternEscapes = true ∧ tblChars Gen.rePatternEscapes = escList ∧ patEscChars = escList := by
  decide +kernel

theorem name_chars {m : Str} (hm : m ∈ partNames) : ∀ c ∈ m, nameChar c = true := by
  have := List.all_eq_true.mp tbl_names.1 m hm
  simp only [Bool.and_eq_true, List.all_eq_true] at this
  exact this.1

theorem name_ne_nil {m : Str} (hm : m ∈ partNames) : m ≠ [] := by
  have := List.all_eq_true.mp tbl_names.1 m hm
  simp only [Bool.and_eq_true] at this
  intro e; subst e; simp at this

theorem lookup_some_mem {α} {k : Str} {l : List (Str × α)} {v : α} (h : lookup k l = some v) : (k, v) ∈ l := by
  induction l with
  | nil => cases h
  | cons e l ih =>
    obtain ⟨k', v'⟩ := e
    simp only [lookup] at h
    by_cases hk : k = k'
    · rw [if_pos hk] at h
      cases h; subst hk
      exact List.mem_cons_self
    · rw [if_neg hk] at h
      exact List.mem_cons_of_mem _ (ih h)

theorem lookup_ne_none_of_mem {α} {k : Str} {l : List (Str × α)} {v : α} (h : (k, v) ∈ l) : lookup k l ≠ none := by
  induction l with
  | nil => cases h
  | cons e l ih =>
    obtain ⟨k', v'⟩ := e
    simp only [lookup]
    by_cases hk : k = k'
    · rw [if_pos hk]; exact Option.some_ne_none _
    · rw [if_neg hk]
      exact ih ((List.mem_cons.mp h).resolve_left fun e => hk (Prod.mk.inj e).1)

theorem mem_partNames_of_lookup {n : Str} (h : (lookup n Gen.partPatterns).isSome = true) : n ∈ partNames := by
  obtain ⟨rx, h⟩ := Option.isSome_iff_exists.mp h
  exact List.mem_map_of_mem (f := (·.1)) (lookup_some_mem h)

/-! ### the escape loop -/

def escC (c : Char) : Str := if escList.contains c then ['\\', c] else [c]

theorem escape_pointwise (s : Str) : escapePattern Gen.rePatternEscapes s = s.flatMap escC := by
  have hbs : '\\' ∉ escList := by decide
  have hnd : escList.Nodup := by decide
  rw [escapePattern_eq_fold _ tbl_escapes.1, tbl_escapes.2.1, escFold_pointwise escList hbs hnd]
  rfl

theorem regexLit_eq (c : Char) : regexLit c = encChar c := by
  simp only [regexLit, tbl_escapes.2.2, encChar]

theorem litOk_eq (c : Char) : litOk c = litChar c := rfl

theorem nameChar_not_special {c : Char} (h : nameChar c = true) : escList.contains c = false ∧ plainCh c = true := by
  have key : (escList ++ ['[', ']', '\\']).all (fun d => !nameChar d) = true := by decide
  have hc : c ∉ escList ++ ['[', ']', '\\'] := fun hm => by
    have := List.all_eq_true.mp key c hm
    rw [h] at this; cases this
  simp only [List.mem_append, List.mem_cons, List.not_mem_nil, or_false, not_or] at hc
  exact ⟨by simpa using hc.1, by simp [plainCh, hc.2]⟩

theorem plainCh_iff {c : Char} : plainCh c = true ↔ c ≠ '[' ∧ c ≠ ']' ∧ c ≠ '\\' := by
  simp only [plainCh, Bool.and_eq_true, bne_iff_ne, ne_eq, and_assoc]

theorem name_plain {m : Str} (hm : m ∈ partNames) : m.all plainCh = true :=
  List.all_eq_true.mpr fun c hc => (nameChar_not_special (name_chars hm c hc)).2

/-- escaped source text: literals escaped, brackets still brackets -/
def Pat.etext : Pat → Str
  | .done => []
  | .lit c rest => regexLit c ++ Pat.etext rest
  | .part n rest => n ++ Pat.etext rest
  | .opt body rest => '[' :: (Pat.etext body ++ ']' :: Pat.etext rest)

theorem flatMap_escC_name (n : Str) (h : ∀ c ∈ n, nameChar c = true) : n.flatMap escC = n := by
  induction n with
  | nil => rfl
  | cons c r ih =>
    have hc := (nameChar_not_special (h c List.mem_cons_self)).1
    rw [List.flatMap_cons, ih (fun d hd => h d (List.mem_cons_of_mem _ hd))]
    simp only [escC, hc, Bool.false_eq_true, if_false, List.cons_append, List.nil_append]

theorem flatMap_escC_litText (c : Char) (hc : c ≠ '\\') : (litText c).flatMap escC = regexLit c := by
  have e1 : escC '\\' = ['\\'] := by decide
  have e2 : escC '[' = ['['] := by decide
  have e3 : escC ']' = [']'] := by decide
  by_cases h1 : c = '['
  · subst h1; simp [litText, e1, e2]; decide
  · by_cases h2 : c = ']'
    · subst h2; simp [litText, e1, e3]; decide
    · simp [litText, h1, h2, escC, regexLit, tbl_escapes.2.2]

theorem litOk_ne_bs {c : Char} (h : litOk c = true) : c ≠ '\\' := litChar_ne_bs h

theorem escape_text (p : Pat) (h : p.shapeOk = true) :
    escapePattern Gen.rePatternEscapes p.text = p.etext := by
  rw [escape_pointwise]
  induction p with
  | done => rfl
  | lit c rest ih =>
    simp only [Pat.shapeOk, Bool.and_eq_true] at h
    simp only [Pat.text_lit, Pat.etext, List.flatMap_append, ih h.2, flatMap_escC_litText c (litOk_ne_bs h.1)]
  | part n rest ih =>
    simp only [Pat.shapeOk, Bool.and_eq_true] at h
    have hn := name_chars (mem_partNames_of_lookup h.1.1)
    simp only [Pat.text_part, Pat.etext, List.flatMap_append, ih h.2, flatMap_escC_name n hn]
  | opt body rest ihb ihr =>
    simp only [Pat.shapeOk, Bool.and_eq_true] at h
    have e2 : escC '[' = ['['] := by decide
    have e3 : escC ']' = [']'] := by decide
    simp only [Pat.text_opt, Pat.etext, List.flatMap_cons, List.flatMap_append, ihb h.1.2, ihr h.2, e2, e3,
      List.cons_append, List.nil_append]

/-! ### the bracket loop on escaped text -/

theorem brAll_regexLit (c : Char) (k : Str) (h : litOk c = true) :
    brAll false (regexLit c ++ k) = regexLit c ++ brAll false k := by
  have hbs : (c == '\\') = false := by simpa using litOk_ne_bs h
  rw [regexLit_eq]
  rcases encChar_cases c with ⟨e, -⟩ | ⟨e, hne⟩
  · rw [e]
    have e1 : ('\\' == '[') = false := by decide
    have e2 : ('\\' == ']') = false := by decide
    simp [brAll, e1, e2, hbs]
  · rw [e]
    simp only [Bool.or_eq_false_iff] at hne
    simp [brAll, hne.1.2, hne.2, hbs]

theorem brAll_etext (p : Pat) (k : Str) (h : p.shapeOk = true) :
    brAll false (p.etext ++ k) = p.gtext ++ brAll false k := by
  induction p generalizing k with
  | done => rfl
  | lit c rest ih =>
    simp only [Pat.shapeOk, Bool.and_eq_true] at h
    simp only [Pat.etext, Pat.gtext, List.append_assoc, brAll_regexLit c _ h.1, ih _ h.2]
  | part n rest ih =>
    simp only [Pat.shapeOk, Bool.and_eq_true] at h
    have hm := mem_partNames_of_lookup h.1.1
    simp only [Pat.etext, Pat.gtext, List.append_assoc, brAll_plain n (name_plain hm) (name_ne_nil hm), ih _ h.2]
  | opt body rest ihb ihr =>
    simp only [Pat.shapeOk, Bool.and_eq_true] at h
    have e0 : (']' == '[') = false := by decide
    simp only [Pat.etext, Pat.gtext, List.cons_append, List.append_assoc]
    rw [brAll]
    simp only [beq_self_eq_true, Bool.not_false, Bool.and_self, if_true]
    rw [ihb _ h.1.2, brAll]
    simp only [e0, Bool.false_and, Bool.false_eq_true, if_false, beq_self_eq_true, Bool.not_false,
      Bool.and_self, if_true]
    rw [ihr _ h.2]

/-- escape loop + bracket loop on the source text of a tree -/
theorem escape_brackets_text (p : Pat) (h : p.shapeOk = true) :
    let e := escapePattern Gen.rePatternEscapes p.text
    bracketsToGroups (e.length + 1) e = p.gtext := by
  simp only [escape_text p h, bracketsToGroups_eq_brAll]
  have := brAll_etext p [] h
  simpa [brAll] using this

end BV
