/-
  Proofs/Tie_resetRolloverFields.lean — the definition GENERATED from the Python source of
  `v2version._reset_rollover_fields` equals the hand model `BV.resetRolloverFields`.

  `_parse_pattern_fields(raw_pattern)` is the extra parameter `fields` on both sides (in the generated
  definition an `Except`: the expression is evaluated — and may raise — first).

  What the proof has to bridge, all of it data-structure detail the hand model abstracts away:
  * `reset_fields = dict(<generator>)`: a dict (duplicates collapsed) instead of the model's item list
    — `applyItems_dictOfList`, `dictHas_dictOfList`;
  * `cur_kwargs = cur_vinfo._asdict()`, the loop `cur_kwargs[field] = int(value)` (`value.isdigit()` holds
    for every row of the generated initial-value table), and `V2VersionInfo(**cur_kwargs)`: a run-time
    dict instead of the model's `VInfo.setNat` fold — `foldl_kwargs`, `ofdict_asdict`;
  * the three trailing `if 'tag' / 'pytag' / 'tag_num' in reset_fields` of the Python are dead: those
    names are not keys of `V2_FIELD_INITIAL_VALUES` (`resetItems_no_key`).

  HYPOTHESIS `hk`: as for `tie_iterResetFieldItems` (every element of `fields` is a field name).
-/
import BumpverVerif.Gen.F_resetRolloverFields
import BumpverVerif.Proofs.Tie_iterResetFieldItems
namespace BV

namespace TieA

/-- a name without an initial value is never a key of the reset items -/
theorem resetItems_no_key (old cur : VInfo) (fs : List Str) (k : Str)
    (hk : lookup k Gen.fieldInitialValues = none) :
    (resetItemsGo old cur false fs).any (fun fi => fi.1 == k) = false := by
  rw [Bool.eq_false_iff]
  intro hany
  rcases List.any_eq_true.mp hany with ⟨fi, hfi, he⟩
  have h1 := (resetItemsGo_mem old cur fs false fi hfi).1
  have e : fi.1 = k := by simpa using he
  rw [e, hk] at h1
  cases h1

end TieA
open TieA

theorem tie_resetRolloverFields_error (raw_pattern : Str) (old_vinfo cur_vinfo : VInfo) (e : PErr) :
    GenF.resetRolloverFields raw_pattern old_vinfo cur_vinfo (.error e) = .error e := by
  unfold GenF.resetRolloverFields
  rfl

theorem tie_resetRolloverFields (raw_pattern : Str) (fields : List Str) (old_vinfo cur_vinfo : VInfo)
    (hk : ∀ f ∈ fields, f ∈ GenF.fieldNamesVInfo) :
    GenF.resetRolloverFields raw_pattern old_vinfo cur_vinfo (.ok fields) =
      .ok (resetRolloverFields fields old_vinfo cur_vinfo) := by
  have hP : ∀ it ∈ resetItemsGo old_vinfo cur_vinfo false fields,
      lookup it.1 Gen.fieldInitialValues = some it.2 :=
    fun it h => (resetItemsGo_mem old_vinfo cur_vinfo fields false it h).1
  have hPd : ∀ it ∈ GenF.dictOfList (resetItemsGo old_vinfo cur_vinfo false fields),
      lookup it.1 Gen.fieldInitialValues = some it.2 :=
    fun it h => hP it (mem_dictOfList _ it h)
  -- the model side: the explicit `_replace` tail is redundant (Proofs/V2Lemmas.lean)
  rw [resetRolloverFields_eq]
  obtain ⟨h1, h2, h3, h4, h5⟩ := applyItems_replace_tail _ cur_vinfo hP
  unfold GenF.resetRolloverFields
  simp (config := {zeta := false}) only []
  extract_lets
  simp (config := {zeta := false, zetaDelta := true}) only [tie_iterResetFieldItems fields old_vinfo cur_vinfo hk]
  extract_lets
  simp (config := {zeta := false, zetaDelta := true}) only []
  rw [foldl_kwargs _ (by intro d it hd; simp [hd]) _ hPd cur_vinfo, applyItems_dictOfList _ hP, ofdict_asdict]
  simp (config := {zeta := false}) only [dictHas_dictOfList,
    resetItems_no_key old_vinfo cur_vinfo fields "tag".toList (by decide),
    resetItems_no_key old_vinfo cur_vinfo fields "pytag".toList (by decide),
    resetItems_no_key old_vinfo cur_vinfo fields "tag_num".toList (by decide)]
  simp only [h1, h2, h3, h4, h5, Bool.false_eq_true, if_false]

end BV
