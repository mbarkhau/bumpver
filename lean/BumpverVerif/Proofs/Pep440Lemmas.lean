/-
  Proofs/Pep440Lemmas.lean — lemmas about the PEP 440 model (Model/Pep440.lean) for the property theorems of
  Props/C16.lean and, through Proofs/PepParseLemmas.lean, of Props/C15.lean.

  Part A: comparators. `LawfulCmp cmp` bundles "`.eq` exactly on equal values, swapping the
          arguments swaps the answer, `.lt` is transitive"; it is preserved by every
          combinator the key comparison is built from (`lawful_cmpKey`).
  Part B: release comparison (`cmp_release_lt_iff`).  Part C: tuple order (`cmpList_lt_iff`).  Part D: facts for the bridge.
  Part E: the recogniser on `digits(.digits)*T` (`parseCore_rel`) and on `sep? word digits*` (`letterSeg_word`); the
          round trip on canonical text (`parsePep_pepStr`); what the recogniser can produce (`parsePep_wf`).
-/
import BumpverVerif.Model.Pep440
import BumpverVerif.Proofs.Digits
namespace BV

/-! ## Part A: lawful comparators -/

structure LawfulCmp {α : Type} (cmp : α → α → Ordering) : Prop where
  eq_iff : ∀ a b, cmp a b = .eq ↔ a = b
  swap : ∀ a b, cmp b a = (cmp a b).swap
  trans : ∀ a b c, cmp a b = .lt → cmp b c = .lt → cmp a c = .lt

namespace LawfulCmp
variable {α : Type} {cmp : α → α → Ordering}

theorem refl (h : LawfulCmp cmp) (a : α) : cmp a a = .eq := (h.eq_iff a a).mpr rfl

theorem lt_iff_gt (h : LawfulCmp cmp) (a b : α) : cmp a b = .lt ↔ cmp b a = .gt := by
  rw [h.swap a b]; cases cmp a b <;> simp [Ordering.swap]

theorem gt_iff_lt (h : LawfulCmp cmp) (a b : α) : cmp a b = .gt ↔ cmp b a = .lt := by
  rw [h.swap a b]; cases cmp a b <;> simp [Ordering.swap]

/-- `≤` (= "not `.gt`") is transitive -/
theorem le_trans (h : LawfulCmp cmp) (a b c : α) (hab : cmp a b ≠ .gt) (hbc : cmp b c ≠ .gt) :
    cmp a c ≠ .gt := by
  cases h1 : cmp a b with
  | gt => exact absurd h1 hab
  | eq => rw [(h.eq_iff a b).mp h1]; exact hbc
  | lt =>
    cases h2 : cmp b c with
    | gt => exact absurd h2 hbc
    | eq => rw [← (h.eq_iff b c).mp h2, h1]; simp
    | lt => rw [h.trans a b c h1 h2]; simp

theorem le_total (h : LawfulCmp cmp) (a b : α) : cmp a b ≠ .gt ∨ cmp b a ≠ .gt := by
  rw [h.swap a b]; cases cmp a b <;> simp [Ordering.swap]

end LawfulCmp

theorem cmpNat_lt (a b : Nat) : cmpNat a b = .lt ↔ a < b := by
  unfold cmpNat; split
  · simp [*]
  · split <;> simp [*]

theorem cmpNat_eq (a b : Nat) : cmpNat a b = .eq ↔ a = b := by
  unfold cmpNat; split
  · simp; omega
  · split
    · simp; omega
    · simp; omega

theorem cmpNat_gt (a b : Nat) : cmpNat a b = .gt ↔ b < a := by
  unfold cmpNat; split
  · simp; omega
  · split <;> simp [*]

theorem lawful_cmpNat : LawfulCmp cmpNat where
  eq_iff := cmpNat_eq
  swap a b := by
    unfold cmpNat
    split <;> split <;> simp [Ordering.swap] <;> omega
  trans a b c h1 h2 := by
    rw [cmpNat_lt] at *; omega

theorem lawful_cmpChar : LawfulCmp cmpChar where
  eq_iff a b := by unfold cmpChar; rw [cmpNat_eq]; exact Char.toNat_inj
  swap a b := lawful_cmpNat.swap _ _
  trans a b c := lawful_cmpNat.trans _ _ _

theorem then_swap_aux (o1 o2 p1 p2 : Ordering) (h1 : p1 = o1.swap) (h2 : p2 = o2.swap) :
    p1.then p2 = (o1.then o2).swap := by
  subst h1 h2; rw [Ordering.swap_then]

theorem then_lt_trans {α : Type} {c : α → α → Ordering} (h : LawfulCmp c) (x y z : α) (t12 t23 t13 : Ordering)
    (ht : t12 = .lt → t23 = .lt → t13 = .lt) (h1 : (c x y).then t12 = .lt) (h2 : (c y z).then t23 = .lt) :
    (c x z).then t13 = .lt := by
  simp only [Ordering.then_eq_lt] at h1 h2 ⊢
  rcases h1 with h1 | ⟨h1, h1'⟩
  · rcases h2 with h2 | ⟨h2, _⟩
    · exact Or.inl (h.trans _ _ _ h1 h2)
    · rw [← (h.eq_iff _ _).mp h2]; exact Or.inl h1
  · rw [(h.eq_iff _ _).mp h1]
    rcases h2 with h2 | ⟨h2, h2'⟩
    · exact Or.inl h2
    · exact Or.inr ⟨h2, ht h1' h2'⟩

theorem lawful_cmpList {α : Type} {cmp : α → α → Ordering} (h : LawfulCmp cmp) :
    LawfulCmp (cmpList cmp) where
  eq_iff := by
    intro a
    induction a with
    | nil => intro b; cases b <;> simp [cmpList]
    | cons x xs ih =>
      intro b
      cases b with
      | nil => simp [cmpList]
      | cons y ys =>
        simp only [cmpList, Ordering.then_eq_eq, List.cons.injEq]
        rw [h.eq_iff, ih]
  swap := by
    intro a
    induction a with
    | nil => intro b; cases b <;> simp [cmpList, Ordering.swap]
    | cons x xs ih =>
      intro b
      cases b with
      | nil => simp [cmpList, Ordering.swap]
      | cons y ys =>
        simp only [cmpList]
        exact then_swap_aux _ _ _ _ (h.swap _ _) (ih ys)
  trans := by
    intro a
    induction a with
    | nil =>
      intro b c h1 h2
      cases b with
      | nil => simp [cmpList] at h1
      | cons y ys => cases c <;> simp [cmpList] at h2 ⊢
    | cons x xs ih =>
      intro b c h1 h2
      cases b with
      | nil => simp [cmpList] at h1
      | cons y ys =>
        cases c with
        | nil => simp [cmpList] at h2
        | cons z zs =>
          exact then_lt_trans h x y z _ _ _ (ih ys zs) h1 h2

theorem lawful_cmpStr : LawfulCmp cmpStr := lawful_cmpList lawful_cmpChar

/-- lexicographic product -/
def cmpProd {α β : Type} (c1 : α → α → Ordering) (c2 : β → β → Ordering) (a b : α × β) : Ordering :=
  (c1 a.1 b.1).then (c2 a.2 b.2)

theorem lawful_cmpProd {α β : Type} {c1 : α → α → Ordering} {c2 : β → β → Ordering}
    (h1 : LawfulCmp c1) (h2 : LawfulCmp c2) : LawfulCmp (cmpProd c1 c2) where
  eq_iff := by
    intro ⟨a1, a2⟩ ⟨b1, b2⟩
    simp only [cmpProd, Ordering.then_eq_eq, Prod.mk.injEq]
    rw [h1.eq_iff, h2.eq_iff]
  swap := by
    intro ⟨a1, a2⟩ ⟨b1, b2⟩
    exact then_swap_aux _ _ _ _ (h1.swap _ _) (h2.swap _ _)
  trans := by
    intro a b c hab hbc
    exact then_lt_trans h1 a.1 b.1 c.1 _ _ _ (h2.trans a.2 b.2 c.2) hab hbc

theorem lawful_cmpLetNum : LawfulCmp cmpLetNum := lawful_cmpProd lawful_cmpStr lawful_cmpNat

theorem lawful_cmpExt {α : Type} {cmp : α → α → Ordering} (h : LawfulCmp cmp) :
    LawfulCmp (cmpExt cmp) where
  eq_iff := by
    intro a b
    cases a <;> cases b <;> simp [cmpExt]
    exact h.eq_iff _ _
  swap := by
    intro a b
    cases a <;> cases b <;> simp [cmpExt, Ordering.swap]
    exact h.swap _ _
  trans := by
    intro a b c h1 h2
    cases a <;> cases b <;> cases c <;> simp [cmpExt] at h1 h2 ⊢
    exact h.trans _ _ _ h1 h2

theorem lawful_cmpSeg : LawfulCmp cmpSeg where
  eq_iff := by
    intro a b
    cases a <;> cases b <;> simp [cmpSeg]
    · exact cmpNat_eq _ _
    · exact lawful_cmpStr.eq_iff _ _
  swap := by
    intro a b
    cases a <;> cases b <;> simp [cmpSeg, Ordering.swap]
    · exact lawful_cmpNat.swap _ _
    · exact lawful_cmpStr.swap _ _
  trans := by
    intro a b c h1 h2
    cases a <;> cases b <;> cases c <;> simp [cmpSeg] at h1 h2 ⊢
    · exact lawful_cmpNat.trans _ _ _ h1 h2
    · exact lawful_cmpStr.trans _ _ _ h1 h2

/-- the comparator of the six items of a PEP 440 key, as a nested lexicographic product -/
def cmpPepTuple :
    Nat × List Nat × Ext (Str × Nat) × Ext Nat × Ext Nat × Ext (List LocalSeg) →
    Nat × List Nat × Ext (Str × Nat) × Ext Nat × Ext Nat × Ext (List LocalSeg) → Ordering :=
  cmpProd cmpNat <| cmpProd (cmpList cmpNat) <| cmpProd (cmpExt cmpLetNum) <|
    cmpProd (cmpExt cmpNat) <| cmpProd (cmpExt cmpNat) (cmpExt (cmpList cmpSeg))

theorem lawful_cmpPepTuple : LawfulCmp cmpPepTuple :=
  lawful_cmpProd lawful_cmpNat <| lawful_cmpProd (lawful_cmpList lawful_cmpNat) <|
    lawful_cmpProd (lawful_cmpExt lawful_cmpLetNum) <| lawful_cmpProd (lawful_cmpExt lawful_cmpNat) <|
      lawful_cmpProd (lawful_cmpExt lawful_cmpNat) (lawful_cmpExt (lawful_cmpList lawful_cmpSeg))

theorem cmpKey_pep_pep (e : Nat) (r : List Nat) (p : Ext (Str × Nat)) (po d : Ext Nat)
    (l : Ext (List LocalSeg)) (e' : Nat) (r' : List Nat) (p' : Ext (Str × Nat)) (po' d' : Ext Nat)
    (l' : Ext (List LocalSeg)) :
    cmpKey (.pep e r p po d l) (.pep e' r' p' po' d' l')
      = cmpPepTuple (e, r, p, po, d, l) (e', r', p', po', d', l') := rfl

theorem lawful_cmpKey : LawfulCmp cmpKey where
  eq_iff := by
    intro a b
    cases a with
    | legacy p =>
      cases b with
      | legacy q => simp only [cmpKey, Key.legacy.injEq]; exact (lawful_cmpList lawful_cmpStr).eq_iff _ _
      | pep => simp [cmpKey]
    | pep e r p po d l =>
      cases b with
      | legacy q => simp [cmpKey]
      | pep e' r' p' po' d' l' =>
        rw [cmpKey_pep_pep, lawful_cmpPepTuple.eq_iff]
        simp only [Prod.mk.injEq, Key.pep.injEq]
  swap := by
    intro a b
    cases a with
    | legacy p =>
      cases b with
      | legacy q => exact (lawful_cmpList lawful_cmpStr).swap _ _
      | pep => simp [cmpKey, Ordering.swap]
    | pep e r p po d l =>
      cases b with
      | legacy q => simp [cmpKey, Ordering.swap]
      | pep e' r' p' po' d' l' =>
        rw [cmpKey_pep_pep, cmpKey_pep_pep]; exact lawful_cmpPepTuple.swap _ _
  trans := by
    intro a b c h1 h2
    cases a with
    | legacy p =>
      cases b with
      | legacy q =>
        cases c with
        | legacy r => exact (lawful_cmpList lawful_cmpStr).trans _ _ _ h1 h2
        | pep => rfl
      | pep =>
        cases c with
        | legacy r => simp [cmpKey] at h2
        | pep => rfl
    | pep e r p po d l =>
      cases b with
      | legacy q => simp [cmpKey] at h1
      | pep e' r' p' po' d' l' =>
        cases c with
        | legacy r => simp [cmpKey] at h2
        | pep e'' r'' p'' po'' d'' l'' =>
          rw [cmpKey_pep_pep] at *
          exact lawful_cmpPepTuple.trans _ _ _ h1 h2

/-- `cmpStr` is Python's `str` order: its `.lt` is `strLt` of Model/Basic -/
theorem cmpStr_lt_iff_strLt : ∀ (a b : Str), cmpStr a b = .lt ↔ strLt a b = true := by
  intro a
  induction a with
  | nil => intro b; cases b <;> simp [cmpStr, cmpList, strLt]
  | cons x xs ih =>
    intro b
    cases b with
    | nil => simp [cmpStr, cmpList, strLt]
    | cons y ys =>
      have ih' := ih ys
      simp only [cmpStr] at ih'
      simp only [cmpStr, cmpList, Ordering.then_eq_lt, strLt_cons_cons, cmpChar, cmpNat_lt, cmpNat_eq]
      rw [ih', Char.toNat_inj]
      by_cases hxy : x < y
      · simp [hxy, (char_lt_iff x y).mp hxy]
      · by_cases hyx : y < x
        · have h1 := (char_lt_iff y x).mp hyx
          have : ¬ x.toNat < y.toNat := by omega
          have hne : x ≠ y := by intro h; subst h; omega
          simp [hxy, hyx, this, hne]
        · have : x = y := char_eq_of_not_lt x y hxy hyx
          subst this
          simp [Char.lt_irrefl]

/-! ## Part B: release comparison — stripping trailing zeros vs padding with zeros -/

theorem stripTrailingZeros_nil : stripTrailingZeros [] = [] := rfl

theorem stripTrailingZeros_cons (x : Nat) (xs : List Nat) :
    stripTrailingZeros (x :: xs)
      = if x = 0 ∧ stripTrailingZeros xs = [] then [] else x :: stripTrailingZeros xs := by
  unfold stripTrailingZeros
  rw [List.reverse_cons, List.dropWhile_append]
  by_cases h : (List.dropWhile (· == 0) xs.reverse) = []
  · rw [h]
    by_cases hx : x = 0
    · simp [hx]
    · simp [hx]
  · have h' : (List.dropWhile (· == 0) xs.reverse).isEmpty = false := by
      cases hh : List.dropWhile (· == 0) xs.reverse with
      | nil => exact absurd hh h
      | cons _ _ => rfl
    rw [h']
    simp [h]

/-- compare after padding the shorter list with zeros -/
def cmpPad : List Nat → List Nat → Ordering
  | [], [] => .eq
  | [], y :: ys => (cmpNat 0 y).then (cmpPad [] ys)
  | x :: xs, [] => (cmpNat x 0).then (cmpPad xs [])
  | x :: xs, y :: ys => (cmpNat x y).then (cmpPad xs ys)

theorem cmpPad_nil_left (s : List Nat) :
    cmpPad [] s = if stripTrailingZeros s = [] then .eq else .lt := by
  induction s with
  | nil => simp [cmpPad, stripTrailingZeros_nil]
  | cons y ys ih =>
    rw [cmpPad, ih, stripTrailingZeros_cons]
    by_cases hy : y = 0
    · subst hy
      by_cases h : stripTrailingZeros ys = [] <;> simp [h, cmpNat]
    · have : cmpNat 0 y = .lt := (cmpNat_lt 0 y).mpr (by omega)
      simp [hy, this]

theorem cmpPad_nil_right (r : List Nat) :
    cmpPad r [] = if stripTrailingZeros r = [] then .eq else .gt := by
  induction r with
  | nil => simp [cmpPad, stripTrailingZeros_nil]
  | cons x xs ih =>
    rw [cmpPad, ih, stripTrailingZeros_cons]
    by_cases hx : x = 0
    · subst hx
      by_cases h : stripTrailingZeros xs = [] <;> simp [h, cmpNat]
    · have : cmpNat x 0 = .gt := (cmpNat_gt x 0).mpr (by omega)
      simp [hx, this]

theorem cmpList_nil_left {α : Type} (cmp : α → α → Ordering) (s : List α) :
    cmpList cmp [] s = if s = [] then .eq else .lt := by
  cases s <;> simp [cmpList]

theorem cmpList_nil_right {α : Type} (cmp : α → α → Ordering) (r : List α) :
    cmpList cmp r [] = if r = [] then .eq else .gt := by
  cases r <;> simp [cmpList]

/-- the implementation's release comparison (strip, then tuple order) is "pad, then compare" -/
theorem cmp_strip_eq_cmpPad : ∀ (r s : List Nat),
    cmpList cmpNat (stripTrailingZeros r) (stripTrailingZeros s) = cmpPad r s := by
  intro r
  induction r with
  | nil => intro s; rw [stripTrailingZeros_nil, cmpList_nil_left, cmpPad_nil_left]
  | cons x xs ih =>
    intro s
    cases s with
    | nil => rw [stripTrailingZeros_nil, cmpList_nil_right, cmpPad_nil_right]
    | cons y ys =>
      rw [cmpPad, ← ih ys, stripTrailingZeros_cons, stripTrailingZeros_cons]
      by_cases h1 : x = 0 ∧ stripTrailingZeros xs = []
      · rw [if_pos h1, h1.1, h1.2]
        by_cases h2 : y = 0 ∧ stripTrailingZeros ys = []
        · rw [if_pos h2, h2.1, h2.2]; rfl
        · rw [if_neg h2]
          simp only [cmpList]
          by_cases hy : y = 0
          · have : stripTrailingZeros ys ≠ [] := fun h => h2 ⟨hy, h⟩
            subst hy
            rw [cmpList_nil_left, if_neg this]; rfl
          · rw [(cmpNat_lt 0 y).mpr (by omega)]; rfl
      · rw [if_neg h1]
        by_cases h2 : y = 0 ∧ stripTrailingZeros ys = []
        · rw [if_pos h2, h2.1, h2.2]
          simp only [cmpList]
          by_cases hx : x = 0
          · have : stripTrailingZeros xs ≠ [] := fun h => h1 ⟨hx, h⟩
            subst hx
            rw [cmpList_nil_right, if_neg this]; rfl
          · rw [(cmpNat_gt x 0).mpr (by omega)]; rfl
        · rw [if_neg h2]; rfl

theorem exists_nat_split (P : Nat → Prop) : (∃ i, P i) ↔ P 0 ∨ ∃ i, P (i + 1) := by
  constructor
  · rintro ⟨i, hi⟩
    cases i with
    | zero => exact Or.inl hi
    | succ k => exact Or.inr ⟨k, hi⟩
  · rintro (h | ⟨i, hi⟩)
    · exact ⟨0, h⟩
    · exact ⟨i + 1, hi⟩

theorem forall_nat_split (P : Nat → Prop) : (∀ i, P i) ↔ P 0 ∧ ∀ i, P (i + 1) := by
  constructor
  · intro h; exact ⟨h 0, fun i => h (i + 1)⟩
  · rintro ⟨h0, hs⟩ i
    cases i with
    | zero => exact h0
    | succ k => exact hs k

theorem forall_lt_succ_split (P : Nat → Prop) (i : Nat) :
    (∀ j, j < i + 1 → P j) ↔ P 0 ∧ ∀ j, j < i → P (j + 1) := by
  constructor
  · intro h; exact ⟨h 0 (by omega), fun j hj => h (j + 1) (by omega)⟩
  · rintro ⟨h0, hs⟩ j hj
    cases j with
    | zero => exact h0
    | succ k => exact hs k (by omega)

/-- "first differing component decides", on component functions -/
theorem lexLt_fun_step (f g : Nat → Nat) :
    (∃ i, (∀ j, j < i → f j = g j) ∧ f i < g i) ↔
      f 0 < g 0 ∨ (f 0 = g 0 ∧ ∃ i, (∀ j, j < i → f (j + 1) = g (j + 1)) ∧ f (i + 1) < g (i + 1)) := by
  rw [exists_nat_split]
  constructor
  · rintro (⟨_, h⟩ | ⟨i, hi, hlt⟩)
    · exact Or.inl h
    · rw [forall_lt_succ_split] at hi
      exact Or.inr ⟨hi.1, i, hi.2, hlt⟩
  · rintro (h | ⟨h0, i, hi, hlt⟩)
    · exact Or.inl ⟨fun j hj => absurd hj (by omega), h⟩
    · exact Or.inr ⟨i, (forall_lt_succ_split _ i).mpr ⟨h0, hi⟩, hlt⟩

theorem cmpPad_lt_iff : ∀ (r s : List Nat), cmpPad r s = .lt ↔
    ∃ i, (∀ j, j < i → r.getD j 0 = s.getD j 0) ∧ r.getD i 0 < s.getD i 0 := by
  intro r
  induction r with
  | nil =>
    intro s
    induction s with
    | nil => simp [cmpPad]
    | cons y ys ih =>
      rw [lexLt_fun_step, cmpPad, Ordering.then_eq_lt, cmpNat_lt, cmpNat_eq, ih]
      simp only [List.getD_nil, List.getD_cons_zero, List.getD_cons_succ]
  | cons x xs ih =>
    intro s
    cases s with
    | nil =>
      rw [lexLt_fun_step, cmpPad, Ordering.then_eq_lt, cmpNat_lt, cmpNat_eq, ih]
      simp only [List.getD_nil, List.getD_cons_zero, List.getD_cons_succ]
    | cons y ys =>
      rw [lexLt_fun_step, cmpPad, Ordering.then_eq_lt, cmpNat_lt, cmpNat_eq, ih]
      simp only [List.getD_cons_zero, List.getD_cons_succ]

theorem cmpPad_eq_iff : ∀ (r s : List Nat), cmpPad r s = .eq ↔ ∀ i, r.getD i 0 = s.getD i 0 := by
  intro r
  induction r with
  | nil =>
    intro s
    induction s with
    | nil => simp [cmpPad]
    | cons y ys ih =>
      rw [forall_nat_split, cmpPad, Ordering.then_eq_eq, cmpNat_eq, ih]
      simp only [List.getD_nil, List.getD_cons_zero, List.getD_cons_succ]
  | cons x xs ih =>
    intro s
    cases s with
    | nil =>
      rw [forall_nat_split, cmpPad, Ordering.then_eq_eq, cmpNat_eq, ih]
      simp only [List.getD_nil, List.getD_cons_zero, List.getD_cons_succ]
    | cons y ys =>
      rw [forall_nat_split, cmpPad, Ordering.then_eq_eq, cmpNat_eq, ih]
      simp only [List.getD_cons_zero, List.getD_cons_succ]

theorem cmp_release_lt_iff (r s : List Nat) :
    cmpList cmpNat (stripTrailingZeros r) (stripTrailingZeros s) = .lt ↔
      ∃ i, (∀ j, j < i → r.getD j 0 = s.getD j 0) ∧ r.getD i 0 < s.getD i 0 := by
  rw [cmp_strip_eq_cmpPad, cmpPad_lt_iff]

theorem cmp_release_eq_iff (r s : List Nat) :
    cmpList cmpNat (stripTrailingZeros r) (stripTrailingZeros s) = .eq ↔
      ∀ i, r.getD i 0 = s.getD i 0 := by
  rw [cmp_strip_eq_cmpPad, cmpPad_eq_iff]

/-! ## Part C: tuple order as "first differing position, or proper prefix" -/

theorem cmpList_lt_iff {α : Type} {cmp : α → α → Ordering} (h : LawfulCmp cmp) :
    ∀ (a b : List α), cmpList cmp a b = .lt ↔
      (∃ p x y a' b', a = p ++ x :: a' ∧ b = p ++ y :: b' ∧ cmp x y = .lt) ∨
      (∃ y t, b = a ++ y :: t) := by
  intro a
  induction a with
  | nil =>
    intro b
    cases b with
    | nil => simp [cmpList]
    | cons y ys =>
      simp only [cmpList, true_iff]
      exact Or.inr ⟨y, ys, rfl⟩
  | cons x xs ih =>
    intro b
    cases b with
    | nil => 
      simp only [cmpList, reduceCtorEq, false_iff]
      rintro (⟨p, x', y', a', b', _, hb, _⟩ | ⟨y, t, hb⟩)
      · cases p <;> simp at hb
      · simp at hb
    | cons y ys =>
      simp only [cmpList, Ordering.then_eq_lt]
      constructor
      · rintro (hlt | ⟨heq, hrest⟩)
        · exact Or.inl ⟨[], x, y, xs, ys, rfl, rfl, hlt⟩
        · have hxy := (h.eq_iff x y).mp heq
          subst hxy
          rcases (ih ys).mp hrest with ⟨p, x', y', a', b', ha, hb, hlt⟩ | ⟨y', t, hb⟩
          · exact Or.inl ⟨x :: p, x', y', a', b', by rw [ha]; rfl, by rw [hb]; rfl, hlt⟩
          · exact Or.inr ⟨y', t, by rw [hb]; rfl⟩
      · rintro (⟨p, x', y', a', b', ha, hb, hlt⟩ | ⟨y', t, hb⟩)
        · cases p with
          | nil =>
            simp only [List.nil_append, List.cons.injEq] at ha hb
            rw [ha.1, hb.1]; exact Or.inl hlt
          | cons z p' =>
            simp only [List.cons_append, List.cons.injEq] at ha hb
            rw [ha.1, hb.1]
            exact Or.inr ⟨h.refl z, (ih ys).mpr (Or.inl ⟨p', x', y', a', b', ha.2, hb.2, hlt⟩)⟩
        · simp only [List.cons_append, List.cons.injEq] at hb
          rw [hb.1]
          exact Or.inr ⟨h.refl x, (ih ys).mpr (Or.inr ⟨y', t, hb.2⟩)⟩

/-! ## Part D: small facts used by the bridge to the specification -/

theorem preKeyOf_some (v : PepVersion) (p : Str × Nat) (h : v.pre = some p) : preKeyOf v = .val p := by
  unfold preKeyOf; rw [h]

theorem bridge_letters :
    cmpStr ['a'] ['a'] = .eq ∧ cmpStr ['a'] ['b'] = .lt ∧ cmpStr ['a'] ['r', 'c'] = .lt ∧
    cmpStr ['b'] ['a'] = .gt ∧ cmpStr ['b'] ['b'] = .eq ∧ cmpStr ['b'] ['r', 'c'] = .lt ∧
    cmpStr ['r', 'c'] ['a'] = .gt ∧ cmpStr ['r', 'c'] ['b'] = .gt ∧ cmpStr ['r', 'c'] ['r', 'c'] = .eq := by
  decide

theorem then_assoc4 (a b c d : Ordering) :
    a.then (b.then (c.then d)) = (a.then (b.then c)).then d := by
  cases a <;> cases b <;> cases c <;> rfl

/-! ## Part E: the recogniser on canonical text (round trip) and what it can produce -/

/-- the pre-release letter is one of the three normal forms -/
def WfPre (v : PepVersion) : Prop :=
  ∀ l n, v.pre = some (l, n) → l = ['a'] ∨ l = ['b'] ∨ l = ['r', 'c']

theorem WfPre_of_wfPep (v : PepVersion) (h : wfPep v = true) : WfPre v := by
  intro l n hp
  simp only [wfPep, hp, Bool.and_eq_true, Bool.or_eq_true, beq_iff_eq] at h
  exact (by simpa [or_assoc] using h.1.2)

/-! ### digit strings followed by a non-digit -/

/-- the text does not start with a digit -/
def NoDigitHead (s : Str) : Prop := ∀ c t, s = c :: t → isDigit c = false

theorem takeWhile_digits_append (a b : Str) (ha : allDigits a = true) (hb : NoDigitHead b) :
    (a ++ b).takeWhile isDigit = a ∧ (a ++ b).dropWhile isDigit = b := by
  induction a with
  | nil =>
    cases b with
    | nil => simp
    | cons c t => simp [hb c t rfl]
  | cons x xs ih =>
    rw [allDigits_cons] at ha
    have := ih ha.2
    simp [ha.1, this.1, this.2]

theorem natToStr_cons (n : Nat) : ∃ c t, natToStr n = c :: t ∧ isDigit c = true := by
  have h := allDigits_natToStr n
  cases hs : natToStr n with
  | nil => exact absurd hs (natToStr_ne_nil n)
  | cons c t =>
    rw [hs, allDigits_cons] at h
    exact ⟨c, t, rfl, h.1⟩

theorem noDigitHead_nil : NoDigitHead [] := by intro c t h; cases h

theorem noDigitHead_cons (c : Char) (t : Str) (h : isDigit c = false) : NoDigitHead (c :: t) := by
  intro c' t' h'
  cases h'; exact h

/-! ### characters -/

theorem isDigit_toNat (c : Char) (h : isDigit c = true) : 48 ≤ c.toNat ∧ c.toNat ≤ 57 :=
  (isDigit_iff c).mp h

theorem char_ne_of_toNat_ne (c d : Char) (h : c.toNat ≠ d.toNat) : c ≠ d := by
  intro hcd; subst hcd; exact h rfl

/-- the characters of canonical text (digits, lower-case letters, `.`, `!`, `+`) and of the version strings
    bumpver renders (also `-`): the parser's preprocessing leaves them alone -/
def isCanon (c : Char) : Bool := isDigit c || isLower c || c == '.' || c == '!' || c == '+' || c == '-'

theorem isCanon_toNat (c : Char) (h : isCanon c = true) :
    (48 ≤ c.toNat ∧ c.toNat ≤ 57) ∨ (97 ≤ c.toNat ∧ c.toNat ≤ 122) ∨ c.toNat = 46 ∨ c.toNat = 33 ∨
      c.toNat = 43 ∨ c.toNat = 45 := by
  simp only [isCanon, Bool.or_eq_true, beq_iff_eq] at h
  rcases h with ((((h | h) | h) | h) | h) | h
  · exact Or.inl ((isDigit_iff c).mp h)
  · exact Or.inr (Or.inl ((isLower_iff c).mp h))
  · subst h; decide
  · subst h; decide
  · subst h; decide
  · subst h; decide

theorem toLower_of_canon (c : Char) (h : isCanon c = true) : toLowerAscii c = c := by
  have h' := isCanon_toNat c h
  have : isUpper c = false := by
    cases hu : isUpper c with
    | false => rfl
    | true => have := (isUpper_iff c).mp hu; omega
  simp [toLowerAscii, this]

theorem notSpace_of_canon (c : Char) (h : isCanon c = true) : isReSpace c = false := by
  have h' := isCanon_toNat c h
  simp only [isReSpace, Bool.or_eq_false_iff, Bool.and_eq_false_iff, decide_eq_false_iff_not]
  omega

theorem lowerStr_of_canon (s : Str) (h : s.all isCanon = true) : lowerStr s = s := by
  induction s with
  | nil => rfl
  | cons c cs ih =>
    simp only [List.all_cons, Bool.and_eq_true] at h
    simp only [lowerStr, List.map_cons, List.cons.injEq] at ih ⊢
    exact ⟨toLower_of_canon c h.1, ih h.2⟩

theorem dropWhile_of_all_false {α : Type} (p : α → Bool) (s : List α) (h : ∀ c ∈ s, p c = false) :
    s.dropWhile p = s := by
  cases s with
  | nil => rfl
  | cons c cs => simp [h c (by simp)]

theorem reStrip_of_canon (s : Str) (h : s.all isCanon = true) : reStrip s = s := by
  have h1 : ∀ c ∈ s, isReSpace c = false := by
    intro c hc
    exact notSpace_of_canon c (List.all_eq_true.mp h c hc)
  unfold reStrip
  rw [dropWhile_of_all_false _ s h1, dropWhile_of_all_false _ s.reverse (by simpa using h1)]
  simp

theorem dropV_of_digit (c : Char) (t : Str) (h : isDigit c = true) : dropV (c :: t) = c :: t := by
  unfold dropV
  split
  · next r heq =>
    cases heq
    exact absurd h (by decide)
  · rfl

/-! ### epoch and first release component -/

theorem headSeg_noEpoch (ds X : Str) (hne : ds ≠ []) (hd : allDigits ds = true) (hX : NoDigitHead X)
    (hb : ∀ t, X ≠ '!' :: t) : headSeg (ds ++ X) = some (0, ds, X) := by
  have h := takeWhile_digits_append ds X hd hX
  have hemp : ds.isEmpty = false := by cases ds <;> simp_all
  simp only [headSeg, h.1, h.2, hemp, Bool.false_eq_true, ↓reduceIte]

theorem headSeg_epoch (es ds X : Str) (hes : es ≠ []) (hed : allDigits es = true) (hne : ds ≠ [])
    (hd : allDigits ds = true) (hX : NoDigitHead X) :
    headSeg (es ++ '!' :: (ds ++ X)) = some (strToNat es, ds, X) := by
  have h := takeWhile_digits_append es ('!' :: (ds ++ X)) hed (noDigitHead_cons _ _ (by decide))
  have h2 := takeWhile_digits_append ds X hd hX
  have hemp : es.isEmpty = false := by cases es <;> simp_all
  have hemp2 : ds.isEmpty = false := by cases ds <;> simp_all
  simp only [headSeg, h.1, h.2, hemp, h2.1, h2.2, hemp2]
  rfl

/-! ### further release components -/

/-- the text does not continue the release: no `.digit` -/
def StopsRel (s : Str) : Prop := ∀ c t, s = '.' :: c :: t → isDigit c = false

theorem relTailF_stop (f : Nat) (T : Str) (h : StopsRel T) : relTailF f T = ([], T) := by
  unfold relTailF
  split
  · rfl
  · next c cs => simp [h c cs rfl]
  · rfl

def DigitsNE (d : Str) : Prop := d ≠ [] ∧ allDigits d = true

/-- `.d1.d2…` -/
def relTxt : List Str → Str
  | [] => []
  | d :: ds => '.' :: (d ++ relTxt ds)

theorem relTxt_append (a b : List Str) : relTxt (a ++ b) = relTxt a ++ relTxt b := by
  induction a with
  | nil => rfl
  | cons d ds ih => simp only [List.cons_append, relTxt, ih, List.append_assoc]

theorem join_dot (d : Str) (ds : List Str) : join ['.'] (d :: ds) = d ++ relTxt ds := by
  induction ds generalizing d with
  | nil => simp [join, relTxt]
  | cons e ds ih => simp only [join, ih e, relTxt, List.append_assoc, List.cons_append, List.nil_append]

theorem noDigitHead_relTxt (dss : List Str) (T : Str) (hT : NoDigitHead T) : NoDigitHead (relTxt dss ++ T) := by
  cases dss with
  | nil => exact hT
  | cons d ds => exact noDigitHead_cons _ _ (by decide)

theorem notBang_relTxt (dss : List Str) (T : Str) (hT : ∀ t, T ≠ '!' :: t) : ∀ t, relTxt dss ++ T ≠ '!' :: t := by
  cases dss with
  | nil => exact hT
  | cons d ds =>
    intro t h
    simp only [relTxt, List.cons_append] at h
    injection h with h _
    cases h

theorem relTxt_length (dss : List Str) : dss.length ≤ (relTxt dss).length := by
  induction dss with
  | nil => simp [relTxt]
  | cons d ds ih => simp only [relTxt, List.length_cons, List.length_append]; omega

theorem relTailF_relTxt (dss : List Str) (T : Str) (hT : StopsRel T) (hT2 : NoDigitHead T) :
    (∀ d ∈ dss, DigitsNE d) → ∀ f, dss.length ≤ f → relTailF f (relTxt dss ++ T) = (dss, T) := by
  induction dss with
  | nil => intro _ f _; exact relTailF_stop f T hT
  | cons d ds ih =>
    intro hs f hf
    cases f with
    | zero => simp at hf
    | succ f =>
      obtain ⟨hne, hd⟩ := hs d (by simp)
      cases d with
      | nil => exact absurd rfl hne
      | cons c t =>
        have hc := ((allDigits_cons c t).mp hd).1
        have h := takeWhile_digits_append (c :: t) (relTxt ds ++ T) hd (noDigitHead_relTxt ds T hT2)
        simp only [List.cons_append] at h
        have ih' := ih (fun d' hd' => hs d' (by simp [hd'])) f (by simpa using hf)
        simp only [relTxt, List.cons_append, List.append_assoc, relTailF, hc, if_true, h.1, h.2, ih']

/-! ### letter segments -/

theorem isSep_digit (c : Char) (h : isDigit c = true) : isSep c = false := by
  have := (isDigit_iff c).mp h
  simp only [isSep, Bool.or_eq_false_iff, beq_eq_false_iff_ne, ne_eq]
  refine ⟨⟨?_, ?_⟩, ?_⟩ <;> (apply char_ne_of_toNat_ne; simp; omega)

theorem words_lower : ∀ p ∈ preWords ++ postWords ++ devWords, p.1.all isLower = true := by decide

def NoLowerHead (r : Str) : Prop := ∀ c t, r = c :: t → isLower c = false

theorem dropPrefix?_append (r : Str) (hr : NoLowerHead r) : ∀ (w s : Str), w.all isLower = true →
    dropPrefix? w (s ++ r) = (dropPrefix? w s).map (· ++ r) := by
  intro w
  induction w with
  | nil => intro s _; rfl
  | cons a p ih =>
    intro s hw
    simp only [List.all_cons, Bool.and_eq_true] at hw
    cases s with
    | cons b s' =>
      simp only [List.cons_append, dropPrefix?]
      split
      · exact ih s' hw.2
      · rfl
    | nil =>
      cases r with
      | nil => rfl
      | cons c t =>
        have hc := hr c t rfl
        have : a ≠ c := fun e => by rw [e, hc] at hw; cases hw.1
        simp only [List.nil_append, dropPrefix?, if_neg this, Option.map_none]

/-- A WORD TABLE LOOKS AT LETTERS ONLY: what follows `s` and begins with no lower-case letter (digits, a separator,
    the end) does not change which word is found -/
theorem firstPrefix_append (r : Str) (hr : NoLowerHead r) (s : Str) : ∀ ws : List (Str × Str),
    (∀ p ∈ ws, p.1.all isLower = true) →
    firstPrefix ws (s ++ r) = (firstPrefix ws s).map (fun p => (p.1, p.2 ++ r)) := by
  intro ws
  induction ws with
  | nil => intro _; rfl
  | cons p rest ih =>
    intro h
    obtain ⟨w, nm⟩ := p
    simp only [firstPrefix, dropPrefix?_append r hr w s (h _ List.mem_cons_self)]
    cases dropPrefix? w s with
    | some x => rfl
    | none => exact ih (fun q hq => h q (List.mem_cons_of_mem _ hq))

theorem noLowerHead_digits (ds T : Str) (hd : allDigits ds = true) (h0 : ds = [] → T = []) : NoLowerHead (ds ++ T) := by
  intro c t e
  cases ds with
  | nil => rw [h0 rfl] at e; cases e
  | cons d ds' =>
    cases e
    have := (isDigit_iff c).mp ((allDigits_cons c ds').mp hd).1
    cases hl : isLower c with
    | false => rfl
    | true => have := (isLower_iff c).mp hl; omega

/-- THE LETTER SEGMENT on `sep? word digits* T`: the word's normal form with the number the digits denote (none: 0).
    `T` starts with no digit, and without digits nothing follows. -/
theorem letterSeg_word (ws : List (Str × Str)) (hws : ∀ p ∈ ws, p.1.all isLower = true) (s w l ds T : Str)
    (hs : dropOptSep s = w ++ (ds ++ T)) (hfp : firstPrefix ws w = some (l, []))
    (hd : allDigits ds = true) (hT : NoDigitHead T) (h0 : ds = [] → T = []) :
    letterSeg ws s = some ((l, strToNat ds), T) := by
  have hsep : dropOptSep (ds ++ T) = ds ++ T := by
    cases ds with
    | nil => rw [h0 rfl]; rfl
    | cons c t => simp [dropOptSep, isSep_digit c ((allDigits_cons c t).mp hd).1]
  have ht := takeWhile_digits_append ds T hd hT
  simp only [letterSeg, hs, firstPrefix_append _ (noLowerHead_digits ds T hd h0) w ws hws, hfp, Option.map_some,
    List.nil_append, hsep, ht.1, ht.2]

theorem sub_pre : ∀ p ∈ preWords, p ∈ preWords ++ postWords ++ devWords := by
  intro p hp; simp only [List.append_assoc, List.mem_append]; exact Or.inl hp
theorem sub_post : ∀ p ∈ postWords, p ∈ preWords ++ postWords ++ devWords := by
  intro p hp; simp only [List.append_assoc, List.mem_append]; exact Or.inr (Or.inl hp)
theorem sub_dev : ∀ p ∈ devWords, p ∈ preWords ++ postWords ++ devWords := by
  intro p hp; simp only [List.append_assoc, List.mem_append]; exact Or.inr (Or.inr hp)

theorem pre_lower : ∀ p ∈ preWords, p.1.all isLower = true := fun p hp => words_lower p (sub_pre p hp)
theorem post_lower : ∀ p ∈ postWords, p.1.all isLower = true := fun p hp => words_lower p (sub_post p hp)
theorem dev_lower : ∀ p ∈ devWords, p.1.all isLower = true := fun p hp => words_lower p (sub_dev p hp)

/-! ### the text after the release: shapes of its beginning -/

theorem stopsRel_nil : StopsRel [] := by intro c t h; cases h

theorem stopsRel_cons_ne (c : Char) (t : Str) (h : c ≠ '.') : StopsRel (c :: t) := by
  intro c' t' h'
  injection h' with h1 _
  exact absurd h1 h

theorem stopsRel_dot (c : Char) (t : Str) (h : isDigit c = false) : StopsRel ('.' :: c :: t) := by
  intro c' t' h'
  injection h' with _ h2
  injection h2 with h3 _
  rw [← h3]; exact h

/-- a beginning that cannot continue a number, a release, or be taken for `!` -/
def TailOK (s : Str) : Prop := NoDigitHead s ∧ StopsRel s ∧ ∀ t, s ≠ '!' :: t

theorem tailOK_nil : TailOK [] := ⟨noDigitHead_nil, stopsRel_nil, fun _ h => by cases h⟩

theorem tailOK_cons (c : Char) (t : Str) (h1 : isDigit c = false) (h2 : c ≠ '.') (h3 : c ≠ '!') :
    TailOK (c :: t) :=
  ⟨noDigitHead_cons c t h1, stopsRel_cons_ne c t h2, fun _ h => by injection h with h _; exact h3 h⟩

theorem tailOK_dot (c : Char) (t : Str) (h : isDigit c = false) : TailOK ('.' :: c :: t) :=
  ⟨noDigitHead_cons _ _ (by decide), stopsRel_dot c t h, fun _ h => by injection h with h _; cases h⟩

theorem tailOK_loc (loc : Option (List LocalSeg)) : TailOK (locStr loc) := by
  cases loc with
  | none => exact tailOK_nil
  | some l => exact tailOK_cons _ _ (by decide) (by decide) (by decide)

theorem tailOK_dev (dev : Option Nat) (loc : Option (List LocalSeg)) :
    TailOK (devStr dev ++ locStr loc) := by
  cases dev with
  | none => exact tailOK_loc loc
  | some n => exact tailOK_dot _ _ (by decide)

theorem tailOK_post (post dev : Option Nat) (loc : Option (List LocalSeg)) :
    TailOK (postStr post ++ (devStr dev ++ locStr loc)) := by
  cases post with
  | none => exact tailOK_dev dev loc
  | some n => exact tailOK_dot _ _ (by decide)

theorem tailOK_pre (pre : Option (Str × Nat)) (post dev : Option Nat) (loc : Option (List LocalSeg))
    (hpre : ∀ l n, pre = some (l, n) → l = ['a'] ∨ l = ['b'] ∨ l = ['r', 'c']) :
    TailOK (preStr pre ++ (postStr post ++ (devStr dev ++ locStr loc))) := by
  cases pre with
  | none => exact tailOK_post post dev loc
  | some p =>
    obtain ⟨l, n⟩ := p
    rcases hpre l n rfl with rfl | rfl | rfl <;>
      exact tailOK_cons _ _ (by decide) (by decide) (by decide)

/-! ### the optional groups on canonical text -/

theorem preSeg_some (l : Str) (n : Nat) (T : Str) (hl : l = ['a'] ∨ l = ['b'] ∨ l = ['r', 'c'])
    (hT : NoDigitHead T) : preSeg (preStr (some (l, n)) ++ T) = (some (l, n), T) := by
  have h := fun hs hfp => letterSeg_word preWords pre_lower (preStr (some (l, n)) ++ T) l l (natToStr n) T hs hfp
    (allDigits_natToStr n) hT (fun e => absurd e (natToStr_ne_nil n))
  rcases hl with rfl | rfl | rfl <;>
    simp only [preSeg, h (by simp [preStr, dropOptSep, isSep]) (by decide), strToNat_natToStr]

theorem preSeg_none (post dev : Option Nat) (loc : Option (List LocalSeg)) :
    preSeg (postStr post ++ (devStr dev ++ locStr loc)) = (none, postStr post ++ (devStr dev ++ locStr loc)) := by
  cases post <;> cases dev <;> cases loc <;>
    simp [preSeg, letterSeg, postStr, devStr, locStr, dropOptSep, isSep, preWords, firstPrefix, dropPrefix?]

theorem postSeg_some (n : Nat) (T : Str) (hT : NoDigitHead T) :
    postSeg (postStr (some n) ++ T) = (some n, T) := by
  have h : letterSeg postWords ('.' :: 'p' :: 'o' :: 's' :: 't' :: (natToStr n ++ T))
      = some ((['p', 'o', 's', 't'], strToNat (natToStr n)), T) :=
    letterSeg_word postWords post_lower _ "post".toList _ (natToStr n) T rfl (by decide) (allDigits_natToStr n) hT
      (fun e => absurd e (natToStr_ne_nil n))
  simp [postSeg, postStr, h, strToNat_natToStr]

theorem postSeg_none (dev : Option Nat) (loc : Option (List LocalSeg)) :
    postSeg (devStr dev ++ locStr loc) = (none, devStr dev ++ locStr loc) := by
  cases dev <;> cases loc <;>
    simp [postSeg, letterSeg, devStr, locStr, dropOptSep, isSep, postWords, firstPrefix, dropPrefix?]

theorem devSeg_some (n : Nat) (T : Str) (hT : NoDigitHead T) :
    devSeg (devStr (some n) ++ T) = (some n, T) := by
  have h := letterSeg_word devWords dev_lower (devStr (some n) ++ T) "dev".toList "dev".toList (natToStr n) T
    (by simp [devStr, dropOptSep, isSep]) (by decide) (allDigits_natToStr n) hT (fun e => absurd e (natToStr_ne_nil n))
  simp only [devSeg, h, strToNat_natToStr]

theorem devSeg_none (loc : Option (List LocalSeg)) : devSeg (locStr loc) = (none, locStr loc) := by
  cases loc <;>
    simp [devSeg, letterSeg, locStr, dropOptSep, isSep, devWords, firstPrefix, dropPrefix?]

/-! ### the local segment -/

theorem isLocalChar_toNat (c : Char) (h : isLocalChar c = true) :
    (48 ≤ c.toNat ∧ c.toNat ≤ 57) ∨ (97 ≤ c.toNat ∧ c.toNat ≤ 122) := by
  simp only [isLocalChar, Bool.or_eq_true] at h
  rcases h with h | h
  · exact Or.inr ((isLower_iff c).mp h)
  · exact Or.inl ((isDigit_iff c).mp h)

theorem isSep_of_localChar (c : Char) (h : isLocalChar c = true) : isSep c = false := by
  have := isLocalChar_toNat c h
  simp only [isSep, Bool.or_eq_false_iff, beq_eq_false_iff_ne, ne_eq]
  refine ⟨⟨?_, ?_⟩, ?_⟩ <;> (apply char_ne_of_toNat_ne; simp; omega)

theorem isCanon_of_localChar (c : Char) (h : isLocalChar c = true) : isCanon c = true := by
  simp only [isLocalChar, Bool.or_eq_true] at h
  simp only [isCanon, Bool.or_eq_true]
  rcases h with h | h
  · exact Or.inl (Or.inl (Or.inl (Or.inl (Or.inr h))))
  · exact Or.inl (Or.inl (Or.inl (Or.inl (Or.inl h))))

theorem isLocalChar_of_digit (c : Char) (h : isDigit c = true) : isLocalChar c = true := by
  simp [isLocalChar, h]

theorem splitSeps_append (p : Str) (hp : ∀ c ∈ p, isSep c = false) :
    ∀ (cur rest : Str), splitSeps cur (p ++ rest) = splitSeps (p.reverse ++ cur) rest := by
  induction p with
  | nil => intro cur rest; rfl
  | cons c cs ih =>
    intro cur rest
    have hc := hp c (by simp)
    simp only [List.cons_append, splitSeps, hc, Bool.false_eq_true, if_false]
    rw [ih (fun d hd => hp d (by simp [hd]))]
    simp

theorem splitSeps_join (l : List Str) (hne : l ≠ []) (hl : ∀ p ∈ l, ∀ c ∈ p, isSep c = false) :
    splitSeps [] (join ['.'] l) = l := by
  induction l with
  | nil => exact absurd rfl hne
  | cons p ps ih =>
    cases ps with
    | nil =>
      have := splitSeps_append p (hl p (by simp)) [] []
      simp only [List.append_nil] at this
      simp [join, this, splitSeps]
    | cons q qs =>
      have h1 := splitSeps_append p (hl p (by simp)) [] ('.' :: join ['.'] (q :: qs))
      have h2 := ih (by simp) (fun p' hp' => hl p' (by simp [hp']))
      simp only [join, List.append_assoc, List.cons_append, List.nil_append, h1]
      simp [splitSeps, isSep, h2]

/-- the text of a well-formed local part reads back as that part -/
theorem localSegStr_props (seg : LocalSeg) (h : wfLocalSeg seg = true) :
    (localSegStr seg).isEmpty = false ∧ (localSegStr seg).all isLocalChar = true ∧
      parseLocalPart (localSegStr seg) = seg := by
  cases seg with
  | num n =>
    have hd := allDigits_natToStr n
    have hne := natToStr_ne_nil n
    refine ⟨by cases h' : natToStr n <;> simp_all [localSegStr], ?_, ?_⟩
    · simp only [localSegStr, List.all_eq_true]
      intro c hc
      exact isLocalChar_of_digit c (List.all_eq_true.mp hd c hc)
    · simp [parseLocalPart, localSegStr, isDigitStr_natToStr, strToNat_natToStr]
  | str s =>
    simp only [wfLocalSeg, Bool.and_eq_true, Bool.not_eq_true'] at h
    refine ⟨h.1.1, h.1.2, ?_⟩
    simp [parseLocalPart, localSegStr, isDigitStr, h.2]

theorem localSeg_canon (loc : Option (List LocalSeg))
    (h : ∀ l, loc = some l → l ≠ [] ∧ l.all wfLocalSeg = true) : localSeg (locStr loc) = some loc := by
  cases loc with
  | none => rfl
  | some l =>
    obtain ⟨hne, hall⟩ := h l rfl
    have hprops : ∀ seg ∈ l, _ := fun seg hs => localSegStr_props seg (List.all_eq_true.mp hall seg hs)
    have hsplit : splitSeps [] (join ['.'] (l.map localSegStr)) = l.map localSegStr := by
      apply splitSeps_join
      · simpa using hne
      · intro p hp c hc
        obtain ⟨seg, hs, rfl⟩ := List.mem_map.mp hp
        exact isSep_of_localChar c (List.all_eq_true.mp (hprops seg hs).2.1 c hc)
    have hok : (l.map localSegStr).all (fun p => !p.isEmpty && p.all isLocalChar) = true := by
      simp only [List.all_map, List.all_eq_true, Function.comp]
      intro seg hs
      simp [(hprops seg hs).1, (hprops seg hs).2.1]
    have hmap : (l.map localSegStr).map parseLocalPart = l := by
      rw [List.map_map]
      conv => rhs; rw [← List.map_id l]
      apply List.map_congr_left
      intro seg hs
      exact (hprops seg hs).2.2
    simp only [locStr, localSeg, hsplit, hok, if_true, hmap]

/-! ### canonical text has canonical characters -/

theorem all_join (P : Char → Bool) (sep : Char) (hsep : P sep = true) (l : List Str)
    (hl : ∀ p ∈ l, p.all P = true) : (join [sep] l).all P = true := by
  induction l with
  | nil => rfl
  | cons p ps ih =>
    cases ps with
    | nil => simpa [join] using hl p (by simp)
    | cons q qs =>
      have := ih (fun p' hp' => hl p' (by simp [hp']))
      simp only [join, List.all_append, List.all_cons, List.all_nil, Bool.and_true, Bool.and_eq_true]
      exact ⟨⟨hl p (by simp), hsep⟩, this⟩

theorem all_canon_digits (s : Str) (h : allDigits s = true) : s.all isCanon = true := by
  simp only [allDigits, List.all_eq_true] at h ⊢
  intro c hc
  simp [isCanon, h c hc]

theorem all_canon_natToStr (n : Nat) : (natToStr n).all isCanon = true :=
  all_canon_digits _ (allDigits_natToStr n)

theorem all_canon_pepStr (v : PepVersion) (h : wfPep v = true) : (pepStr v).all isCanon = true := by
  have hpre := WfPre_of_wfPep v h
  obtain ⟨e, r, pre, post, dev, loc⟩ := v
  simp only [pepStr, List.all_append, Bool.and_eq_true]
  refine ⟨?_, ?_, ?_, ?_, ?_, ?_⟩
  · unfold epochStr; split
    · simp [all_canon_natToStr, isCanon]
    · rfl
  · apply all_join isCanon '.' (by decide)
    intro p hp
    obtain ⟨n, _, rfl⟩ := List.mem_map.mp hp
    exact all_canon_natToStr n
  · cases pre with
    | none => rfl
    | some p =>
      obtain ⟨l, n⟩ := p
      rcases hpre l n rfl with rfl | rfl | rfl <;> simp [preStr, all_canon_natToStr, isCanon, isLower]
  · cases post with
    | none => rfl
    | some n => simp [postStr, all_canon_natToStr, isCanon, isLower]
  · cases dev with
    | none => rfl
    | some n => simp [devStr, all_canon_natToStr, isCanon, isLower]
  · cases loc with
    | none => rfl
    | some l =>
      simp only [wfPep, Bool.and_eq_true] at h
      have hall := h.2.2
      simp only [locStr, List.all_cons, Bool.and_eq_true]
      refine ⟨by decide, ?_⟩
      apply all_join isCanon '.' (by decide)
      intro p hp
      obtain ⟨seg, hs, rfl⟩ := List.mem_map.mp hp
      have := (localSegStr_props seg (List.all_eq_true.mp hall seg hs)).2.1
      simp only [List.all_eq_true] at this ⊢
      intro c hc
      exact isCanon_of_localChar c (this c hc)

/-! ### assembling the round trip -/

theorem parseCore_rel (s : Str) (e : Nat) (first : Str) (dss : List Str) (T : Str)
    (pre : Option (Str × Nat)) (T4 : Str) (post : Option Nat) (T5 : Str) (dev : Option Nat) (T6 : Str)
    (loc : Option (List LocalSeg))
    (h1 : headSeg s = some (e, first, relTxt dss ++ T)) (hs : ∀ d ∈ dss, DigitsNE d)
    (hT : StopsRel T) (hT2 : NoDigitHead T)
    (h3 : preSeg T = (pre, T4)) (h4 : postSeg T4 = (post, T5)) (h5 : devSeg T5 = (dev, T6))
    (h6 : localSeg T6 = some loc) :
    parseCore s = some ⟨e, (first :: dss).map strToNat, pre, post, dev, loc⟩ := by
  have h2 := relTailF_relTxt dss T hT hT2 hs (relTxt dss ++ T).length
    (by rw [List.length_append]; have := relTxt_length dss; omega)
  simp only [parseCore, h1, h2, h3, h4, h5, h6]

theorem map_strToNat_natToStr (rs : List Nat) : (rs.map natToStr).map strToNat = rs := by
  induction rs with
  | nil => rfl
  | cons n rs ih => simp [strToNat_natToStr, ih]

/-- the optional groups read back -/
theorem groups_canon (pre : Option (Str × Nat)) (post dev : Option Nat) (loc : Option (List LocalSeg))
    (hpre : ∀ l n, pre = some (l, n) → l = ['a'] ∨ l = ['b'] ∨ l = ['r', 'c']) :
    preSeg (preStr pre ++ (postStr post ++ (devStr dev ++ locStr loc)))
      = (pre, postStr post ++ (devStr dev ++ locStr loc)) ∧
    postSeg (postStr post ++ (devStr dev ++ locStr loc)) = (post, devStr dev ++ locStr loc) ∧
    devSeg (devStr dev ++ locStr loc) = (dev, locStr loc) := by
  refine ⟨?_, ?_, ?_⟩
  · cases pre with
    | none => exact preSeg_none post dev loc
    | some p =>
      obtain ⟨l, n⟩ := p
      exact preSeg_some l n _ (hpre l n rfl) (tailOK_post post dev loc).1
  · cases post with
    | none => exact postSeg_none dev loc
    | some n => exact postSeg_some n _ (tailOK_dev dev loc).1
  · cases dev with
    | none => exact devSeg_none loc
    | some n => exact devSeg_some n _ (tailOK_loc loc).1

theorem parseCore_pepStr (v : PepVersion) (h : wfPep v = true) : parseCore (pepStr v) = some v := by
  have hpre := WfPre_of_wfPep v h
  obtain ⟨e, r, pre, post, dev, loc⟩ := v
  have hloc : ∀ l, loc = some l → l ≠ [] ∧ l.all wfLocalSeg = true := by
    intro l hl
    subst hl
    simp only [wfPep, Bool.and_eq_true, Bool.not_eq_true'] at h
    exact ⟨by intro hn; subst hn; simp at h, h.2.2⟩
  cases r with
  | nil => simp [wfPep] at h
  | cons r0 rs =>
    have hT3 := tailOK_pre pre post dev loc hpre
    obtain ⟨g1, g2, g3⟩ := groups_canon pre post dev loc hpre
    have hX := noDigitHead_relTxt (rs.map natToStr) _ hT3.1
    have hdig : ∀ d ∈ rs.map natToStr, DigitsNE d := by
      intro d hd
      obtain ⟨n, _, rfl⟩ := List.mem_map.mp hd
      exact ⟨natToStr_ne_nil n, allDigits_natToStr n⟩
    have hhead : headSeg (pepStr ⟨e, r0 :: rs, pre, post, dev, loc⟩)
        = some (e, natToStr r0, relTxt (rs.map natToStr) ++
            (preStr pre ++ (postStr post ++ (devStr dev ++ locStr loc)))) := by
      simp only [pepStr, List.map_cons, join_dot, List.append_assoc]
      by_cases he : e = 0
      · subst he
        simp only [epochStr, bne_self_eq_false, Bool.false_eq_true, if_false, List.nil_append]
        exact headSeg_noEpoch _ _ (natToStr_ne_nil r0) (allDigits_natToStr r0) hX
          (notBang_relTxt _ _ hT3.2.2)
      · have : (e != 0) = true := by simpa using he
        simp only [epochStr, this, if_true, List.append_assoc, List.cons_append, List.nil_append]
        have := headSeg_epoch (natToStr e) (natToStr r0) _ (natToStr_ne_nil e) (allDigits_natToStr e)
          (natToStr_ne_nil r0) (allDigits_natToStr r0) hX
        rw [strToNat_natToStr] at this
        exact this
    rw [parseCore_rel _ _ _ _ _ _ _ _ _ _ _ _ hhead hdig hT3.2.1 hT3.1 g1 g2 g3 (localSeg_canon loc hloc)]
    simp only [List.map_cons, strToNat_natToStr, map_strToNat_natToStr]

theorem head_digit_append (a b : Str) (h : ∃ c t, a = c :: t ∧ isDigit c = true) :
    ∃ c t, a ++ b = c :: t ∧ isDigit c = true := by
  obtain ⟨c, t, rfl, hc⟩ := h
  exact ⟨c, t ++ b, rfl, hc⟩

theorem pepStr_head_digit (v : PepVersion) (h : wfPep v = true) :
    ∃ c t, pepStr v = c :: t ∧ isDigit c = true := by
  obtain ⟨e, r, pre, post, dev, loc⟩ := v
  cases r with
  | nil => simp [wfPep] at h
  | cons r0 rs =>
    simp only [pepStr, List.map_cons, join_dot]
    by_cases he : e = 0
    · subst he
      simp only [epochStr, bne_self_eq_false, Bool.false_eq_true, if_false, List.nil_append,
        List.append_assoc]
      exact head_digit_append _ _ (natToStr_cons r0)
    · have : (e != 0) = true := by simpa using he
      simp only [epochStr, this, if_true, List.append_assoc]
      exact head_digit_append _ _ (natToStr_cons e)

/-- round trip: canonical text parses back to the version it was printed from -/
theorem parsePep_pepStr (v : PepVersion) (h : wfPep v = true) : parsePep (pepStr v) = some v := by
  have hc := all_canon_pepStr v h
  obtain ⟨c, t, hs, hd⟩ := pepStr_head_digit v h
  unfold parsePep
  rw [lowerStr_of_canon _ hc, reStrip_of_canon _ hc, hs, dropV_of_digit c t hd, ← hs]
  exact parseCore_pepStr v h

/-! ### what the recogniser can produce -/

theorem firstPrefix_mem (ws : List (Str × Str)) (s l r : Str) (h : firstPrefix ws s = some (l, r)) :
    ∃ w, (w, l) ∈ ws ∧ dropPrefix? w s = some r := by
  induction ws with
  | nil => simp [firstPrefix] at h
  | cons x xs ih =>
    obtain ⟨w, nm⟩ := x
    simp only [firstPrefix] at h
    split at h
    · next r' hr' =>
      simp only [Option.some.injEq, Prod.mk.injEq] at h
      obtain ⟨rfl, rfl⟩ := h
      exact ⟨w, List.mem_cons_self, hr'⟩
    · obtain ⟨w', hm, hd⟩ := ih h
      exact ⟨w', List.mem_cons_of_mem _ hm, hd⟩

theorem preSeg_wf (s : Str) (l : Str) (n : Nat) (h : (preSeg s).1 = some (l, n)) :
    l = ['a'] ∨ l = ['b'] ∨ l = ['r', 'c'] := by
  unfold preSeg at h
  split at h
  · next p r heq =>
    simp only [Option.some.injEq] at h
    subst h
    unfold letterSeg at heq
    split at heq
    · cases heq
    · next l' r' hfp =>
      simp only [Option.some.injEq, Prod.mk.injEq] at heq
      obtain ⟨w, hw, _⟩ := firstPrefix_mem _ _ _ _ hfp
      have hl : l' = l := heq.1.1
      subst hl
      simp [preWords] at hw
      rcases hw with h | h | h | h | h | h | h | h <;> simp [h.2]
  · cases h

theorem splitSeps_ne_nil : ∀ (s cur : Str), splitSeps cur s ≠ [] := by
  intro s
  induction s with
  | nil => intro cur; simp [splitSeps]
  | cons c cs ih =>
    intro cur
    simp only [splitSeps]
    split
    · simp
    · exact ih _

theorem wfLocalSeg_parseLocalPart (p : Str) (h1 : p.isEmpty = false) (h2 : p.all isLocalChar = true) :
    wfLocalSeg (parseLocalPart p) = true := by
  unfold parseLocalPart
  split
  · rfl
  · next hd =>
    simp only [isDigitStr, h1, Bool.not_false, Bool.true_and, Bool.not_eq_true] at hd
    simp [wfLocalSeg, h1, h2, hd]

theorem localSeg_wf (s : Str) (l : List LocalSeg) (h : localSeg s = some (some l)) :
    l.isEmpty = false ∧ l.all wfLocalSeg = true := by
  unfold localSeg at h
  split at h
  · cases h
  · next rest =>
    simp only at h
    split at h
    · next hall =>
      simp only [Option.some.injEq] at h
      subst h
      refine ⟨?_, ?_⟩
      · have := splitSeps_ne_nil rest []
        cases hs : splitSeps [] rest with
        | nil => exact absurd hs this
        | cons _ _ => rfl
      · simp only [List.all_map, List.all_eq_true, Function.comp] at hall ⊢
        intro p hp
        have := hall p hp
        simp only [Bool.and_eq_true, Bool.not_eq_true'] at this
        exact wfLocalSeg_parseLocalPart p this.1 this.2
    · cases h
  · cases h

theorem parseCore_wf (s : Str) (v : PepVersion) (h : parseCore s = some v) : wfPep v = true := by
  unfold parseCore at h
  split at h
  · cases h
  · next e first r2 hh =>
    simp only at h
    split at h
    · cases h
    · next loc hl =>
      simp only [Option.some.injEq] at h
      subst h
      simp only [wfPep, List.map_cons, List.isEmpty_cons, Bool.not_false, Bool.true_and, Bool.and_eq_true]
      refine ⟨?_, ?_⟩
      · split
        · rfl
        · next l n hp =>
          rcases preSeg_wf _ l n hp with rfl | rfl | rfl <;> decide
      · cases loc with
        | none => rfl
        | some l =>
          have := localSeg_wf _ l hl
          simp [this.1, this.2]

theorem parsePep_wf (s : Str) (v : PepVersion) (h : parsePep s = some v) : wfPep v = true :=
  parseCore_wf _ v h

end BV
