/-
  Proofs/Tie_parseConfigInst.lean — the tie of `config._parse_config` (`tie_parseConfig_full`,
  Proofs/Tie_parseConfig.lean) keeps `_validate_version_with_pattern` and `_compile_file_patterns` as the PARAMETERS
  `validateOf env` / `compileOf env`.  Here they are instantiated by the definitions GENERATED from their Python source
  (group `filepatterns`):

  * `genParseConfig_congr`          : the generated `_parse_config` calls its two callee parameters only on the
        (stripped) `current_version` / `version_pattern` of the raw dict and on a dict that holds `version_pattern` as a
        str and the unchanged `file_patterns`; two pairs of callees that agree there give the same result (proved by
        following the generated definition, like `tie_parseConfig_full`).
  * `tie_parseConfig_instantiated`  : with `GenF.validateVersionWithPattern` (callees: the hand model's parsers) and
        `GenF.compileFilePatterns` (callees: `c`) the generated `_parse_config` is the one of `tie_parseConfig_full` for the
        environment `{ env with validVersion := validVersion today }`, the raw patterns of the result compiled by `mk version_pattern is_new_pattern`.
  * `tie_parseConfig_full_instantiated` : … hence equal to the hand model `parseConfig`.

  HYPOTHESES (both are real restrictions of the hand model `CfgEnv`, reported):
    (a) glob never raises — it is `fun g => .ok (env.glob g)`.  Python: `pl.Path().glob("/abs")` raises
        NotImplementedError, `glob(".")` IndexError, `glob("")` ValueError (Python 3.12);
    (b) `hp`: for THIS configuration's version and pattern the parser fails, if at all, with `version.PatternError` —
        `CfgEnv.validVersion` is a Bool, so every rejection is the ValueError of `.invalidVersion`.  Python:
        `version_pattern = "MAJOR.MINOR[.PATCH"` makes `_validate_version_with_pattern` raise `re.error`, which
        `config.parse` does not catch.
-/
import BumpverVerif.Proofs.Tie_compileFilePatterns
import BumpverVerif.Proofs.Tie_validateVersionWithPattern
import BumpverVerif.Proofs.Tie_parseRawConfig
set_option linter.unusedSimpArgs false
namespace BV
open TieP Py TieH

/-- the same `config.Config` with the `file_patterns` field transformed (`G version_pattern is_new_pattern`) -/
def mapFilePatterns {α β : Type} (G : Str → Bool → α → β) (c : GenF.Cfg.Config α) : GenF.Cfg.Config β :=
  { current_version := c.current_version, version_pattern := c.version_pattern, pep440_version := c.pep440_version,
    commit_message := c.commit_message, tag_message := c.tag_message, tag_scope := c.tag_scope,
    pre_commit_hook := c.pre_commit_hook, post_commit_hook := c.post_commit_hook,
    commit := c.commit, tag := c.tag, push := c.push, is_new_pattern := c.is_new_pattern,
    file_patterns := G c.version_pattern c.is_new_pattern c.file_patterns }

namespace TieP

theorem genParseConfig_congr {α β : Type} (V V' : Str → Str → Bool → Except Str Unit) (pep : Str → Str)
    (C : TomlSection → Bool → Except Str α) (C' : TomlSection → Bool → Except Str β) (G : Str → Bool → α → β)
    (pe : Str → Bool) (d : TomlSection)
    (hV : ∀ s4 s6, lookup "current_version".toList d.opts = some (.str s4) →
      lookup "version_pattern".toList d.opts = some (.str s6) →
      V' (stripQuotes s4) (stripQuotes s6) (cfgIsNewPattern (stripQuotes s6)) =
        V (stripQuotes s4) (stripQuotes s6) (cfgIsNewPattern (stripQuotes s6)))
    (hC : ∀ d' n s, lookup "version_pattern".toList d'.opts = some (.str s) → d'.filePatterns = d.filePatterns →
      C' d' n = (C d' n).map (G s n)) :
    GenF.parseConfig V' pep C' pe d = (GenF.parseConfig V pep C pe d).map (mapFilePatterns G) := by
  unfold GenF.parseConfig
  simp only [apply_ite Prod.snd, apply_ite Prod.fst]
  -- the six tests before the first callee, the same on both sides: `commit_message` and `tag_message` are a `str`,
  -- `current_version` and `version_pattern` are present and a `str`
  iterate 6
    split
    · rfl
  -- `r4`, `r6`: the raw `current_version`, `version_pattern` found (`hl4`, `hl6`); `s4`, `s6`: their strings (`hs4`, `hs6`)
  rename_i _ r4 hl4 _ s4 hs4 _ r6 hl6 _ s6 hs6
  simp (disch := exact toList_ne (by simp)) only [lookup_setOpt_ne] at hl4 hl6
  have e4 : r4 = .str s4 := by cases r4 <;> simp [Py.strOf] at hs4; exact congrArg _ hs4
  have e6 : r6 = .str s6 := by cases r6 <;> simp [Py.strOf] at hs6; exact congrArg _ hs6
  subst e4 e6
  simp only [Bool.not_or, isNew_fold, isNew_fold']
  -- the validation callee
  have hv := hV s4 s6 hl4 hl6
  simp only [stripQuotes] at hv
  rw [hv]
  cases V (stripChars "'\" ".toList s4) (stripChars "'\" ".toList s6) (cfgIsNewPattern (stripChars "'\" ".toList s6)) with
  | error e => rfl
  | ok u =>
    simp only []
    -- the compile callee
    have hc : ∀ (x : Str) (o : List (Str × RawVal)) (n : Bool),
        C' { opts := setOpt "version_pattern".toList (RawVal.str x) o, filePatterns := d.filePatterns } n =
          (C { opts := setOpt "version_pattern".toList (RawVal.str x) o, filePatterns := d.filePatterns } n).map (G x n) :=
      fun x o n => hC _ n x (lookup_setOpt_eq _ _ _) rfl
    rw [hc]
    cases C _ _ with
    | error e => rfl
    | ok r8 =>
      simp only [Except.map]
      -- the rest does not look at `file_patterns`.  Seven reads that fail on both sides alike: `tag_scope`, its
      -- `TagScope(…)`, the two hooks, `commit`, `tag`, `push`; then the five checks (tag and push require commit, the
      -- tag scope is a member, the two hooks exist) under which `Except.map` is pushed
      iterate 7
        split
        · rfl
      show _ = Except.map (mapFilePatterns G) _
      iterate 5 rw [apply_ite (Except.map _)]
      rfl

/-- the `file_patterns` of a `Config` that the generated `_parse_config` returns is what its compile callee answered
    for a dict with the caller's `file_patterns` and the (stripped) version pattern of the result -/
theorem genParseConfig_file_patterns {α : Type} (V : Str → Str → Bool → Except Str Unit) (pep : Str → Str)
    (C : TomlSection → Bool → Except Str α) (pe : Str → Bool) (d : TomlSection) (c : GenF.Cfg.Config α)
    (h : GenF.parseConfig V pep C pe d = .ok c) :
    ∃ d' : TomlSection, d'.filePatterns = d.filePatterns ∧
      lookup "version_pattern".toList d'.opts = some (.str c.version_pattern) ∧
      C d' c.is_new_pattern = .ok c.file_patterns := by
  unfold GenF.parseConfig at h
  simp only [apply_ite Prod.snd, apply_ite Prod.fst] at h
  -- the six tests on the four strings and the two callees succeeded; `hC`: what the compile callee answered
  iterate 8
    split at h
    · cases h
  rename_i r8 hC
  -- so did the seven reads after them and the five checks
  iterate 7
    split at h
    · cases h
  iterate 5 replace h := ok_of_ite_error h
  cases h
  refine ⟨_, ?_, ?_, hC⟩
  · rfl
  · exact lookup_setOpt_eq _ _ _

end TieP

/-- `_validate_version_with_pattern` and `_compile_file_patterns` in `tie_parseConfig_full` can be taken to be the
    definitions generated from their source -/
theorem tie_parseConfig_instantiated {π : Type} (today : Nat × Nat × Nat) (env : CfgEnv) (c : CompileCallees π)
    (mk : Str → Bool → Str → π) (pep : Str → Str) (raw : RawCfg)
    (hc : ∀ vp, CalleesAgree env c (mk vp) vp)
    (hp : ∀ s4 s6, lookup "current_version".toList raw.opts = some (.str s4) →
      lookup "version_pattern".toList raw.opts = some (.str s6) →
      parseFailsOnlyWithPatternError today (stripQuotes s4) (stripQuotes s6) (cfgIsNewPattern (stripQuotes s6))) :
    GenF.parseConfig (GenF.validateVersionWithPattern (parse2Model today) parse1Model) pep
        (GenF.compileFilePatterns (fun g => .ok (env.glob g)) c.cp2 c.cps2 c.cps1) env.pathExists (embedRaw raw) =
      (GenF.parseConfig (validateOf { env with validVersion := validVersion today }) pep
          (compileOf { env with validVersion := validVersion today }) env.pathExists (embedRaw raw)).map
        (mapFilePatterns (fun vp n => mapVals (mk vp n))) := by
  apply genParseConfig_congr
  · intro s4 s6 h4 h6
    rw [tie_validateVersionWithPattern,
      (validateVersionE_model today (stripQuotes s4) (stripQuotes s6) (cfgIsNewPattern (stripQuotes s6))).2 (hp s4 s6 h4 h6)]
    rfl
  · intro d' n s hs hfp
    have hcal : CalleesAgree { env with validVersion := validVersion today } c (mk s) s :=
      ⟨(hc s).cp2, (hc s).cps2, (hc s).cps1⟩
    exact tie_compileFilePatterns_compileOf { env with validVersion := validVersion today } c (mk s) d' n s raw.filePatterns
      hs hfp hcal

/-- what the hand model keeps of a `config.Config` whose patterns are compiled: everything but the patterns -/
def absConfigNoPatterns {π : Type} (c : GenF.Cfg.Config (List (Str × List π))) : EffectiveConfig :=
  absConfig (mapFilePatterns (fun _ _ _ => ([] : FilePatterns)) c)

/-- the generated `_parse_config` with the generated `_validate_version_with_pattern` and `_compile_file_patterns`
    equals the hand model `parseConfig`: same failure class, same settings, the map (file → compiled patterns) is the
    hand model's map (file → raw patterns) with every pattern compiled -/
theorem tie_parseConfig_full_instantiated {π : Type} (today : Nat × Nat × Nat) (env : CfgEnv) (c : CompileCallees π)
    (mk : Str → Bool → Str → π) (pep : Str → Str) (raw : RawCfg)
    (hc : ∀ vp, CalleesAgree env c (mk vp) vp)
    (hp : ∀ s4 s6, lookup "current_version".toList raw.opts = some (.str s4) →
      lookup "version_pattern".toList raw.opts = some (.str s6) →
      parseFailsOnlyWithPatternError today (stripQuotes s4) (stripQuotes s6) (cfgIsNewPattern (stripQuotes s6))) :
    (GenF.parseConfig (GenF.validateVersionWithPattern (parse2Model today) parse1Model) pep
        (GenF.compileFilePatterns (fun g => .ok (env.glob g)) c.cp2 c.cps2 c.cps1) env.pathExists (embedRaw raw)).map
        (fun c => (absConfigNoPatterns c, c.file_patterns, c.pep440_version)) =
      ((parseConfig { env with validVersion := validVersion today } raw).mapError CfgErr.pyClass).map
        (fun e => ({ e with filePatterns := [] }, mapVals (mk e.versionPattern e.isNewPattern) e.filePatterns,
          pep e.currentVersion)) := by
  rw [tie_parseConfig_instantiated today env c mk pep raw hc hp]
  have hH := tie_parseConfig_full { env with validVersion := validVersion today } pep raw
  cases hx : GenF.parseConfig (validateOf { env with validVersion := validVersion today }) pep
      (compileOf { env with validVersion := validVersion today }) env.pathExists (embedRaw raw) with
  | error e =>
    rw [hx] at hH
    cases hm : parseConfig { env with validVersion := validVersion today } raw with
    | error e' => rw [hm] at hH; simp only [Except.map, Except.mapError, Except.error.injEq] at hH ⊢; exact hH
    | ok v => rw [hm] at hH; simp [Except.map, Except.mapError] at hH
  | ok cfg =>
    rw [hx] at hH
    cases hm : parseConfig { env with validVersion := validVersion today } raw with
    | error e' => rw [hm] at hH; simp [Except.map, Except.mapError] at hH
    | ok v =>
      rw [hm] at hH
      simp only [Except.map, Except.mapError, Except.ok.injEq, Prod.mk.injEq] at hH ⊢
      obtain ⟨h1, h2⟩ := hH
      subst h1
      exact ⟨rfl, rfl, h2⟩

/-! ### C04: the files of the resulting configuration are named in the configuration -/

/-- every key of `cfg.file_patterns` of a configuration `_parse_config` accepts (with the generated
    `_compile_file_patterns`, ANY glob, ANY callees) is a path some key of the raw dict's `file_patterns` expands to:
    a glob result of the key, or the key itself when its glob is empty -/
theorem parseConfig_keys_configured {π : Type} (glob : Str → Except Str (List Str)) (c : CompileCallees π)
    (V : Str → Str → Bool → Except Str Unit) (pep : Str → Str) (pe : Str → Bool) (d : TomlSection)
    (cfg : GenF.Cfg.Config (List (Str × List π)))
    (h : GenF.parseConfig V pep (GenF.compileFilePatterns glob c.cp2 c.cps2 c.cps1) pe d = .ok cfg) :
    ∃ fps, d.filePatterns = some fps ∧
      ∀ k ∈ cfg.file_patterns.map Prod.fst,
        ∃ g pats, (g, pats) ∈ fps ∧ ∃ fs, glob g = .ok fs ∧ (k ∈ fs ∨ (fs = [] ∧ k = g)) := by
  obtain ⟨d', hfp, -, hC⟩ := genParseConfig_file_patterns V pep _ pe d cfg h
  obtain ⟨fps, h1, h2⟩ := compileFilePatterns_keys_configured glob c d' cfg.is_new_pattern cfg.file_patterns hC
  exact ⟨fps, hfp ▸ h1, h2⟩

/-- `config.parse` = `_parse_raw_config` then `_parse_config`, both generated: every file of the accepted
    configuration is a path that a key of the config file's `file_patterns` section expands to, or that the config
    file's own path (`ctx.config_rel_path`) expands to.  "Files not named in the configuration are never written":
    `cli` rewrites exactly the keys of `cfg.file_patterns`. -/
theorem parse_keys_configured {π : Type} (parser : IniDoc) (loaded : Py.TomlFull) (fs : ProjFS)
    (ctx : GenF.Cfg.ProjectContext)
    (hmain : ∀ items, iniMainSection parser = some items → (items.map Prod.fst).Nodup)
    (hfiles : ((iniFilePatterns parser).map Prod.fst).Nodup)
    (glob : Str → Except Str (List Str)) (c : CompileCallees π)
    (V : Str → Str → Bool → Except Str Unit) (pep : Str → Str) (pe : Str → Bool) (d : TomlSection)
    (cfg : GenF.Cfg.Config (List (Str × List π)))
    (h1 : GenF.parseRawConfig parser loaded fs ctx = .ok d)
    (h2 : GenF.parseConfig V pep (GenF.compileFilePatterns glob c.cp2 c.cps2 c.cps1) pe d = .ok cfg) :
    ∃ (raw : RawCfg), readRawE ctx.config_format parser (absToml loaded) = .ok raw ∧
      ∀ k ∈ cfg.file_patterns.map Prod.fst,
        ∃ g, (g ∈ raw.filePatterns.map Prod.fst ∨ g = ctx.config_rel_path) ∧
          ∃ fs', glob g = .ok fs' ∧ (k ∈ fs' ∨ (fs' = [] ∧ k = g)) := by
  obtain ⟨raw, raw', text, hfs, hd, hread, ha, -, hyes, hno⟩ :=
    parseRawConfig_own_entry parser loaded fs ctx hmain hfiles d h1
  obtain ⟨fps, hfps, hk⟩ := parseConfig_keys_configured glob c V pep pe d cfg h2
  refine ⟨raw, hread, fun k hkm => ?_⟩
  · obtain ⟨g, pats, hg, rest⟩ := hk k hkm
    refine ⟨g, ?_, rest⟩
    have hfp' : fps = raw'.filePatterns := by
      rw [hd] at hfps
      exact (Option.some.inj hfps).symm
    subst hfp'
    cases hc : cfgHasKey ctx.config_rel_path raw.filePatterns with
    | true =>
      rw [hyes hc] at hg
      exact .inl (List.mem_map.mpr ⟨(g, pats), hg, rfl⟩)
    | false =>
      obtain ⟨line, cv, vp, -, -, -, hfp⟩ := hno hc
      rw [hfp] at hg
      rcases List.mem_append.mp hg with hg | hg
      · exact .inl (List.mem_map.mpr ⟨(g, pats), hg, rfl⟩)
      · simp only [List.mem_singleton, Prod.mk.injEq] at hg
        exact .inr hg.1

end BV
