/-
  Proofs/Tie_formatPartValues.lean — the definition GENERATED from the Python source of
  `v2version._format_part_values` (Gen/F_formatPartValues.lean) equals the hand model `BV.formatPartValues`:
  for EVERY version info the Python function raises nothing and returns the model's list.

  Python: a loop over `PATTERN_PART_FIELDS.items()` that fills the dict `kwargs` (`vinfo._asdict()[field]`,
  `PART_FORMATS[part]` — both can raise KeyError as far as the translator knows), then
  `sorted(kwargs.items(), key=lambda item: -len(item[0]))`.
  Model : `filterMap` over the generated table (a missing formatter is skipped silently), then a fold of
  `insertByKeyLenDesc`.

  The proof checks on the GENERATED tables that no KeyError can happen (every field of `Gen.partFields` is a field of
  `V2VersionInfo`, every part has a formatter) and that the part names are distinct (so `kwargs[part] = …` always appends).
  The formatter functions themselves are table data (`Gen.FmtKind`, classified by harness/gen_tables.py) applied by the
  model's `fmtValue` on both sides.
-/
import BumpverVerif.Gen.F_formatPartValues
import BumpverVerif.Proofs.PatternLemmas
namespace BV.TieF
open GenF GenF.FP
set_option linter.unusedSimpArgs false

theorem bindE_ok' {α β : Type} (a : α) (f : α → Except PyExc β) : bindE (.ok a) f = f a := rfl

/-- `d[k]` on a str-keyed table is the model's `lookup` -/
theorem dictGet_eq_lookup {ν : Type} (k : Str) : ∀ (d : List (Str × ν)),
    dictGet d k = match lookup k d with | some v => .ok v | none => .error .keyError
  | [] => rfl
  | (k', v) :: rest => by
    have ih := dictGet_eq_lookup k rest
    simp only [dictGet, List.find?_cons, lookup] at ih ⊢
    by_cases h : k = k'
    · subst h; simp
    · have h' : (k' == k) = false := by simpa using fun e => h e.symm
      simp only [h', h, if_false]
      exact ih

/-- `d[k] = v` for a new key appends -/
theorem dictSet_new {κ ν : Type} [BEq κ] [LawfulBEq κ] (k : κ) (v : ν) : ∀ (d : List (κ × ν)), k ∉ d.map (·.1) →
    dictSet d k v = d ++ [(k, v)]
  | [], _ => rfl
  | (k', v') :: rest, h => by
    have hne : (k' == k) = false := beq_false_of_ne fun e => h (by simp [e])
    have ih := dictSet_new k v rest (fun hm => h (List.mem_cons_of_mem _ hm))
    simp only [dictSet, hne, Bool.false_eq_true, if_false, ih, List.cons_append]

/-- one entry of the model's `filterMap` -/
def partValueOf (v : VInfo) (pf : Str × Str) : Option (Str × Str) :=
  match v.get pf.2 with
  | .none => none
  | fvv => match lookup pf.1 Gen.partFormats with
    | some k => some (pf.1, fmtValue k fvv)
    | none => none

/-- the filling loop, for any step function that behaves like the Python loop body -/
theorem foldlE_kwargs (v : VInfo) (g : List (Str × Str) → Str × Str → Except PyExc (List (Str × Str)))
    (hg : ∀ acc pf, g acc pf =
      bindE (vinfoGet v pf.2) fun fv =>
        if fv != FV.none then bindE (dictGet Gen.partFormats pf.1) fun k => .ok (dictSet acc pf.1 (fmtValue k fv))
        else .ok acc) :
    ∀ (l : List (Str × Str)) (acc : List (Str × Str)),
      (∀ pf ∈ l, Gen.versionFields.elem pf.2 = true) →
      (∀ pf ∈ l, (lookup pf.1 Gen.partFormats).isSome = true) →
      (l.map (·.1)).Nodup → (∀ pf ∈ l, pf.1 ∉ acc.map (·.1)) →
      foldlE g acc l = .ok (acc ++ l.filterMap (partValueOf v)) := by
  intro l
  induction l with
  | nil => intro acc _ _ _ _; simp [foldlE]
  | cons pf rest ih =>
    intro acc h1 h2 h3 h4
    have hf := h1 pf (by simp)
    obtain ⟨k, hk⟩ := Option.isSome_iff_exists.mp (h2 pf (by simp))
    rw [List.map_cons] at h3
    have hnd := List.nodup_cons.mp h3
    have hstep : g acc pf = .ok (acc ++ (partValueOf v pf).toList) := by
      rw [hg]
      simp only [vinfoGet, hf, if_true, bindE_ok', dictGet_eq_lookup, hk, partValueOf]
      cases hv : v.get pf.2 <;> simp [bindE_ok', dictSet_new _ _ _ (h4 pf (by simp))]
    rw [foldlE, hstep]
    simp only []
    rw [ih _ (fun p hp => h1 p (by simp [hp])) (fun p hp => h2 p (by simp [hp])) hnd.2]
    · simp only [List.filterMap_cons]
      cases partValueOf v pf <;> simp
    · intro p hp
      cases hpv : partValueOf v pf with
      | none => simpa using h4 p (by simp [hp])
      | some kv =>
        have hkv : kv.1 = pf.1 := by
          simp only [partValueOf] at hpv
          split at hpv
          · cases hpv
          · split at hpv
            · cases hpv; rfl
            · cases hpv
        simp only [Option.toList_some, List.map_append, List.map_cons, List.map_nil, List.mem_append,
          List.mem_singleton, hkv, not_or]
        refine ⟨h4 p (by simp [hp]), ?_⟩
        intro e
        exact hnd.1 (by rw [← e]; exact List.mem_map_of_mem hp)

/-- `sorted(items, key=lambda item: -len(item[0]))` is the model's insertion by descending name length -/
theorem pySortedBy_len (key : Str × Str → Int) (hkey : ∀ x y, key x < key y ↔ x.1.length > y.1.length)
    (l : List (Str × Str)) : pySortedBy key l = l.foldl (fun acc x => insertByKeyLenDesc x acc) [] := by
  simp only [pySortedBy, insert_eq_of_eqns _ (insertByKey key) (fun _ => rfl) (fun _ _ _ => rfl) _ insertByKeyLenDesc
    (fun _ => rfl) (fun _ _ _ => rfl) hkey]

theorem pySortedByDesc_eq {α : Type} (key : α → Int) (q : α → α → Prop) [∀ x y, Decidable (q x y)]
    (ins : α → List α → List α) (h0 : ∀ x, ins x [] = [x])
    (h1 : ∀ x y ys, ins x (y :: ys) = if q x y then x :: y :: ys else y :: ins x ys)
    (hkey : ∀ x y, key x > key y ↔ q x y) (l : List α) :
    pySortedByDesc key l = l.foldl (fun acc x => ins x acc) [] := by
  simp only [pySortedByDesc, insert_eq_of_eqns _ (insertByKeyDesc key) (fun _ => rfl) (fun _ _ _ => rfl) q ins h0 h1 hkey]

/-- `sorted(items, key=lambda item: len(item[0]), reverse=True)` (Python keeps `reverse=True` stable) -/
theorem pySortedByDesc_len' (key : Str × Str → Int) (hkey : ∀ x y, key x > key y ↔ x.1.length > y.1.length)
    (l : List (Str × Str)) : pySortedByDesc key l = l.foldl (fun acc x => insertByKeyLenDesc x acc) [] :=
  pySortedByDesc_eq key _ insertByKeyLenDesc (fun _ => rfl) (fun _ _ _ => rfl) hkey l

theorem partFields_ok : (∀ pf ∈ Gen.partFields, Gen.versionFields.elem pf.2 = true) ∧
    (∀ pf ∈ Gen.partFields, (lookup pf.1 Gen.partFormats).isSome = true) ∧ (Gen.partFields.map (·.1)).Nodup := by
  decide +kernel

theorem _root_.BV.tie_formatPartValues (v : VInfo) : GenF.formatPartValues v = .ok (formatPartValues v) := by
  simp only [GenF.formatPartValues]
  -- the loop body tests `field_val is not None` or, with the branches exchanged, `field_val is None`
  rw [foldlE_kwargs v _ (fun acc pf => by
      rcases vinfoGet v pf.2 with e | fv
      · rfl
      · cases fv <;> rfl)
    Gen.partFields [] partFields_ok.1 partFields_ok.2.1 partFields_ok.2.2 (by simp)]
  simp only [bindE_ok', List.nil_append]
  first
    | rw [pySortedBy_len _ (by intro x y; simp only [Int.ofNat_eq_natCast]; omega)]
    -- `sorted(…, key=lambda item: len(item[0]), reverse=True)`
    | rw [pySortedByDesc_len' _ (by intro x y; simp only [Int.ofNat_eq_natCast]; omega)]
  simp only [formatPartValues]
  congr 2

/-- every key the function returns is a part name of the table, hence non-empty -/
theorem _root_.BV.formatPartValues_keys_ne (v : VInfo) : ∀ pv ∈ formatPartValues v, pv.1 ≠ [] := by
  intro pv hpv
  rcases (mem_foldl_insert_iff (fun x y : Str × Str => x.1.length > y.1.length) insertByKeyLenDesc
    (fun _ => rfl) (fun _ _ _ => rfl)).mp hpv with hm | hm
  · obtain ⟨pf, hpf, hsome⟩ := List.mem_filterMap.mp hm
    have hk : pv.1 = pf.1 := by
      split at hsome
      · cases hsome
      · split at hsome
        · cases hsome; rfl
        · cases hsome
    rw [hk]
    exact partFields_keys_ne pf hpf
  · cases hm

end BV.TieF
