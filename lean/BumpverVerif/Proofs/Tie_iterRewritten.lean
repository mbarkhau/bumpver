/-
  Proofs/Tie_iterRewritten.lean — the definition GENERATED from the Python source of
  `v2rewrite.iter_rewritten` (Gen/F_iterRewritten.lean: the generator run to exhaustion, with the lazily
  consumed generator `rewrite.iter_path_patterns_items` inlined) against the hand model `planWrites`:
  it leaves the file system as it is, and the list of records it yields is, file by file, what the model
  plans to write — or it fails with the model's error at the model's file.

  The proof asks of ONE iteration only that it does not touch the file system and appends one planned
  write (path, the model's `rewriteContent` of the file's text) or fails as the model does.
-/
import BumpverVerif.Gen.F_iterRewritten
import BumpverVerif.Proofs.Tie_rfdFromContent
namespace BV

open GenF (PatternMatch Pattern RewrittenFileData)

/-- `config.PatternsByFile` ↦ the model's list of (path, compiled patterns) -/
def GenF.absFilePatterns (fp : List (Str × List Pattern)) : List (Str × List CPat) :=
  fp.map (fun it => (it.1, it.2.map Pattern.abs))

/-- every configured pattern is well-formed -/
def GenF.WfFilePatterns (fp : List (Str × List Pattern)) : Prop := ∀ it ∈ fp, ∀ p ∈ it.2, p.Wf

/-- the planned write of a record -/
def GenF.RewrittenFileData.toWrite (rfd : RewrittenFileData) : Str × Str := (rfd.path, rfd.newContent)

/-- the record `rfd_from_content` builds for a file with text `c` whose lines rewrite to `nl` -/
def rfdOf (path c : Str) (nl : List Str) : RewrittenFileData :=
  { path := path, line_sep := detectLineSep c, old_lines := splitOn (detectLineSep c) c, new_lines := nl }

/-! ### the loop, for every engine (`v1rewrite.iter_rewritten` is the same function) -/

namespace TieM

/-- one iteration of `iter_rewritten`, run to exhaustion: the record of one configured file is appended -/
def stepRfds {V : Type} (E : RwEngine V) (v : V) (fs : FS) (it : Str × List Pattern) (acc : List RewrittenFileData) :
    Except RwErr (List RewrittenFileData) :=
  match lookup it.1 fs with
  | none => .error .missingFile
  | some c =>
    (E.rewriteLines (it.2.map Pattern.abs) v (splitOn (detectLineSep c) c)).map
      (fun nl => acc ++ [rfdOf it.1 c nl])

/-- all iterations -/
def planRfds {V : Type} (E : RwEngine V) (v : V) (fs : FS) : List (Str × List Pattern) → List RewrittenFileData →
    Except RwErr (List RewrittenFileData)
  | [], acc => .ok acc
  | it :: rest, acc =>
    match stepRfds E v fs it acc with
    | .error e => .error e
    | .ok acc' => planRfds E v fs rest acc'

/-- a loop whose body does not touch the file system and appends the record of the file -/
theorem pyForFS_eq_planRfds {V : Type} (E : RwEngine V) (v : V) (Ok : Str × List Pattern → Prop)
    (body : Str × List Pattern → List RewrittenFileData → FS → FS × Except RwErr (List RewrittenFileData))
    (hb : ∀ it acc fs, Ok it → body it acc fs = (fs, stepRfds E v fs it acc))
    (l : List (Str × List Pattern)) (hwf : ∀ it ∈ l, Ok it) (acc : List RewrittenFileData) (fs : FS) :
    GenF.pyForFS l body acc fs = (fs, planRfds E v fs l acc) := by
  induction l generalizing acc with
  | nil => rfl
  | cons it l ih =>
    rw [GenF.pyForFS_cons, hb it acc fs (hwf it List.mem_cons_self)]
    simp only [planRfds]
    cases stepRfds E v fs it acc with
    | error e => rfl
    | ok acc' => exact ih (fun x hx => hwf x (List.mem_cons_of_mem _ hx)) acc'

/-- the records are, file by file, what the model plans to write -/
theorem planRfds_planWrites {V : Type} (E : RwEngine V) (v : V) (fs : FS) (l : List (Str × List Pattern))
    (acc : List RewrittenFileData) :
    (planRfds E v fs l acc).map (List.map RewrittenFileData.toWrite) =
      (E.planWrites fs v (GenF.absFilePatterns l)).map (fun ws => acc.map RewrittenFileData.toWrite ++ ws) := by
  induction l generalizing acc with
  | nil => simp [planRfds, GenF.absFilePatterns, RwEngine.planWrites, Except.map]
  | cons it l ih =>
    have hcons : GenF.absFilePatterns (it :: l) = (it.1, it.2.map Pattern.abs) :: GenF.absFilePatterns l := rfl
    rw [hcons, RwEngine.planWrites_cons]
    simp only [planRfds, stepRfds, RwEngine.rewriteContent]
    cases lookup it.1 fs with
    | none => rfl
    | some c =>
      simp only []
      cases E.rewriteLines (it.2.map Pattern.abs) v (splitOn (detectLineSep c) c) with
      | error e => rfl
      | ok nl =>
        have := ih (acc ++ [rfdOf it.1 c nl])
        simp only [Except.map] at this ⊢
        rw [this]
        cases E.planWrites fs v (GenF.absFilePatterns l) <;>
          simp [RewrittenFileData.toWrite, RewrittenFileData.newContent, rfdOf]

end TieM

def planRfds (v : VInfo) (fs : FS) (l : List (Str × List Pattern)) (acc : List RewrittenFileData) :
    Except RwErr (List RewrittenFileData) :=
  TieM.planRfds v2Engine v fs l acc

/-- `iter_rewritten` run to exhaustion: the file system is untouched, the result is `planRfds` -/
theorem tie_iterRewritten (file_patterns : List (Str × List Pattern)) (new_vinfo : VInfo) (fs : FS)
    (hwf : GenF.WfFilePatterns file_patterns) :
    GenF.iterRewritten file_patterns new_vinfo fs = (fs, planRfds new_vinfo fs file_patterns []) := by
  unfold GenF.iterRewritten planRfds
  simp only []
  rw [TieM.pyForFS_eq_planRfds v2Engine new_vinfo (fun it => ∀ p ∈ it.2, p.Wf) _ ?hb file_patterns hwf]
  case hb =>
    intro it acc fs' hit
    simp only [GenF.pyExists, GenF.pyRead, TieM.stepRfds, v2Engine_rewriteLines]
    have hl : lookup it.1 fs' = none ∨ ∃ c, lookup it.1 fs' = some c := by
      cases lookup it.1 fs' <;> simp
    rcases hl with hl | ⟨content, hl⟩
    · simp [hl]
    · simp only [hl, Option.isSome_some, if_true, tie_rfdFromContent it.2 new_vinfo content _ hit]
      cases rewriteLines (it.2.map Pattern.abs) new_vinfo (splitOn (detectLineSep content) content) <;> rfl
  cases TieM.planRfds v2Engine new_vinfo fs file_patterns [] <;> rfl

/-- … and that is the model's `planWrites` -/
theorem tie_iterRewritten_planWrites (file_patterns : List (Str × List Pattern)) (new_vinfo : VInfo) (fs : FS)
    (hwf : GenF.WfFilePatterns file_patterns) :
    (GenF.iterRewritten file_patterns new_vinfo fs).1 = fs ∧
    ((GenF.iterRewritten file_patterns new_vinfo fs).2).map (List.map RewrittenFileData.toWrite)
      = planWrites fs new_vinfo (GenF.absFilePatterns file_patterns) := by
  rw [tie_iterRewritten _ _ _ hwf]
  refine ⟨rfl, ?_⟩
  simp only [planRfds]
  rw [TieM.planRfds_planWrites, v2Engine_planWrites]
  cases planWrites fs new_vinfo (GenF.absFilePatterns file_patterns) <;> simp [Except.map]

end BV
