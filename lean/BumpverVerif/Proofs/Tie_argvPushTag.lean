/-
  Proofs/Tie_argvPushTag.lean — source-level tie for the VALUES `vcs.VCSAPI.push_tag` passes to `VCSAPI.__call__`
  (Gen/F_argvPushTag.lean; property C12).  Proofs/Tie_vcsCommit.lean fixes the SEQUENCE of subcommands; here the
  keyword arguments are visible, and that nothing is called without a remote.  `tie_argvPushTag`: generated definition = reference, for EVERY `VCSAPI` object (any name, any template
  table), all strings, worlds and traces; stated with `callRef` (= `__call__`, Proofs/Tie_argvCall.lean).
  The composition down to the argument vector of the process that runs: Proofs/Tie_argvEndToEnd.lean.
-/
import BumpverVerif.Gen.F_argvPushTag
import BumpverVerif.Proofs.Tie_argvCall
namespace BV.TieK
open BV.TieK.Gen

/-- `VCSAPI.push_tag(tag_name)`: nothing without a remote; otherwise the tag name and the remote -/
def pushTagRef (self : VcsApi) (tag_name : Str) : Eff Unit := fun w s =>
  match w.remote s with
  | none => (s, .ok ())
  | some remote =>
    if remote ≠ [] then
      unitOf (callRef self ['p', 'u', 's', 'h', '_', 't', 'a', 'g'] none [(['t', 'a', 'g'], tag_name), (['r', 'e', 'm', 'o', 't', 'e'], remote)] w s)
    else (s, .ok ())

theorem tie_argvPushTag (self : VcsApi) (tag_name : Str) : argvPushTag self tag_name = pushTagRef self tag_name := by
  funext w s
  unfold argvPushTag pushTagRef
  simp only [tie_argvCall, bind_unit_id]
  rw [getRemote_bind]
  cases w.remote s with
  | none => rfl
  | some remote =>
    cases remote with
    | nil => rfl
    | cons c r =>
      simp only [List.isEmpty, Bool.not_false, if_true, ne_eq, reduceCtorEq, not_false_eq_true]
      -- the keyword arguments may be written in either order
      have hswap := callRef_kw_congr self ['p', 'u', 's', 'h', '_', 't', 'a', 'g'] none
        (lookup_swap2 ['r', 'e', 'm', 'o', 't', 'e'] ['t', 'a', 'g'] (c :: r) tag_name (by decide))
      first
        | exact bind_unit _ w s
        | (rw [hswap]; exact bind_unit _ w s)

end BV.TieK
