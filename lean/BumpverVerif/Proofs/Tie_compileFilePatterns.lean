/-
  Proofs/Tie_compileFilePatterns.lean — the definition GENERATED from the Python source of
  `config._compile_file_patterns` (Gen/F_compileFilePatterns.lean: the v2/v1 dispatch, the MERGE loop
  `for path, patterns in _file_pattern_items: if path in file_patterns: file_patterns[path].extend(patterns) else: …`
  as the closed loop `….loop1`, the exception that ended the generator re-raised after its last item).

  * `tie_compileFilePatterns`        : = the reference `compileFilePatternsD` (Model/FilePatterns.lean) for ALL raw dicts,
        glob functions (raising or not) and callees.
  * `tie_compileFilePatterns_model`  : for a raw dict that holds `version_pattern` as a str and `file_patterns`, a glob
        that never raises and callees as `CfgEnv.compileOk` describes them: the hand model's `compileFilePatterns`
        (Model/Config.lean, raw patterns) followed by the compilation of every pattern.
  * `tie_compileFilePatterns_compileOf`: the same as the parameter `compileOf env` of `tie_parseConfig_full`.
  * the MERGE theorems about the RESULT of the generated function (`compileFilePatterns_merge_*`):
      each path occurs once (`_nodup`), in first-seen order (`_order`); under a path stand exactly the compiled
      patterns of all expanded items with that path, in order (`_lookup`); a (path, pattern) pair occurs in the
      result exactly under its path (`_exact`);
  * C04 (`compileFilePatterns_keys_configured`): every key of the resulting map is a path some configured key
      expands to — a glob result of the key, or the key itself when its glob is empty.  Files the configuration does not
      name are not in the map, so they are never rewritten (cli reads `cfg.file_patterns` only).
-/
import BumpverVerif.Gen.F_compileFilePatterns
import BumpverVerif.Proofs.Tie_compileV2FilePatterns
import BumpverVerif.Proofs.Tie_parseConfig
set_option linter.unusedSimpArgs false
namespace BV
open TieP Py TieH

namespace TieP

theorem compileFilePatterns_loop1 {π : Type} (glob : Str → Except Str (List Str)) (cp : RawVal → Str → Except Str π)
    (cps cps1 : RawVal → List Str → Except Str (List π)) (acc items : List (Str × List π)) :
    GenF.compileFilePatterns.loop1 glob cp cps cps1 acc items = .ok (items.foldl mergeIntoG acc) := by
  induction items generalizing acc with
  | nil => rfl
  | cons hd t ih =>
    obtain ⟨f, ps⟩ := hd
    unfold GenF.compileFilePatterns.loop1
    rw [List.foldl_cons]
    -- the test may be written `path in d` or `path not in d` (branches exchanged), the item unpacked in the loop
    -- header or by an assignment
    cases hl : lookup f acc with
    | none =>
      have hm : mergeIntoG acc (f, ps) = setOpt f ps acc := by
        simp only [mergeIntoG, hl]
        exact (setOpt_append_new f ps acc ((lookup_none_iff f acc).mp hl)).symm
      simp only [hl, Option.isSome_none, Bool.not_false, Bool.false_eq_true, if_false, if_true, ih, hm]
    | some old =>
      have hm : mergeIntoG acc (f, ps) = setOpt f (old ++ ps) acc := by simp only [mergeIntoG, hl]
      simp only [hl, Option.isSome_some, Bool.not_true, Bool.false_eq_true, if_false, if_true, ih, hm]

end TieP

theorem tie_compileFilePatterns {π : Type} (glob : Str → Except Str (List Str)) (c : CompileCallees π)
    (d : TomlSection) (isNew : Bool) :
    GenF.compileFilePatterns glob c.cp2 c.cps2 c.cps1 d isNew = compileFilePatternsD glob c d isNew := by
  unfold GenF.compileFilePatterns compileFilePatternsD
  simp only [compileFilePatterns_loop1]
  have hitems : (if isNew = true then GenF.compileV2FilePatterns glob c.cp2 c.cps2 d
      else GenF.compileV1FilePatterns glob c.cps1 d) = compileItemsD glob c isNew d := by
    cases isNew
    · simp only [Bool.false_eq_true, if_false, tie_compileV1FilePatterns]
    · simp only [if_true, tie_compileV2FilePatterns]
  rw [hitems]
  unfold compileItemsD compileFilePatternsE
  cases lookup "version_pattern".toList d.opts with
  | none => rfl
  | some vp =>
    cases d.filePatterns with
    | none => rfl
    | some fps =>
      simp only []
      cases (compileItemsE c isNew vp (iterGlobExpandedE glob fps).items (iterGlobExpandedE glob fps).exc).exc <;> rfl

/-- against the hand model: total glob, callees as `env.compileOk` says, `mk isNew p` = the compiled pattern -/
theorem tie_compileFilePatterns_model {π : Type} (env : CfgEnv) (c : CompileCallees π) (mk : Bool → Str → π)
    (d : TomlSection) (isNew : Bool) (vp : Str) (fps : FilePatterns)
    (hvp : lookup "version_pattern".toList d.opts = some (.str vp)) (hfp : d.filePatterns = some fps)
    (h : CalleesAgree env c mk vp) :
    GenF.compileFilePatterns (fun g => .ok (env.glob g)) c.cp2 c.cps2 c.cps1 d isNew =
      ((compileFilePatterns env isNew vp fps).mapError CfgErr.pyClass).map (mapVals (mk isNew)) := by
  rw [tie_compileFilePatterns]
  unfold compileFilePatternsD
  rw [hvp, hfp]
  exact compileFilePatternsE_model env c mk vp h isNew fps

/-- the same with `compileOf env` (the parameter of `tie_parseConfig_full`) -/
theorem tie_compileFilePatterns_compileOf {π : Type} (env : CfgEnv) (c : CompileCallees π) (mk : Bool → Str → π)
    (d : TomlSection) (isNew : Bool) (vp : Str) (fps : FilePatterns)
    (hvp : lookup "version_pattern".toList d.opts = some (.str vp)) (hfp : d.filePatterns = some fps)
    (h : CalleesAgree env c mk vp) :
    GenF.compileFilePatterns (fun g => .ok (env.glob g)) c.cp2 c.cps2 c.cps1 d isNew =
      (compileOf env d isNew).map (mapVals (mk isNew)) := by
  rw [tie_compileFilePatterns_model env c mk d isNew vp fps hvp hfp h]
  unfold compileOf rawStr
  rw [hvp, hfp]
  rfl

/-! ### what the RESULT of the generated `_compile_file_patterns` looks like (any glob, any callees) -/

/-- when `_compile_file_patterns` returns, the generator it consumed returned normally, and the result is the
    merge of its items -/
theorem compileFilePatterns_gen_ok {π : Type} (glob : Str → Except Str (List Str)) (c : CompileCallees π)
    (d : TomlSection) (isNew : Bool) (m : List (Str × List π))
    (h : GenF.compileFilePatterns glob c.cp2 c.cps2 c.cps1 d isNew = .ok m) :
    ∃ vp fps, lookup "version_pattern".toList d.opts = some vp ∧ d.filePatterns = some fps ∧
      (compileItemsE c isNew vp (iterGlobExpandedE glob fps).items (iterGlobExpandedE glob fps).exc).exc = none ∧
      m = (compileItemsE c isNew vp (iterGlobExpandedE glob fps).items (iterGlobExpandedE glob fps).exc).items.foldl
            mergeIntoG [] := by
  rw [tie_compileFilePatterns] at h
  unfold compileFilePatternsD compileFilePatternsE at h
  cases hvp : lookup "version_pattern".toList d.opts with
  | none => rw [hvp] at h; cases h
  | some vp =>
    cases hfp : d.filePatterns with
    | none => rw [hvp, hfp] at h; cases h
    | some fps =>
      rw [hvp, hfp] at h
      simp only [] at h
      refine ⟨vp, fps, rfl, rfl, ?_⟩
      cases he : (compileItemsE c isNew vp (iterGlobExpandedE glob fps).items (iterGlobExpandedE glob fps).exc).exc with
      | some e => rw [he] at h; cases h
      | none => rw [he] at h; cases h; exact ⟨rfl, rfl⟩

namespace TieP

/-- a generator of compiled items that returned normally yields one item per expanded item, with the same path -/
theorem compileItemsE_paths {π : Type} (c : CompileCallees π) (isNew : Bool) (vp : RawVal)
    (items : List (Str × List Str)) (tail : Option Str)
    (h : (compileItemsE c isNew vp items tail).exc = none) :
    (compileItemsE c isNew vp items tail).items.map Prod.fst = items.map Prod.fst ∧ tail = none := by
  induction items with
  | nil =>
    cases tail with
    | none => exact ⟨rfl, rfl⟩
    | some e => cases h
  | cons hd t ih =>
    obtain ⟨f, pats⟩ := hd
    unfold compileItemsE at h ⊢
    cases hc : compileItemE c isNew vp pats with
    | error e => rw [hc] at h; cases h
    | ok ps =>
      rw [hc] at h
      simp only [PyGen.yield] at h ⊢
      obtain ⟨h1, h2⟩ := ih h
      exact ⟨by simp [h1], h2⟩

/-- the paths the glob expansion yields: for every configured key its glob results, or the key itself -/
theorem iterGlobExpandedE_paths (glob : Str → Except Str (List Str)) (fps : FilePatterns) (k : Str)
    (hk : k ∈ (iterGlobExpandedE glob fps).items.map Prod.fst) :
    ∃ g pats, (g, pats) ∈ fps ∧ ∃ fs, glob g = .ok fs ∧ (k ∈ fs ∨ (fs = [] ∧ k = g)) := by
  induction fps with
  | nil => simp [iterGlobExpandedE, PyGen.done] at hk
  | cons hd t ih =>
    obtain ⟨g, pats⟩ := hd
    unfold iterGlobExpandedE at hk
    cases hg : glob g with
    | error e => rw [hg] at hk; simp [PyGen.raise] at hk
    | ok fs =>
      rw [hg] at hk
      simp only [List.map_append, List.mem_append] at hk
      rcases hk with hk | hk
      · refine ⟨g, pats, List.mem_cons_self, fs, hg, ?_⟩
        cases fs with
        | nil => simp at hk; exact .inr ⟨rfl, hk⟩
        | cons a b =>
          simp only [List.map_map, List.mem_map, Function.comp] at hk
          obtain ⟨x, hx, rfl⟩ := hk
          exact .inl hx
      · obtain ⟨g', pats', hm, rest⟩ := ih hk
        exact ⟨g', pats', List.mem_cons_of_mem _ hm, rest⟩

end TieP

/-- each path occurs ONCE in the result -/
theorem compileFilePatterns_merge_nodup {π : Type} (glob : Str → Except Str (List Str)) (c : CompileCallees π)
    (d : TomlSection) (isNew : Bool) (m : List (Str × List π))
    (h : GenF.compileFilePatterns glob c.cp2 c.cps2 c.cps1 d isNew = .ok m) : (m.map Prod.fst).Nodup := by
  obtain ⟨vp, fps, -, -, -, rfl⟩ := compileFilePatterns_gen_ok glob c d isNew m h
  exact nodup_keys_foldl_mergeIntoG _

/-- the paths of the result are the expanded paths in FIRST-SEEN order -/
theorem compileFilePatterns_merge_order {π : Type} (glob : Str → Except Str (List Str)) (c : CompileCallees π)
    (d : TomlSection) (isNew : Bool) (m : List (Str × List π))
    (h : GenF.compileFilePatterns glob c.cp2 c.cps2 c.cps1 d isNew = .ok m) :
    ∃ fps, d.filePatterns = some fps ∧ (iterGlobExpandedE glob fps).exc = none ∧
      m.map Prod.fst = firstSeen ((iterGlobExpandedE glob fps).items.map Prod.fst) := by
  obtain ⟨vp, fps, -, hfp, hexc, rfl⟩ := compileFilePatterns_gen_ok glob c d isNew m h
  obtain ⟨hp, ht⟩ := compileItemsE_paths c isNew vp _ _ hexc
  exact ⟨fps, hfp, ht, by rw [keys_foldl_mergeIntoG, hp]; rfl⟩

/-- under every path stand exactly the compiled patterns of all compiled items with that path, in their order -/
theorem compileFilePatterns_merge_lookup {π : Type} (glob : Str → Except Str (List Str)) (c : CompileCallees π)
    (d : TomlSection) (isNew : Bool) (m : List (Str × List π))
    (h : GenF.compileFilePatterns glob c.cp2 c.cps2 c.cps1 d isNew = .ok m) :
    ∃ vp fps, lookup "version_pattern".toList d.opts = some vp ∧ d.filePatterns = some fps ∧
      ∀ f, lookup f m =
        (let items := (compileItemsE c isNew vp (iterGlobExpandedE glob fps).items (iterGlobExpandedE glob fps).exc).items
         if f ∈ items.map Prod.fst then some (collectFor f items) else none) := by
  obtain ⟨vp, fps, hvp, hfp, -, rfl⟩ := compileFilePatterns_gen_ok glob c d isNew m h
  refine ⟨vp, fps, hvp, hfp, fun f => ?_⟩
  rw [lookup_foldl_mergeIntoG, lookup_nil]

/-- THE MERGE LEMMA on the generated function, against the hand model's raw patterns: when
    `_compile_file_patterns` returns `m` (glob total, callees as `env` says), a compiled pattern `mk isNew p` stands
    under the path `f` of `m` exactly when an item `(f, ps)` of the expanded configuration has `p ∈ ps`; and each path
    occurs once.  (`p` ranges over RAW patterns; `mk isNew` need not be injective, hence the existential.) -/
theorem compileFilePatterns_merge_exact {π : Type} (env : CfgEnv) (c : CompileCallees π) (mk : Bool → Str → π)
    (d : TomlSection) (isNew : Bool) (vp : Str) (fps : FilePatterns)
    (hvp : lookup "version_pattern".toList d.opts = some (.str vp)) (hfp : d.filePatterns = some fps)
    (hc : CalleesAgree env c mk vp) (m : List (Str × List π))
    (h : GenF.compileFilePatterns (fun g => .ok (env.glob g)) c.cp2 c.cps2 c.cps1 d isNew = .ok m) :
    (m.map Prod.fst).Nodup ∧
    ∀ (f : Str) (q : π), (∃ qs, lookup f m = some qs ∧ q ∈ qs) ↔
      ∃ ps p, (f, ps) ∈ iterGlobExpanded env.glob fps ∧ p ∈ ps ∧ q = mk isNew p := by
  refine ⟨compileFilePatterns_merge_nodup _ c d isNew m h, fun f q => ?_⟩
  rw [tie_compileFilePatterns_model env c mk d isNew vp fps hvp hfp hc] at h
  cases hm : compileFilePatterns env isNew vp fps with
  | error e => rw [hm] at h; cases h
  | ok r =>
    rw [hm] at h
    simp only [Except.mapError, Except.map, Except.ok.injEq] at h
    subst h
    rw [compileFilePatterns_ok env isNew vp fps r hm, foldl_mergeInto_eq, lookup_mapVals]
    constructor
    · rintro ⟨qs, hq, hmem⟩
      cases hl : lookup f (List.foldl mergeIntoG [] (iterGlobExpanded env.glob fps)) with
      | none => rw [hl] at hq; cases hq
      | some raws =>
        rw [hl] at hq
        simp only [Option.map_some, Option.some.injEq] at hq
        subst hq
        obtain ⟨p, hp, rfl⟩ := List.mem_map.mp hmem
        obtain ⟨ps, h1, h2⟩ := (merge_exact _ f p).mp ⟨raws, hl, hp⟩
        exact ⟨ps, p, h1, h2, rfl⟩
    · rintro ⟨ps, p, h1, h2, rfl⟩
      obtain ⟨raws, hl, hp⟩ := (merge_exact _ f p).mpr ⟨ps, h1, h2⟩
      exact ⟨raws.map (mk isNew), by rw [hl]; rfl, List.mem_map.mpr ⟨p, hp, rfl⟩⟩

/-- C04: every key of the resulting map comes from a configured key: it is one of the paths
    `pl.Path().glob(key)` answers, or — when that is empty — the key as written.  For ANY glob and ANY callees. -/
theorem compileFilePatterns_keys_configured {π : Type} (glob : Str → Except Str (List Str)) (c : CompileCallees π)
    (d : TomlSection) (isNew : Bool) (m : List (Str × List π))
    (h : GenF.compileFilePatterns glob c.cp2 c.cps2 c.cps1 d isNew = .ok m) :
    ∃ fps, d.filePatterns = some fps ∧
      ∀ k ∈ m.map Prod.fst, ∃ g pats, (g, pats) ∈ fps ∧ ∃ fs, glob g = .ok fs ∧ (k ∈ fs ∨ (fs = [] ∧ k = g)) := by
  obtain ⟨vp, fps, -, hfp, hexc, rfl⟩ := compileFilePatterns_gen_ok glob c d isNew m h
  obtain ⟨hp, -⟩ := compileItemsE_paths c isNew vp _ _ hexc
  refine ⟨fps, hfp, fun k hk => ?_⟩
  rw [mem_keys_foldl_mergeIntoG, hp] at hk
  exact iterGlobExpandedE_paths glob fps k hk

/-- … and conversely every configured key is represented: each path it expands to is a key of the map -/
theorem compileFilePatterns_keys_complete {π : Type} (glob : Str → Except Str (List Str)) (c : CompileCallees π)
    (d : TomlSection) (isNew : Bool) (m : List (Str × List π))
    (h : GenF.compileFilePatterns glob c.cp2 c.cps2 c.cps1 d isNew = .ok m) :
    ∃ fps, d.filePatterns = some fps ∧
      ∀ k ∈ (iterGlobExpandedE glob fps).items.map Prod.fst, k ∈ m.map Prod.fst := by
  obtain ⟨vp, fps, -, hfp, hexc, rfl⟩ := compileFilePatterns_gen_ok glob c d isNew m h
  obtain ⟨hp, -⟩ := compileItemsE_paths c isNew vp _ _ hexc
  refine ⟨fps, hfp, fun k hk => ?_⟩
  rw [mem_keys_foldl_mergeIntoG, hp]
  exact hk

end BV
