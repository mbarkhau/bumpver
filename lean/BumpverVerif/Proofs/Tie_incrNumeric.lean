/-
  Proofs/Tie_incrNumeric.lean — the definition GENERATED from the Python source of
  `v2version._incr_numeric` equals the hand model `BV.incrNumeric`.

  The abstraction, made explicit in the statement:
  * the six keyword arguments major … pin_increments are the fields of the model's `IncrFlags` record
    (`pinDate` is not an argument of `_incr_numeric`; the model ignores it here, it is universally
    quantified);
  * `_parse_pattern_fields(raw_pattern)` (evaluated inside `_reset_rollover_fields`, i.e. LAST) is the
    parameter `fields` of the model; in the generated definition it is an `Except` that is only looked at
    after every other step succeeded (`tie_incrNumeric_fields_error`);
  * `lexid.next_id` is the trusted primitive `nextId` on both sides; `int(s)` is `pyInt`
    (ValueError unless `s` is a non-empty ASCII digit string — the model's `!allDigits ∨ isEmpty`);
  * `version.PEP440_TAG_BY_TAG[tag]` is `lookup` in the GENERATED table, `none` = KeyError.

  `incrNumeric_stages` writes the generated function in the model's own stages (`incrNumeric_eq`,
  Proofs/V2Lemmas.lean): flag increments (`incStep`), the tag step (`tagStep`), final/auto increments
  (`finStep`), BUILD, then `GenF.resetRolloverFields` on whatever `_parse_pattern_fields` gave; the two ties
  put `tie_resetRolloverFields` resp. `tie_resetRolloverFields_error` at the end.

  HYPOTHESIS `hk`: as for `tie_iterResetFieldItems` (every element of `fields` is a field name).
-/
import BumpverVerif.Gen.F_incrNumeric
import BumpverVerif.Proofs.Tie_resetRolloverFields
namespace BV

namespace TieA

theorem isDigitStr_eq_not (s : Str) : isDigitStr s = !(!allDigits s || s.isEmpty) := by
  unfold isDigitStr
  cases allDigits s <;> cases s.isEmpty <;> rfl

/-- THE ABSTRACTION of the keyword arguments of `_incr_numeric` / `incr`: the model's flag record -/
def mkFlags (major minor patch : Bool) (tag : Option Str) (tag_num pin_increments pin_date : Bool) : IncrFlags :=
  { major := major, minor := minor, patch := patch, tag := tag, tagNum := tag_num,
    pinIncrements := pin_increments, pinDate := pin_date }

theorem tagStep_gen (c4 : VInfo) (tag : Option Str) :
    (match tag with
      | none => Except.ok c4
      | some t =>
        if (!t.isEmpty) = true then
          let c := if (t != c4.tag) = true then { c4 with num := 0 } else c4
          let c := { c with tag := t }
          match lookup t Gen.pep440TagByTag with
          | none => Except.error PErr.keyError
          | some p => Except.ok { c with pytag := p }
        else Except.ok c4) = tagStep c4 tag := by
  unfold tagStep
  cases tag with
  | none => rfl
  | some t =>
    dsimp only
    cases t.isEmpty with
    | true => rfl
    | false => cases lookup t Gen.pep440TagByTag <;> rfl

end TieA
open TieA

/-- `T = tagStep (incStep cur fl) tag` for the scrutinee `T` of the generated join.  The four flag increments
    are compared after a case split on the flags (independent `_replace` blocks commute only then). -/
local macro "tag_step_eq" major:ident minor:ident patch:ident tag_num:ident tag:ident : tactic =>
  `(tactic| (
      unfold tagStep incStep
      cases $major:ident <;> cases $minor:ident <;> cases $patch:ident <;> cases $tag_num:ident <;>
      simp (config := {zetaDelta := true}) only [mkFlags, if_true, if_false, Bool.false_eq_true] <;>
      (cases $tag:ident with
       | none => rfl
       | some t =>
         simp only
         cases t.isEmpty with
         | true => rfl
         | false =>
           simp only [Bool.not_false, if_true, Bool.false_eq_true, if_false]
           cases lookup t Gen.pep440TagByTag <;> rfl)))

/-- the generated function in the model's stages (`incrNumeric_eq`, Proofs/V2Lemmas.lean), whatever
    `_parse_pattern_fields(raw_pattern)` gives: it is only looked at by `_reset_rollover_fields`, LAST -/
theorem incrNumeric_stages (raw_pattern : Str) (old_vinfo cur_vinfo : VInfo)
    (major minor patch : Bool) (tag : Option Str) (tag_num pin_increments pinDate : Bool)
    (F : Except PErr (List Str)) :
    GenF.incrNumeric raw_pattern old_vinfo cur_vinfo major minor patch tag tag_num pin_increments F =
      match tagStep (incStep cur_vinfo (mkFlags major minor patch tag tag_num pin_increments pinDate)) tag with
      | .error e => .error e
      | .ok c5 =>
        let c6 := finStep c5 (mkFlags major minor patch tag tag_num pin_increments pinDate)
        if !allDigits c6.bid || c6.bid.isEmpty then .error .valueError
        else match nextId (padBid c6.bid) with
          | none => .error .overflow
          | some b => GenF.resetRolloverFields raw_pattern old_vinfo { c6 with bid := b } F := by
  unfold GenF.incrNumeric
  extract_lets _ _ _ _ _ _ _ c4
  have hc4 : c4 = incStep cur_vinfo (mkFlags major minor patch tag tag_num pin_increments pinDate) := rfl
  split
  · next err heq => rw [← hc4, (tagStep_gen c4 tag).symm.trans heq]
  · next c5 heq =>
    rw [← hc4, (tagStep_gen c4 tag).symm.trans heq]
    simp -zeta only []
    extract_lets _ _ _ _ c6 c6'
    have hc6 : c6 = c6' := by cases pin_increments <;> rfl
    clear_value c6 c6'
    subst hc6
    unfold GenF.pyInt padBid
    have hdig := isDigitStr_eq_not c6.bid
    cases hd : (!allDigits c6.bid || c6.bid.isEmpty) <;> rw [hd] at hdig
    · by_cases hlt : strToNat c6.bid < 1000
      · cases hn : nextId (natToStr (strToNat c6.bid + 1000)) <;> simp [hdig, hlt, hn]
        cases GenF.resetRolloverFields raw_pattern old_vinfo _ F <;> rfl
      · cases hn : nextId c6.bid <;> simp [hdig, hlt, hn]
        cases GenF.resetRolloverFields raw_pattern old_vinfo _ F <;> rfl
    · simp [hdig]

theorem tie_incrNumeric (raw_pattern : Str) (fields : List Str) (old_vinfo cur_vinfo : VInfo)
    (major minor patch : Bool) (tag : Option Str) (tag_num pin_increments pinDate : Bool)
    (hk : ∀ f ∈ fields, f ∈ GenF.fieldNamesVInfo) :
    GenF.incrNumeric raw_pattern old_vinfo cur_vinfo major minor patch tag tag_num pin_increments (.ok fields) =
      incrNumeric fields old_vinfo cur_vinfo (mkFlags major minor patch tag tag_num pin_increments pinDate) := by
  have hfl : (mkFlags major minor patch tag tag_num pin_increments pinDate).tag = tag := rfl
  rw [incrNumeric_eq, hfl, incrNumeric_stages (pinDate := pinDate)]
  cases tagStep (incStep cur_vinfo (mkFlags major minor patch tag tag_num pin_increments pinDate)) tag with
  | error e => rfl
  | ok c5 =>
    simp only [bidStep, tie_resetRolloverFields _ _ _ _ hk]
    rfl

/-- `_parse_pattern_fields(raw_pattern)` is evaluated LAST: when it raises `e`, every exception of the
    earlier steps (KeyError of the tag table, ValueError of `int(bid)`, OverflowError of `next_id`) still
    comes first, and only if none of them occurs the result is `e`. -/
theorem tie_incrNumeric_fields_error (raw_pattern : Str) (old_vinfo cur_vinfo : VInfo)
    (major minor patch : Bool) (tag : Option Str) (tag_num pin_increments pinDate : Bool) (e : PErr) :
    GenF.incrNumeric raw_pattern old_vinfo cur_vinfo major minor patch tag tag_num pin_increments (.error e) =
      match incrNumeric [] old_vinfo cur_vinfo (mkFlags major minor patch tag tag_num pin_increments pinDate) with
      | .error e' => .error e'
      | .ok _ => .error e := by
  have hfl : (mkFlags major minor patch tag tag_num pin_increments pinDate).tag = tag := rfl
  rw [incrNumeric_eq, hfl, incrNumeric_stages (pinDate := pinDate)]
  cases tagStep (incStep cur_vinfo (mkFlags major minor patch tag tag_num pin_increments pinDate)) tag with
  | error e => rfl
  | ok c5 =>
    simp only [bidStep, tie_resetRolloverFields_error]
    split
    · rfl
    · cases nextId _ <;> rfl

end BV
