/-
  Proofs/TieN_Format.lean — the rendering tie needs of the record only `TieN.valok` (Proofs/TokTie_Format.lean: every
  rendered part HAS a value, a non-empty text without upper-case letters), a property of the PART TEXTS:

      valok_of_agree       : Pat.agree v v' p → valok v p → valok v' p        (a record that agrees on every part text)
      formatVersion_valok  : tokSafe p → valok v p → tagCoh v → formatVersion v (Pat.text p) = .ok (Pat.render v p)

  The first lemma is what closes the open end of `C02_roundtrip_code`: the record READ BACK from the rendered text
  agrees with the rendered record on every part text, so `format_version` renders it — whether or not its fields lie
  in the part domains (they need not: `vok_readback_needs_condition`, Props/C02Code.lean).
-/
import BumpverVerif.Proofs.TokTie_Format
import BumpverVerif.Proofs.ReadBack
namespace BV
namespace TieN

theorem allZero_of_agree (v v' : VInfo) : ∀ p : Pat, Pat.agree v v' p = true → Pat.allZero v' p = Pat.allZero v p :=
  fun p h => (render_of_agree v v' p h).1

/-- `valok` only looks at the part texts: it is inherited by every record that agrees on them -/
theorem valok_of_agree (v v' : VInfo) : ∀ p : Pat, Pat.agree v v' p = true → valok v p → valok v' p
  | .done, _, _ => trivial
  | .lit _ rest, h, hv => valok_of_agree v v' rest (by simpa [Pat.agree] using h) hv
  | .part n rest, h, hv => by
    simp only [Pat.agree, Bool.and_eq_true, beq_iff_eq] at h
    refine ⟨?_, valok_of_agree v v' rest h.2 hv.2⟩
    obtain ⟨w, hw, h1, h2⟩ := hv.1
    exact ⟨w, by rw [h.1, hw], h1, h2⟩
  | .opt body rest, h, hv => by
    simp only [Pat.agree, Bool.and_eq_true] at h
    refine ⟨?_, valok_of_agree v v' rest h.2 hv.2⟩
    cases hz : Pat.allZero v body with
    | true =>
      rw [hz] at h
      simp only [if_true] at h
      exact .inl h.1
    | false =>
      rw [hz] at h
      simp only [Bool.false_eq_true, if_false] at h
      rcases hv.1 with hz' | hb
      · rw [hz] at hz'; cases hz'
      · exact .inr (valok_of_agree v v' body h.1 hb)

/-- THE RENDERING TIE under the weaker condition -/
theorem formatVersion_valok (p : Pat) (v : VInfo) (hs : tokSafe p = true) (hv : valok v p)
    (htc : tagCoh v = true) : formatVersion v p.text = .ok (p.render v) :=
  formatVersion_text_of_valok p v hs hv htc

end TieN
end BV
