/-
  Proofs/Tie_isCalGt.lean — the definition GENERATED from the Python source of
  `v2version._is_cal_gt` equals the hand model `BV.isCalGt` on all inputs.

  The translator renders the accumulation loop over `V2CalendarInfo._fields` as a `List.foldl`
  over the nine field projections (in the order of the Python class definition) with the state
  `(lvals, rvals)`.  The proof (1) shows that one generated loop step is `stepRef`, by cases on
  the two field values, (2) evaluates a fold of `stepRef` over ANY list of projections to the
  model's `presentPairs`, (3) notes that the projection list mapped over a record is
  `CalOpt.toList`.
-/
import BumpverVerif.Proofs.Basics
import BumpverVerif.Gen.F_isCalGt
import BumpverVerif.Model.Calendar
namespace BV

/-- one iteration of the loop of `_is_cal_gt`: both values present → appended, else unchanged -/
def calGtStep (l r : CalOpt) (st : List Nat × List Nat) (f : CalOpt → Option Nat) :
    List Nat × List Nat :=
  match f l, f r with
  | some a, some b => (st.1 ++ [a], st.2 ++ [b])
  | _, _ => st

theorem foldl_calGtStep (l r : CalOpt) (fs : List (CalOpt → Option Nat)) (st : List Nat × List Nat) :
    fs.foldl (calGtStep l r) st =
      (st.1 ++ (presentPairs (fs.map (· l)) (fs.map (· r))).map (·.1),
       st.2 ++ (presentPairs (fs.map (· l)) (fs.map (· r))).map (·.2)) := by
  induction fs generalizing st with
  | nil => simp [presentPairs]
  | cons f fs ih =>
    simp only [List.foldl_cons, List.map_cons, ih]
    cases hl : f l <;> cases hr : f r <;> simp [calGtStep, presentPairs, hl, hr]

theorem tie_isCalGt (left right : CalOpt) :
    GenF.isCalGt left right = isCalGt left right := by
  simp only [GenF.isCalGt]
  rw [foldl_congr _ (calGtStep left right)
    (by intro ⟨a, b⟩ f; simp only [calGtStep]; cases f left <;> cases f right <;> rfl)]
  rw [foldl_calGtStep]
  simp only [isCalGt, CalOpt.toList, List.map_cons, List.map_nil, List.nil_append]

end BV
