/-
  Proofs/Tie_parseVinfo.lean — the definition GENERATED from the Python source of
  `v2version.parse_field_values_to_vinfo` (harness/translate_parse.py → Gen/F_parseVinfo.lean) against the hand
  model `BV.parseVinfo` (Model/V2Version.lean).  The callee `parse_field_values_to_cinfo` is the GENERATED
  `GenF.parseCinfo` (rewritten with `tie_parseCinfo`), the tables `version.PEP440_TAG_BY_TAG` /
  `TAG_BY_PEP440_TAG` are the generated `Gen.pep440TagByTag` / `Gen.tagByPep440Tag`.

  `tie_parseVinfo`: for ALL dicts whose keys pass the function's own `assert` (hypothesis `validKeys`), and every
  `today` whose month is not 0 (see Tie_parseCinfo.lean),

      GenF.parseVinfo fv today = if yearOutOfRange fv then .error .valueError else parseVinfo (absFV fv) today

  Hypotheses:
  * `validKeys fv`: the Python function starts with
        for key in field_values: assert any(key.startswith(fkey) for fkey in VALID_FIELD_KEYS), key
    which the model does not have.  Witness: `parse_field_values_to_vinfo({'foo': "1"})` raises AssertionError
    (`parseVinfo_invalidKey`: the generated function answers `.error .unsupported`), the model returns a VInfo.
    `parse_version_info` only passes the group names of a compiled pattern, which are field names.
    VALID_FIELD_KEYS is read from the AST (`set(version.V2VersionInfo._fields) | {'version'}`) and must be exactly
    the list `validFieldKeys` below.
  * `yearOutOfRange`, `today.2.1 ≠ 0`: inherited from `tie_parseCinfo`.
-/
import BumpverVerif.Gen.F_parseVinfo
import BumpverVerif.Proofs.Tie_parseCinfo
namespace BV

/-- `v2version.VALID_FIELD_KEYS` = `set(version.V2VersionInfo._fields) | {'version'}` -/
def validFieldKeys : List Str :=
  ["year_y".toList, "year_g".toList, "quarter".toList, "month".toList, "dom".toList, "doy".toList,
   "week_w".toList, "week_u".toList, "week_v".toList, "major".toList, "minor".toList, "patch".toList,
   "bid".toList, "tag".toList, "pytag".toList, "githash".toList, "hexhash".toList, "num".toList,
   "inc0".toList, "inc1".toList] ++ ["version".toList]

/-- the `assert` loop at the head of `parse_field_values_to_vinfo` -/
def validKeys (fv : PyDict Str) : Bool :=
  List.all (pyKeys fv) (fun key => List.any validFieldKeys (fun fkey => startsWith key fkey))

/-- the idiom `int(d.get(k) or n)` as emitted by the translator, in the model's words -/
theorem orInt_idiom (fv : PyDict Str) (k : String) (d : Nat) :
    (lookup k.toList fv).elim d (fun s => if (!s.isEmpty) = true then strToNat s else d) =
      intFieldOr (absFV fv) k d := by
  simp only [intFieldOr, strField_absFV]
  cases lookup k.toList fv with
  | none => simp
  | some s => cases s <;> simp

/-- the idiom `d.get(k) or ""` as emitted -/
theorem orStr_idiom (o : Option Str) :
    o.elim "".toList (fun s => if (!s.isEmpty) = true then s else "".toList) = o.getD [] := by
  cases o with
  | none => rfl
  | some s => cases s <;> simp

/-- after the calendar part: tags, numbers, build id.  The rest of the function after the two tags are settled is
    kept as a variable on both sides (`Kg`, the model's join point `K`); they agree on every pair of tags. -/
theorem parseVinfo_rest (fv : PyDict Str) (today : PDate) (hK : validKeys fv = true)
    (hC : GenF.parseCinfo fv today = parseCinfo (absFV fv) today) :
    GenF.parseVinfo fv today = parseVinfo (absFV fv) today := by
  unfold validKeys validFieldKeys at hK
  unfold GenF.parseVinfo parseVinfo
  rw [if_pos hK, hC]
  cases parseCinfo (absFV fv) today with
  | error e => rfl
  | ok c =>
    conv => lhs; simp only [exBind_ok, pyGet, pyGetItem, orInt_idiom, orStr_idiom]
    conv => rhs; simp -zeta only [exBind_ok, bind, pure, Except.pure, throw, throwThe, MonadExceptOf.throw,
      strField_absFV, lookup_absFV]
    extract_lets tag0 pytag0 K
    have e1 : (lookup "tag".toList fv).getD [] = tag0 := rfl
    have e2 : (lookup "pytag".toList fv).getD [] = pytag0 := rfl
    rw [e1, e2]
    clear_value tag0 pytag0
    generalize hKg : (fun j : Str × Str => Except.ok _) = Kg
    have hK : ∀ p t, Kg (p, t) = K (t, p) := by
      intro p t
      subst hKg
      simp only [K]
      cases List.isEmpty t <;> cases lookup "bid".toList fv <;> rfl
    cases ht : tag0.isEmpty <;> cases hp : pytag0.isEmpty
    · exact hK pytag0 tag0
    · rcases lookup tag0 Gen.pep440TagByTag with _ | p
      · rfl
      · exact hK p tag0
    · rcases lookup pytag0 Gen.tagByPep440Tag with _ | t
      · rfl
      · exact hK pytag0 t
    · exact hK pytag0 tag0

theorem tie_parseVinfo_cases (fv : PyDict Str) (today : PDate) (hT : today.2.1 ≠ 0) (hK : validKeys fv = true) :
    (yearOutOfRange fv = false ∧ GenF.parseVinfo fv today = parseVinfo (absFV fv) today) ∨
    (yearOutOfRange fv = true ∧ GenF.parseVinfo fv today = .error .valueError ∧
      parseVinfo (absFV fv) today = .error .overflow) := by
  rcases tie_parseCinfo_cases fv today hT with ⟨h, e⟩ | ⟨h, e1, e2⟩
  · exact .inl ⟨h, parseVinfo_rest fv today hK e⟩
  · refine .inr ⟨h, ?_, ?_⟩
    · unfold validKeys validFieldKeys at hK
      unfold GenF.parseVinfo
      rw [if_pos hK, e1]; rfl
    · unfold parseVinfo
      rw [e2]; rfl

/-- THE TIE -/
theorem tie_parseVinfo (fv : PyDict Str) (today : PDate) (hT : today.2.1 ≠ 0) (hK : validKeys fv = true) :
    GenF.parseVinfo fv today =
      if yearOutOfRange fv then .error .valueError else parseVinfo (absFV fv) today := by
  rcases tie_parseVinfo_cases fv today hT hK with ⟨h, e⟩ | ⟨h, e, _⟩ <;> simp [h, e]

theorem parseVinfo_yearOutOfRange_model (fv : PyDict Str) (today : PDate) (hT : today.2.1 ≠ 0)
    (h : yearOutOfRange fv = true) : parseVinfo (absFV fv) today = .error .overflow := by
  unfold parseVinfo
  rw [parseCinfo_yearOutOfRange_model fv today hT h]; rfl

theorem tie_parseVinfo_model (fv : PyDict Str) (today : PDate) (hT : today.2.1 ≠ 0) (hK : validKeys fv = true)
    (hY : yearOutOfRange fv = false) : GenF.parseVinfo fv today = parseVinfo (absFV fv) today := by
  rw [tie_parseVinfo fv today hT hK, hY]; rfl

/-- ValueError and OverflowError identified: no hypothesis on the year -/
theorem tie_parseVinfo_collapse (fv : PyDict Str) (today : PDate) (hT : today.2.1 ≠ 0) (hK : validKeys fv = true) :
    collapseVO (GenF.parseVinfo fv today) = collapseVO (parseVinfo (absFV fv) today) := by
  rcases tie_parseVinfo_cases fv today hT hK with ⟨_, e⟩ | ⟨_, e1, e2⟩
  · rw [e]
  · rw [e1, e2]; rfl

/-- a key that is no field name: Python's AssertionError (the model has no such check) -/
theorem parseVinfo_invalidKey (fv : PyDict Str) (today : PDate) (hK : validKeys fv = false) :
    GenF.parseVinfo fv today = .error .unsupported := by
  unfold validKeys validFieldKeys at hK
  unfold GenF.parseVinfo
  rw [hK]; rfl

/-! ### non-vacuity and the witness of `validKeys` -/

example : validKeys [("year_y".toList, "2018".toList), ("month".toList, "11".toList), ("bid".toList, "0099".toList)]
    = true := by decide
example : (GenF.parseVinfo [("year_y".toList, "2018".toList), ("month".toList, "11".toList),
      ("bid".toList, "0099".toList)] (2024, 5, 17)).map (fun v => (v.cal.yearY, v.cal.month, v.cal.quarter, v.bid, v.tag))
    = .ok (some 2018, some 11, some 4, "0099".toList, "final".toList) := by decide
example : (GenF.parseVinfo [("major".toList, "1".toList), ("tag".toList, "beta".toList)] (2024, 5, 17)).map
      (fun v => (v.major, v.tag, v.pytag, v.inc1)) = .ok (1, "beta".toList, "b".toList, 1) := by decide
example : GenF.parseVinfo [("foo".toList, "1".toList)] (2024, 5, 17) = .error .unsupported
    ∧ (parseVinfo (absFV [("foo".toList, "1".toList)]) (2024, 5, 17)).toBool = true := by decide

end BV
