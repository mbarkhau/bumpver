/-
  Proofs/Tie_pickConfigFile.lean — the definition GENERATED from the Python source of
  `config._pick_config_filepath` (Gen/F_pickConfigFile.lean) equals the hand model `BV.pickConfigFile`
  (the C19 model `pick`) on EVERY project directory.

  The file system is a parameter `fs : ProjFS` (file name ↦ content, `none` = no such file):
  `path / "name"` is the name, `p.exists()` is `(fs p).isSome`, `with p.open(mode="rb") as f: f.read()`
  is the content (FileNotFoundError when absent — the tie shows it never happens: the `open` is
  guarded by `exists()`).  The two `for` loops with their early `return` are the structurally
  recursive `….loop1` / `….loop2`; both are `List.find?` over the candidate list (by induction).
  The candidate list and the fallback are literals of the function body; they are compared with the
  generated tables `Gen.configCandidates` / `Gen.configFallback` by `decide`.

  `_pick_config_filepath` is translated twice: here by harness/translate_config.py with the project directory as a
  `ProjFS` (what `init_project_ctx` and `init` are tied over, Proofs/Tie_initProjectCtx.lean); in
  Proofs/Tie_pickConfigFilepath.lean by harness/translate_cli.py with `pathlib` left abstract (what the source-level
  statements of Proofs/TieD_Source.lean use).  Each file states what `classify` answers in its own setting
  (`hasSection_worldOf` here, `classify_eq_hasSection` there).
-/
import BumpverVerif.Gen.F_pickConfigFile
import BumpverVerif.Proofs.TieConfigCommon
set_option linter.unusedSimpArgs false
namespace BV
open TieH

namespace TieH

theorem exists_worldOf (fs : ProjFS) (f : Str) : (worldOf fs).exists_ f = (fs f).isSome := by
  unfold World.exists_ worldOf
  rcases fs f with _ | (_ | ⟨c, t⟩)
  · rfl
  · rfl
  · simp only [classify]; split <;> rfl

theorem hasSection_worldOf (fs : ProjFS) (f : Str) (d : Str) (h : fs f = some d) :
    (worldOf fs f == FileState.hasSection) =
      ((isInfix "bumpver]".toList d || isInfix "pycalver]".toList d) && isInfix "current_version".toList d) := by
  unfold worldOf
  rw [h]
  rcases d with _ | ⟨c, t⟩
  · rfl
  · simp only [classify]
    generalize ((isInfix "bumpver]".toList (c :: t) || isInfix "pycalver]".toList (c :: t))
      && isInfix "current_version".toList (c :: t)) = b
    cases b <;> rfl

theorem hasSection_absent (fs : ProjFS) (f : Str) (h : fs f = none) :
    (worldOf fs f == FileState.hasSection) = false := by
  unfold worldOf; rw [h]; rfl

end TieH

/-- the second loop: the first existing candidate, else the fallback -/
theorem tie_pick_loop2 (fs : ProjFS) (p : Py.ProjDir) (cands l : List Str) :
    GenF.pickConfigFile.loop2 fs p cands l =
      .ok (match l.find? (fun f => (worldOf fs).exists_ f) with
           | some f => f
           | none => Gen.configFallback) := by
  induction l with
  | nil =>
    unfold GenF.pickConfigFile.loop2
    have : ∀ s : Str, s = Gen.configFallback → (Except.ok s : Except Str Str) = Except.ok Gen.configFallback :=
      fun s h => by rw [h]
    exact this _ (by decide)
  | cons f t ih =>
    unfold GenF.pickConfigFile.loop2
    simp only [List.find?_cons, exists_worldOf]
    cases (fs f).isSome
    · simp only [Bool.false_eq_true, if_false, ih, exists_worldOf]
    · simp only [if_true]

/-- the first loop: the first candidate that holds a section, else the second loop -/
theorem tie_pick_loop1 (fs : ProjFS) (p : Py.ProjDir) (cands l : List Str) :
    GenF.pickConfigFile.loop1 fs p cands l =
      match l.find? (fun f => worldOf fs f == .hasSection) with
      | some f => .ok f
      | none => GenF.pickConfigFile.loop2 fs p cands cands := by
  induction l with
  | nil => unfold GenF.pickConfigFile.loop1; rfl
  | cons f t ih =>
    unfold GenF.pickConfigFile.loop1
    simp only [List.find?_cons]
    rcases h : fs f with _ | d
    · simp only [Option.isSome_none, Bool.false_eq_true, if_false, ih, hasSection_absent fs f h]
    · simp only [Option.isSome_some, if_true, hasSection_worldOf fs f d h]
      -- the three byte markers are atoms: whatever Boolean combination the source writes is compared by cases
      generalize isInfix "bumpver]".toList d = b1
      generalize isInfix "pycalver]".toList d = b2
      generalize isInfix "current_version".toList d = b3
      cases b1 <;> cases b2 <;> cases b3 <;>
        simp only [Bool.or_false, Bool.or_true, Bool.and_false, Bool.and_true, Bool.or_self, Bool.and_self,
          Bool.false_or, Bool.true_or, Bool.false_and, Bool.true_and, Bool.false_eq_true, if_false, if_true, ih]

theorem tie_pickConfigFile (fs : ProjFS) (p : Py.ProjDir) :
    GenF.pickConfigFile fs p = .ok (pickConfigFile (worldOf fs)) := by
  unfold GenF.pickConfigFile pickConfigFile
  simp only [tie_pick_loop1, tie_pick_loop2]
  have hc : ∀ l : List Str, l = Gen.configCandidates →
      (match l.find? (fun f => worldOf fs f == FileState.hasSection) with
        | some f => (Except.ok f : Except Str Str)
        | none => Except.ok (match l.find? (fun f => (worldOf fs).exists_ f) with
            | some f => f
            | none => Gen.configFallback)) =
      Except.ok (match Gen.configCandidates.find? (fun f => worldOf fs f == FileState.hasSection) with
        | some f => f
        | none => match Gen.configCandidates.find? (fun f => (worldOf fs).exists_ f) with
            | some f => f
            | none => Gen.configFallback) := by
    intro l hl
    subst hl
    cases Gen.configCandidates.find? (fun f => worldOf fs f == FileState.hasSection) <;> rfl
  exact hc _ (by decide)

end BV
