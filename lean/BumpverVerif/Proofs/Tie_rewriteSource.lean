/-
  Proofs/Tie_rewriteSource.lean — how the ties of the rewrite path are USED: the property theorems of
  C03, C04, C06, C13 (proved about the hand model) transported along the ties to the definitions GENERATED
  from the Python source.  Nothing new is proved about the model here; every statement is about
  `GenF.rewriteLines` / `GenF.rfdFromContent` / `GenF.rewriteFiles` / `GenF.diff`.
-/
import BumpverVerif.Props.C03
import BumpverVerif.Props.C04
import BumpverVerif.Props.C06
import BumpverVerif.Props.C13
import BumpverVerif.Proofs.Tie_rewriteFiles
import BumpverVerif.Proofs.Tie_diff
namespace BV

open GenF (PatternMatch Pattern RewrittenFileData)

/-- the hypothesis `Pattern.Wf` is satisfiable for every raw pattern inside the model's regex fragment -/
theorem GenF.Pattern.wf_of_compile (vp raw : Str) (r : Re) (h : compileRe raw = some r) :
    ({ version_pattern := vp, raw_pattern := raw, regexp := r } : Pattern).Wf := h

/-- C03 on the generated code: after a successful `rewrite_lines` every match `iter_matches` yields shows the
    new version, rendered through its own pattern, at its shifted position in the new line -/
theorem src_C03_every_occurrence (patterns : List Pattern) (v : VInfo) (old new : List Str)
    (hwf : ∀ p ∈ patterns, p.Wf) (h : GenF.rewriteLines patterns v old = .ok new)
    (m : PatternMatch) (hm : m ∈ GenF.iterMatches old patterns) :
    ∃ newLine, new[m.lineno]? = some newLine ∧
      (newLine.drop (shiftedStart v ((GenF.iterMatches old patterns).map PatternMatch.abs) m.abs).toNat).take
        (replOf v m.abs).length = replOf v m.abs := by
  rw [tie_rewriteLines _ _ _ hwf] at h
  exact C03_every_occurrence _ v old new _ (tie_iterMatches old patterns hwf) h m.abs (List.mem_map_of_mem hm)

/-- C03: success means every configured pattern (the very object, regex included) has a match -/
theorem src_C03_all_patterns_found (patterns : List Pattern) (v : VInfo) (old new : List Str)
    (hwf : ∀ p ∈ patterns, p.Wf) (h : GenF.rewriteLines patterns v old = .ok new) :
    ∀ p ∈ patterns, ∃ m ∈ GenF.iterMatches old patterns, m.pattern = p := by
  intro p hp
  rw [tie_rewriteLines _ _ _ hwf] at h
  obtain ⟨m', hm', e⟩ := C03_all_patterns_found _ v old new _ (tie_iterMatches old patterns hwf) h p.abs
    (List.mem_map_of_mem hp)
  obtain ⟨m, hm, rfl⟩ := List.mem_map.1 hm'
  exact ⟨m, hm, GenF.Pattern.abs_inj (hwf _ (iterMatches_pattern_mem old patterns m hm)) (hwf p hp) e⟩

/-- C04 on the generated code: the number of lines never changes … -/
theorem src_C04_line_count (patterns : List Pattern) (v : VInfo) (old new : List Str)
    (hwf : ∀ p ∈ patterns, p.Wf) (h : GenF.rewriteLines patterns v old = .ok new) : new.length = old.length := by
  rw [tie_rewriteLines _ _ _ hwf] at h
  exact C04_line_count _ v old new h

/-- … lines without a match are untouched … -/
theorem src_C04_unmatched_lines (patterns : List Pattern) (v : VInfo) (old new : List Str)
    (hwf : ∀ p ∈ patterns, p.Wf) (h : GenF.rewriteLines patterns v old = .ok new)
    (i : Nat) (hi : ∀ m ∈ GenF.iterMatches old patterns, m.lineno ≠ i) : new[i]? = old[i]? := by
  rw [tie_rewriteLines _ _ _ hwf] at h
  refine C04_unmatched_lines _ v old new _ (tie_iterMatches old patterns hwf) h i ?_
  intro m' hm'
  obtain ⟨m, hm, rfl⟩ := List.mem_map.1 hm'
  exact hi m hm

/-- … and the record of `rfd_from_content` carries the detected separator and the split content, so that
    joining the OLD lines gives back the file's text exactly -/
theorem src_C04_old_content (patterns : List Pattern) (v : VInfo) (content path : Str) (rfd : RewrittenFileData)
    (hwf : ∀ p ∈ patterns, p.Wf) (h : GenF.rfdFromContent patterns v content path = .ok rfd) :
    rfd.path = path ∧ rfd.line_sep = detectLineSep content ∧ join rfd.line_sep rfd.old_lines = content ∧
      rfd.new_lines.length = rfd.old_lines.length := by
  rw [tie_rfdFromContent _ _ _ _ hwf] at h
  cases hr : rewriteLines (patterns.map Pattern.abs) v (splitOn (detectLineSep content) content) with
  | error e => rw [hr] at h; cases h
  | ok nl =>
    rw [hr] at h
    simp only [Except.map, Except.ok.injEq] at h
    subst h
    exact ⟨rfl, rfl, join_split_detect content, C04_line_count _ v _ _ hr⟩

/-- C04: files that are not configured are not touched by `rewrite_files` -/
theorem src_C04_other_files (file_patterns : List (Str × List Pattern)) (v : VInfo) (fs : FS) (p : Str)
    (hwf : GenF.WfFilePatterns file_patterns) (hp : ∀ it ∈ file_patterns, it.1 ≠ p) :
    lookup p (GenF.rewriteFiles file_patterns v fs).1 = lookup p fs := by
  rw [tie_rewriteFiles _ _ _ hwf]
  refine C04_other_files fs _ v p ?_
  intro fp hfp
  obtain ⟨it, hit, rfl⟩ := List.mem_map.1 hfp
  exact hp it hit

/-- C06 on the generated code: ALL OR NOTHING — whatever error `rewrite_files` ends with, the file system is
    exactly what it was -/
theorem src_C06_all_or_nothing (file_patterns : List (Str × List Pattern)) (v : VInfo) (fs : FS) (e : RwErr)
    (hwf : GenF.WfFilePatterns file_patterns) (h : (GenF.rewriteFiles file_patterns v fs).2 = .error e) :
    (GenF.rewriteFiles file_patterns v fs).1 = fs := by
  rw [tie_rewriteFiles _ _ _ hwf] at h ⊢
  exact C06_all_or_nothing fs _ v e h

/-- the success of the model's write phase does not depend on the order of the files -/
theorem rewriteFiles_ok_of_mem (fs : FS) (v : VInfo) (l1 l2 : List (Str × List CPat))
    (hsub : ∀ x ∈ l2, x ∈ l1) (h : (rewriteFiles fs l1 v).2 = .ok ()) : (rewriteFiles fs l2 v).2 = .ok () := by
  rw [← v2Engine_rewriteFiles] at h ⊢
  exact v2Engine.rewriteFiles_ok_of_mem fs v l1 l2 hsub h

/-- C13 on the generated code: if `diff` (the `--dry` path) succeeds, then `rewrite_files` (the write path) on
    the same file system and configuration succeeds too — both go through the same `rfd_from_content` -/
theorem src_C13_dry_ok_real_ok (old_vinfo new_vinfo : VInfo) (file_patterns : List (Str × List Pattern))
    (diff_lines : RewrittenFileData → List Str) (fs : FS) (text : Str)
    (hdl : ∀ rfd, (diff_lines rfd).length = 0 ↔ rfd.old_lines = rfd.new_lines)
    (hready : ∀ it ∈ file_patterns, DiffReady old_vinfo new_vinfo it)
    (h : GenF.diff old_vinfo new_vinfo file_patterns diff_lines fs = (fs, .ok text)) :
    (GenF.rewriteFiles file_patterns new_vinfo fs).2 = .ok () := by
  have hwf : GenF.WfFilePatterns file_patterns := fun it hit p hp => (hready it hit p hp).1
  obtain ⟨-, rs, hrs⟩ := (tie_diff_ok_iff _ _ _ _ _ hdl hready).1 ⟨text, h⟩
  rw [tie_rewriteFiles _ _ _ hwf]
  refine rewriteFiles_ok_of_mem fs new_vinfo _ _ ?_ (C13_dry_ok_real_ok fs old_vinfo new_vinfo _ rs hrs)
  intro x hx
  obtain ⟨it, hit, rfl⟩ := List.mem_map.1 hx
  refine List.mem_map.2 ⟨it, ?_, rfl⟩
  unfold GenF.pySortedBy
  exact (GenF.mem_foldr_pyInsertBy _ it _).2 hit

/-- C13: `diff` never touches the file system (no hypothesis at all) -/
theorem src_C13_diff_pure (old_vinfo new_vinfo : VInfo) (file_patterns : List (Str × List Pattern))
    (diff_lines : RewrittenFileData → List Str) (fs : FS) :
    (GenF.diff old_vinfo new_vinfo file_patterns diff_lines fs).1 = fs :=
  tie_diff_pure old_vinfo new_vinfo file_patterns diff_lines fs

end BV
