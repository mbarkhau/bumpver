/-
  Proofs/Tie_isValidWeekPattern.lean — the definition GENERATED from the Python source of
  `v2version.is_valid_week_pattern` equals the hand model `BV.isValidWeekPattern` on all inputs.
  (`logger.error` is dropped by the translator; `alt1`/`alt2` are translated but unused.)
  After unfolding, both sides are the same Boolean combination of eleven `isInfix` atoms up to the bracketing of
  `||` and the order of the conjuncts; `Bool.or_assoc` and `Bool.and_comm` (as an ordered rewrite) make them equal.
-/
import BumpverVerif.Gen.F_isValidWeekPattern
import BumpverVerif.Model.Calendar
namespace BV

theorem tie_isValidWeekPattern (raw_pattern : Str) :
    GenF.isValidWeekPattern raw_pattern = isValidWeekPattern raw_pattern := by
  simp only [GenF.isValidWeekPattern, isValidWeekPattern, hasYPart, hasVPart, hasGPart, hasWUPart,
    List.any_cons, List.any_nil, Bool.or_false, Bool.or_assoc, Bool.and_comm]

end BV
