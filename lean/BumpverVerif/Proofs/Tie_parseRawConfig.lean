/-
  Proofs/Tie_parseRawConfig.lean — the definition GENERATED from the Python source of `config._parse_raw_config`
  (Gen/F_parseRawConfig.lean: the config file is opened — FileNotFoundError —, the reader is chosen by
  `ctx.config_format` — RuntimeError for anything but 'toml' / 'cfg' —, and THE OWN-ENTRY RULE: when
  `ctx.config_rel_path not in raw_cfg['file_patterns']` the file is read again,
  `_parse_current_version_default_pattern` computes the pattern of its own `current_version` line, and
  `raw_cfg['file_patterns'][ctx.config_rel_path] = [pattern]` appends the entry) equals the reference
  `parseRawConfigE` (Model/FilePatterns.lean), i.e. the hand model's `parseTomlPost` / `parseCfgPost` followed by
  `addSelfPattern` (Model/Config.lean), for ALL parser results, file systems and project contexts.

  Callees: `_parse_toml`, `_parse_cfg`, `_parse_current_version_default_pattern` are the GENERATED definitions of group
  `config` (`tie_parseToml`, `tie_parseCfg`, `tie_parseCurrentVersionDefaultPattern`); the hypotheses
  `hmain` / `hfiles` are those of `tie_parseCfg` (configparser is strict: option names are unique).

  `parseRawConfig_own_entry` states C03/C18's clause "always including the config file's own current_version line" on
  the generated function.
-/
import BumpverVerif.Gen.F_parseRawConfig
import BumpverVerif.Proofs.FilePatternsLemmas
import BumpverVerif.Proofs.Tie_parseToml
import BumpverVerif.Proofs.Tie_parseCfg
import BumpverVerif.Proofs.Tie_parseCurrentVersionDefaultPattern
set_option linter.unusedSimpArgs false
namespace BV
open TieP Py TieH

namespace TieP

theorem embedRaw_filePatterns (raw : RawCfg) : (embedRaw raw).filePatterns = some raw.filePatterns := rfl

/-- the config file is listed: nothing is added -/
theorem ownEntry_listed (rel text : Str) (raw : RawCfg) (v : List Str) (hk : lookup rel raw.filePatterns = some v) :
    ((addSelfPattern rel text raw).mapError CfgErr.pyClass).map embedRaw = .ok (embedRaw raw) := by
  have : cfgHasKey rel raw.filePatterns = true := by unfold cfgHasKey; rw [hk]; rfl
  simp only [addSelfPattern, this, if_true]
  rfl

/-- the config file is not listed (on a raw dict that came out of a reader): its own entry is appended -/
theorem ownEntry_unlisted (rel text : Str) (raw : RawCfg) (hk : lookup rel raw.filePatterns = none)
    (hraw : ∃ cv vp, rawStr "current_version".toList raw.opts = .ok cv ∧ rawStr "version_pattern".toList raw.opts = .ok vp) :
    (match GenF.parseCurrentVersionDefaultPattern (embedRaw raw) text with
      | Except.error err => (Except.error err : Except Str TomlSection)
      | Except.ok r => Except.ok { embedRaw raw with filePatterns := some (setOpt rel [r] raw.filePatterns) }) =
      ((addSelfPattern rel text raw).mapError CfgErr.pyClass).map embedRaw := by
  obtain ⟨cv, vp, hcv, hvp⟩ := hraw
  have hk' : cfgHasKey rel raw.filePatterns = false := by unfold cfgHasKey; rw [hk]; rfl
  rw [tie_addSelfPattern rel text raw cv vp hcv hvp hk']
  cases GenF.parseCurrentVersionDefaultPattern (embedRaw raw) text with
  | error e => rfl
  | ok p =>
    simp only [Except.map, embedRaw]
    rw [setOpt_append_new rel [p] raw.filePatterns ((lookup_none_iff rel raw.filePatterns).mp hk)]

/-- the own-entry rule, however the test is written (`x not in d`, `not (x in d)`, an early return for `x in d`) -/
macro "own_entry_rule" raw:ident text:ident hraw:term : tactic => `(tactic|
  (simp only [embedRaw_filePatterns]
   cases hk : lookup _ (RawCfg.filePatterns $raw) with
   | some v =>
     simp only [Option.isSome_some, Bool.not_true, Bool.false_eq_true, if_false, if_true,
       ownEntry_listed _ $text $raw v hk]
   | none =>
     simp only [Option.isSome_none, Bool.not_false, Bool.false_eq_true, if_false, if_true]
     exact ownEntry_unlisted _ $text $raw hk $hraw))

end TieP

theorem tie_parseRawConfig (parser : IniDoc) (loaded : Py.TomlFull) (fs : ProjFS) (ctx : GenF.Cfg.ProjectContext)
    (hmain : ∀ items, iniMainSection parser = some items → (items.map Prod.fst).Nodup)
    (hfiles : ((iniFilePatterns parser).map Prod.fst).Nodup) :
    GenF.parseRawConfig parser loaded fs ctx =
      (parseRawConfigE ctx.config_format ctx.config_rel_path (fs ctx.config_filepath) parser (absToml loaded)).map
        embedRaw := by
  unfold GenF.parseRawConfig parseRawConfigE readRawE
  cases hfs : fs ctx.config_filepath with
  | none => rfl
  | some text =>
    simp only [tie_parseToml, tie_parseCfg parser hmain hfiles]
    by_cases h1 : (ctx.config_format == "toml".toList) = true
    · simp only [h1, if_true]
      cases hp : parseTomlPost (absToml loaded) with
      | error e => rfl
      | ok raw =>
        simp only [map_ok, mapError_ok]
        own_entry_rule raw text (parseTomlPost_ok _ raw hp)
    · simp only [h1, Bool.false_eq_true, if_false]
      by_cases h2 : (ctx.config_format == "cfg".toList) = true
      · simp only [h2, if_true]
        cases hp : parseCfgPost parser with
        | error e => rfl
        | ok raw =>
          simp only [map_ok, mapError_ok]
          own_entry_rule raw text (parseCfgPost_ok _ raw hp)
      · simp only [h2, Bool.false_eq_true, if_false]
        rfl

/-- C03 / C18 "always including the config file's own current_version line", on the generated function: when
    `_parse_raw_config` returns a raw dict, the config file (`ctx.config_rel_path`, as written) is a key of its
    `file_patterns`; and when it was not a key of what the reader returned, the entry is the LAST one and its only
    pattern is the file's own `current_version` line with the (stripped) version replaced by the (stripped) pattern. -/
theorem parseRawConfig_own_entry (parser : IniDoc) (loaded : Py.TomlFull) (fs : ProjFS) (ctx : GenF.Cfg.ProjectContext)
    (hmain : ∀ items, iniMainSection parser = some items → (items.map Prod.fst).Nodup)
    (hfiles : ((iniFilePatterns parser).map Prod.fst).Nodup)
    (d : TomlSection) (h : GenF.parseRawConfig parser loaded fs ctx = .ok d) :
    ∃ raw raw' text, fs ctx.config_filepath = some text ∧ d = embedRaw raw' ∧
      readRawE ctx.config_format parser (absToml loaded) = .ok raw ∧
      addSelfPattern ctx.config_rel_path text raw = .ok raw' ∧
      (∃ ps, lookup ctx.config_rel_path raw'.filePatterns = some ps) ∧
      (cfgHasKey ctx.config_rel_path raw.filePatterns = true → raw' = raw) ∧
      (cfgHasKey ctx.config_rel_path raw.filePatterns = false →
        ∃ line cv vp, curVersionLine text = some line ∧
          rawStr "current_version".toList raw.opts = .ok cv ∧ rawStr "version_pattern".toList raw.opts = .ok vp ∧
          raw'.filePatterns = raw.filePatterns ++
            [(ctx.config_rel_path, [pyReplace (stripQuotes cv) (stripQuotes vp) line])]) := by
  rw [tie_parseRawConfig parser loaded fs ctx hmain hfiles] at h
  unfold parseRawConfigE at h
  cases hfs : fs ctx.config_filepath with
  | none => rw [hfs] at h; cases h
  | some text =>
    rw [hfs] at h
    simp only [] at h
    generalize hraw : readRawE ctx.config_format parser (absToml loaded) = r at h
    cases r with
    | error e => cases h
    | ok raw =>
      simp only [] at h
      cases ha : addSelfPattern ctx.config_rel_path text raw with
      | error e => rw [ha] at h; cases h
      | ok raw' =>
        rw [ha] at h
        simp only [Except.mapError, Except.map, Except.ok.injEq] at h
        obtain ⟨hyes, hno⟩ := addSelfPattern_ok _ text raw raw' ha
        exact ⟨raw, raw', text, rfl, h.symm, rfl, ha, addSelfPattern_listed _ text raw raw' ha, hyes, hno⟩

end BV
