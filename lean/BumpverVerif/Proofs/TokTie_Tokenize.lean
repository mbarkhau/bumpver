/-
  Proofs/TokTie_Tokenize.lean — the tree is recoverable from its source text: under the adjacency condition
  the longest-match tokeniser reads `Pat.text p` back as `p` (`tokenize_text`).
-/
import BumpverVerif.Proofs.TokTie_Text
namespace BV

/-! ### table facts -/

/-- the longest-first list is sorted by length (descending) -/
def lenDescOk : List Str → Bool
  | [] => true
  | m :: rest => rest.all (fun n => decide (n.length ≤ m.length)) && lenDescOk rest

/-- the tokeniser's names (`PATTERN_PART_FIELDS`, longest first) are sorted by length and are the scanner's names
    (`PART_PATTERNS`) -/
theorem tbl_longest :
    lenDescOk partNamesLongestFirst = true ∧ partNamesLongestFirst.all (fun n => partNames.contains n) = true ∧
    partNames.all (fun n => partNamesLongestFirst.contains n) = true := by
  decide +kernel

theorem lenDescOk_split (l as bs : List Str) (b : Str) (h : lenDescOk l = true) (hs : l = as ++ b :: bs) :
    ∀ n ∈ bs, n.length ≤ b.length := by
  induction as generalizing l with
  | nil =>
    subst hs
    simp only [List.nil_append, lenDescOk, Bool.and_eq_true, List.all_eq_true, decide_eq_true_eq] at h
    exact h.1
  | cons a as ih =>
    subst hs
    simp only [List.cons_append, lenDescOk, Bool.and_eq_true] at h
    exact ih _ h.2 rfl

theorem firstPartName_none (s : Str) (h : noNameAt s = true) : firstPartName s = none := by
  unfold firstPartName
  rw [List.find?_eq_none]
  intro n hn
  have hn' : n ∈ partNames := by
    have := List.all_eq_true.mp tbl_longest.2.1 n hn
    simpa using this
  have := List.all_eq_true.mp h n hn'
  have h2 : n.isPrefixOf s = false := by simpa using this
  simp only [startsWith, h2]
  decide

theorem firstPartName_token (n k : Str) (hn : n ∈ partNames) (hc : tokenClosed n k = true) :
    firstPartName (n ++ k) = some n := by
  have hne := name_ne_nil hn
  have hnl : n ∈ partNamesLongestFirst := by
    have := List.all_eq_true.mp tbl_longest.2.2 n hn
    simpa using this
  have hpn : startsWith (n ++ k) n = true := by simp [startsWith]
  unfold firstPartName
  cases hf : partNamesLongestFirst.find? (fun m => startsWith (n ++ k) m) with
  | none =>
    rw [List.find?_eq_none] at hf
    exact absurd hpn (hf n hnl)
  | some m =>
    obtain ⟨hpm, as, bs, hl, has⟩ := List.find?_eq_some_iff_append.mp hf
    have hml : m ∈ partNamesLongestFirst := by rw [hl]; simp
    have hm : m ∈ partNames := by
      have := List.all_eq_true.mp tbl_longest.2.1 m hml
      simpa using this
    -- m is not longer than n (tokenClosed at offset 0)
    have h0 : 0 < n.length := List.length_pos_iff.mpr hne
    have hle : m.length ≤ n.length := by
      have := List.all_eq_true.mp (List.all_eq_true.mp hc 0 (List.mem_range.mpr h0)) m hm
      have hpm' : m.isPrefixOf (n ++ k) = true := by simpa [startsWith] using hpm
      simpa [hpm'] using this
    -- n is m or comes later, so it is not longer than m
    have hge : n.length ≤ m.length := by
      rw [hl] at hnl
      rcases List.mem_append.mp hnl with r | r
      · have := has n r
        simp [hpn] at this
      · rcases List.mem_cons.mp r with r | r
        · rw [r]; exact Nat.le_refl _
        · exact lenDescOk_split _ as bs m tbl_longest.1 hl n r
    have hpm' : m.isPrefixOf (n ++ k) = true := by simpa [startsWith] using hpm
    have hpn' : n.isPrefixOf (n ++ k) = true := by simp
    have h1 := List.isPrefixOf_iff_prefix.mp hpm'
    have h2 := List.isPrefixOf_iff_prefix.mp hpn'
    have := (List.prefix_of_prefix_length_le h1 h2 hle).eq_of_length (by omega)
    rw [this]

/-! ### the tokeniser on source text -/

theorem nameChar_head {n : Str} (hn : n ∈ partNames) :
    ∃ c r, n = c :: r ∧ c ≠ ']' ∧ c ≠ '\\' ∧ c ≠ '[' := by
  have hne := name_ne_nil hn
  cases n with
  | nil => exact absurd rfl hne
  | cons c r =>
    obtain ⟨h1, h2, h3⟩ := plainCh_iff.mp (nameChar_not_special (name_chars hn c List.mem_cons_self)).2
    exact ⟨c, r, rfl, h2, h3, h1⟩

theorem tokenizeGo_text (p : Pat) : ∀ (k : Str) (fuel : Nat),
    (k = [] ∨ ∃ k', k = ']' :: k') → p.shapeOk = true → p.safeK k = true →
    (p.text ++ k).length < fuel → tokenizeGo fuel (p.text ++ k) = some (p, k) := by
  induction p with
  | done =>
    intro k fuel hk _ _ hf
    cases fuel with
    | zero => omega
    | succ f =>
      rcases hk with rfl | ⟨k', rfl⟩
      · simp [Pat.text_done, tokenizeGo]
      · simp [Pat.text_done, tokenizeGo]
  | lit c rest ih =>
    intro k fuel hk hsh hs hf
    simp only [Pat.shapeOk, Bool.and_eq_true] at hsh
    simp only [Pat.safeK, Bool.and_eq_true] at hs
    cases fuel with
    | zero => omega
    | succ f =>
      simp only [Pat.text_lit, List.append_assoc] at hf ⊢
      have hbs : c ≠ '\\' := litOk_ne_bs hsh.1
      by_cases h1 : c = '['
      · subst h1
        have e : litText '[' = ['\\', '['] := by decide
        rw [e] at hf ⊢
        simp only [List.cons_append, List.nil_append, List.length_cons] at hf ⊢
        have := ih k f hk hsh.2 hs.2 (by omega)
        have e1 : ('\\' == ']') = false := by decide
        simp [tokenizeGo, e1, this]
      · by_cases h2 : c = ']'
        · subst h2
          have e : litText ']' = ['\\', ']'] := by decide
          rw [e] at hf ⊢
          simp only [List.cons_append, List.nil_append, List.length_cons] at hf ⊢
          have := ih k f hk hsh.2 hs.2 (by omega)
          have e1 : ('\\' == ']') = false := by decide
          simp [tokenizeGo, e1, this]
        · have e : litText c = [c] := by simp [litText, h1, h2]
          rw [e] at hf ⊢
          simp only [List.cons_append, List.nil_append, List.length_cons] at hf ⊢
          have := ih k f hk hsh.2 hs.2 (by omega)
          have hfn := firstPartName_none _ hs.1
          have e1 : (c == ']') = false := by simpa using h2
          have e2 : (c == '\\') = false := by simpa using hbs
          have e3 : (c == '[') = false := by simpa using h1
          simp [tokenizeGo, e1, e2, e3, hfn, this]
  | part n rest ih =>
    intro k fuel hk hsh hs hf
    simp only [Pat.shapeOk, Bool.and_eq_true] at hsh
    simp only [Pat.safeK, Bool.and_eq_true] at hs
    have hn := mem_partNames_of_lookup hsh.1.1
    cases fuel with
    | zero => omega
    | succ f =>
      simp only [Pat.text_part, List.append_assoc] at hf ⊢
      have hfp := firstPartName_token n _ hn hs.1
      obtain ⟨c, r, hcr, c1, c2, c3⟩ := nameChar_head hn
      have h0 : 0 < n.length := by rw [hcr]; simp
      have := ih k f hk hsh.2 hs.2 (by simp only [List.length_append] at hf ⊢; omega)
      have e1 : (c == ']') = false := by simpa using c1
      have e2 : (c == '\\') = false := by simpa using c2
      have e3 : (c == '[') = false := by simpa using c3
      have hdrop : (n ++ (rest.text ++ k)).drop n.length = rest.text ++ k := by simp
      subst hcr
      simp only [List.cons_append] at hfp hdrop ⊢
      simp only [tokenizeGo, e1, e2, e3, Bool.false_eq_true, if_false, hfp]
      rw [hdrop, this]
      rfl
  | opt body rest ihb ihr =>
    intro k fuel hk hsh hs hf
    simp only [Pat.shapeOk, Bool.and_eq_true] at hsh
    simp only [Pat.safeK, Bool.and_eq_true] at hs
    cases fuel with
    | zero => omega
    | succ f =>
      simp only [Pat.text_opt, List.cons_append, List.append_assoc, List.length_cons, List.length_append] at hf ⊢
      have hb := ihb (']' :: (rest.text ++ k)) f (Or.inr ⟨_, rfl⟩) hsh.1.2 hs.1
        (by simp only [List.length_append, List.length_cons]; omega)
      have hr := ihr k f hk hsh.2 hs.2 (by simp only [List.length_append]; omega)
      have e1 : ('[' == ']') = false := by decide
      have e2 : ('[' == '\\') = false := by decide
      simp [tokenizeGo, e1, e2, hb, hr]

/-- THE TREE IS RECOVERABLE FROM ITS TEXT -/
theorem tokenize_text (p : Pat) (h : tokSafe p = true) : tokenize p.text = some p := by
  simp only [tokSafe, Bool.and_eq_true] at h
  have := tokenizeGo_text p [] (p.text.length + 1) (Or.inl rfl) h.1.1.1 h.1.1.2 (by simp)
  rw [List.append_nil] at this
  simp [tokenize, this]

end BV
