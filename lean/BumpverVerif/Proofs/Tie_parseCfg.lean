/-
  Proofs/Tie_parseCfg.lean — the definition GENERATED from the Python source of `config._parse_cfg`
  (Gen/F_parseCfg.lean) equals the hand model `BV.parseCfgPost` (the part of `_parse_cfg` after
  `cfg_parser.read_file`) on every parser state `IniDoc`.

  The parser itself stays a parameter: `cfg_parser` is the `_ConfigParser` after `read_file`, seen
  through `has_section` / `items` = the hand model's `IniDoc`.

  Hypotheses (both hold for every `IniDoc` configparser can produce — it is strict, a duplicate
  option is a parse error — and are what the hand model's comment on `IniDoc` assumes):
  * `hmain`  : the option names of the main section are distinct, so `dict(cfg_parser.items(...))`
               is the item list itself;
  * `hfiles` : the file names of the file_patterns section are distinct, so
               `dict(_parse_cfg_file_patterns(cfg_parser))` is the list of yielded pairs.
  Without them Python's `dict(...)` keeps the LAST value of a repeated key at the FIRST position,
  the hand model keeps both entries and `lookup` finds the first.

  Result abstraction: `embedRaw` (the Python dict has the key 'file_patterns').
-/
import BumpverVerif.Gen.F_parseCfg
import BumpverVerif.Proofs.Tie_setRawConfigDefaults
import BumpverVerif.Proofs.Tie_parseCfgFilePatterns
set_option linter.unusedSimpArgs false
namespace BV
open TieH

theorem tie_parseCfg (d : IniDoc)
    (hmain : ∀ items, iniMainSection d = some items → (items.map Prod.fst).Nodup)
    (hfiles : ((iniFilePatterns d).map Prod.fst).Nodup) :
    GenF.parseCfg d = ((parseCfgPost d).mapError CfgErr.pyClass).map embedRaw := by
  unfold GenF.parseCfg parseCfgPost
  simp only [tie_parseCfgFilePatterns, tie_setRawConfigDefaults, pyDict_nodup _ hfiles]
  -- the main section: [pycalver] first, then [bumpver]
  generalize hsel : @ite (Except Str TomlSection) ((lookup "pycalver".toList d.sections).isSome = true) _ _ _ = sel
  have hs : sel = match iniMainSection d with
      | none => .error "ValueError".toList
      | some items => .ok { opts := items.map (fun kv => (kv.1, RawVal.str kv.2)), filePatterns := none } := by
    have hm : ∀ items, iniMainSection d = some items → Py.pyDict items = items :=
      fun items h => pyDict_nodup items (hmain items h)
    subst hsel
    unfold iniMainSection at hm ⊢
    rcases h1 : lookup "pycalver".toList d.sections with _ | items <;>
      simp only [h1, Option.isSome_none, Option.isSome_some, Bool.false_eq_true, if_true, if_false] at hm ⊢
    · rcases h2 : lookup "bumpver".toList d.sections with _ | items <;>
        simp only [h2, Option.isSome_none, Option.isSome_some, Bool.false_eq_true, if_true, if_false] at hm ⊢
      rw [hm items rfl]
    · rw [hm items rfl]
  subst hs
  rcases iniMainSection d with _ | items
  · rfl
  -- the BOOL_OPTIONS loop (`val.lower() in ("yes", "true", "1", "on")` against `Gen.trueSpellings`) and
  -- `_set_raw_config_defaults`
  simp only []
  rw [foldl_congr (g := fun st od => { st with opts := iniBoolStep st.opts od })]
  · rw [foldl_list_eq _ _ _ Gen.boolOptions (by decide), foldl_opts]
    simp only [iniBoolLoop]
    generalize setRawConfigDefaults _ = r
    rcases r with e | ⟨⟩ <;> rfl
  · intro st od
    unfold iniBoolStep
    generalize (lookup od.fst st.opts).getD (boolDefault od.snd) = v
    cases v <;> simp only [iniBoolConv] <;> rw [elem_list_eq _ _ Gen.trueSpellings (by decide)]

end BV
