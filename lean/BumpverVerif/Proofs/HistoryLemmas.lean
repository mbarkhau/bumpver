/-
  Proofs/HistoryLemmas.lean — helper lemmas about Model/History.lean (property C08): in a consistent
  project the start version is the config value; one step (`hstep_cases`) fails and changes nothing or
  writes an accepted, strictly greater candidate; consistency is kept and the config value never decreases.
-/
import BumpverVerif.Model.History
import BumpverVerif.Proofs.CliLemmas
namespace BV

/- `whnf` must never run into the regex compiler or the increment pipeline. -/
attribute [local irreducible] parseVersionInfo incr

/-- a string that parses is a valid version of the pattern -/
theorem isValid_of_parse {s pat : Str} {today : Nat × Nat × Nat} {v : VInfo}
    (h : parseVersionInfo s pat today = .ok v) : isValid s pat today = .ok true := by
  unfold isValid
  rw [h]

attribute [local irreducible] isValid

/-- when every tag is valid, the filter keeps all of them -/
theorem parseVersionTags_all_valid (pat : Str) (today : Nat × Nat × Nat) (tags : List Str)
    (h : ∀ t ∈ tags, isValid t pat today = .ok true) :
    parseVersionTags pat today tags = .ok tags := by
  induction tags with
  | nil => exact parseVersionTags_nil pat today
  | cons t ts ih =>
    rw [parseVersionTags_cons, h t (by simp), ih (fun u hu => h u (by simp [hu]))]
    rfl

theorem Consistent.tags_ok {pat : Str} {today : Nat × Nat × Nat} {s : HState}
    (hc : Consistent pat today s) : parseVersionTags pat today s.tags = .ok s.tags :=
  parseVersionTags_all_valid pat today s.tags (fun t ht => (hc.2 t ht).1)

/-- in a consistent project the start version is the config value -/
theorem startVersion_consistent {pat : Str} {today : Nat × Nat × Nat} {s : HState}
    (hc : Consistent pat today s) :
    startVersion .default pat s.cfg today s.tags = .ok s.cfg := by
  rw [startVersion_of_tags hc.tags_ok]
  cases hl : latestOf s.tags with
  | none => rfl
  | some t =>
    have hmem := (latestOf_max s.tags t hl).1
    have hle := (hc.2 t hmem).2
    simp only [hle, if_true]

theorem hstep_cases (pat : Str) (today : Nat × Nat × Nat) (s : HState) (op : HOp) :
    hstep pat today s op = (s, false) ∨
    ∃ start new, startVersion .default pat s.cfg today s.tags = .ok start ∧
      op.candidate = some new ∧ gate pat start new false [] today = .ok .accept ∧
      hstep pat today s op =
        ({ cfg := new, tags := if op.commit && op.tag then new :: s.tags else s.tags }, true) := by
  unfold hstep
  cases hsv : startVersion .default pat s.cfg today s.tags with
  | error e => exact .inl rfl
  | ok start =>
    dsimp only
    cases hcand : op.candidate with
    | none => exact .inl rfl
    | some new =>
      dsimp only
      cases hg : gate pat start new false [] today with
      | error e => exact .inl rfl
      | ok v =>
        cases v with
        | accept => exact .inr ⟨start, new, rfl, rfl, hg, rfl⟩
        | _ => exact .inl rfl

/-- a failed step leaves the state unchanged -/
theorem hstep_fail {pat : Str} {today : Nat × Nat × Nat} {s : HState} {op : HOp}
    (hfail : (hstep pat today s op).2 = false) : (hstep pat today s op).1 = s := by
  rcases hstep_cases pat today s op with h | ⟨_, _, _, _, _, h⟩ <;> rw [h] at hfail ⊢
  cases hfail

/-- inversion of a successful step in a consistent project: the gate ran against the config value -/
theorem hstep_ok_consistent {pat : Str} {today : Nat × Nat × Nat} {s : HState} {op : HOp}
    (hc : Consistent pat today s) (hok : (hstep pat today s op).2 = true) :
    ∃ new, op.candidate = some new ∧ isValid new pat today = .ok true ∧ pepLt s.cfg new = true ∧
      (hstep pat today s op).1 =
        { cfg := new, tags := if op.commit && op.tag then new :: s.tags else s.tags } := by
  rcases hstep_cases pat today s op with h | ⟨start, new, hsv, hcand, hg, hst⟩
  · rw [h] at hok; cases hok
  rw [startVersion_consistent hc] at hsv
  cases hsv
  obtain ⟨⟨v, hv⟩, hle, -⟩ := gate_accept hg
  exact ⟨new, hcand, isValid_of_parse hv, pepLt_of_not_le hle, by rw [hst]⟩

/-- consistency is preserved by every step -/
theorem hstep_consistent {pat : Str} {today : Nat × Nat × Nat} {s : HState} {op : HOp}
    (hc : Consistent pat today s) : Consistent pat today (hstep pat today s op).1 := by
  cases hok : (hstep pat today s op).2 with
  | false => rw [hstep_fail hok]; exact hc
  | true =>
    obtain ⟨new, -, hval, hlt, hst⟩ := hstep_ok_consistent hc hok
    rw [hst]
    refine ⟨hval, fun t ht => ?_⟩
    have hold : ∀ u ∈ s.tags, isValid u pat today = .ok true ∧ pepLe u new = true :=
      fun u hu => ⟨(hc.2 u hu).1, pepLe_trans (hc.2 u hu).2 (pepLe_of_lt hlt)⟩
    simp only at ht
    split at ht
    · rcases List.mem_cons.1 ht with rfl | ht
      · exact ⟨hval, pepLe_refl _⟩
      · exact hold t ht
    · exact hold t ht

/-- the newest of `new :: tags` is `new` when every old tag is below `new` -/
theorem latestOf_cons_of_le (new : Str) (tags : List Str)
    (h : ∀ u ∈ tags, pepLe u new = true) : latestOf (new :: tags) = some new := by
  simp only [latestOf]
  cases hl : latestOf tags with
  | none => rfl
  | some u =>
    have hmem := (latestOf_max tags u hl).1
    have hle := h u hmem
    cases hlt : pepLt new u with
    | false => simp [hlt]
    | true =>
      have := pepLe_false_of_lt hlt
      rw [hle] at this
      cases this

/-- a step never decreases the config value -/
theorem hstep_mono {pat : Str} {today : Nat × Nat × Nat} {s : HState} {op : HOp}
    (hc : Consistent pat today s) : pepLe s.cfg (hstep pat today s op).1.cfg = true := by
  cases hok : (hstep pat today s op).2 with
  | false => rw [hstep_fail hok]; exact pepLe_refl _
  | true =>
    obtain ⟨new, -, -, hlt, hst⟩ := hstep_ok_consistent hc hok
    rw [hst]
    exact pepLe_of_lt hlt

/-- a valid greater candidate is accepted against the config value -/
theorem gate_accept_of {pat old new : Str} {today : Nat × Nat × Nat} {v : VInfo}
    (hv : parseVersionInfo new pat today = .ok v) (hg : pepLt old new = true) :
    gate pat old new false [] today = .ok .accept := by
  unfold gate
  rw [hv]
  simp [pepLe_false_of_lt hg]

end BV
