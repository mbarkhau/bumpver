/-
  Proofs/Tie_rewriteLines.lean — the definition GENERATED from the Python source of
  `v2rewrite.rewrite_lines` (Gen/F_rewriteLines.lean) equals the hand model `BV.rewriteLines` on the
  abstracted patterns, for every list of well-formed patterns, every version record and every list of lines.

  What the tie of `v1rewrite.rewrite_lines` (Tie_v1RewriteLines) needs as well is stated for every engine
  (namespace `TieM`): the splice loop is `E.applyMatches`, and both ways of writing the final test
  (`set(patterns) == found_patterns`, `set(patterns) - found_patterns` empty) are the model's test.
-/
import BumpverVerif.Gen.F_rewriteLines
import BumpverVerif.Proofs.Tie_iterMatches
set_option linter.unusedSimpArgs false
namespace BV

open GenF (PatternMatch Pattern)

namespace TieM

/-! ### the splice loop of `rewrite_lines` for every engine -/

theorem pyForE_applyMatches {V : Type} (E : RwEngine V) (v : V)
    (body : PatternMatch → List Pattern × List Str → Except RwErr (List Pattern × List Str))
    (hb : ∀ m found ls, m.lineno < ls.length → body m (found, ls) =
      match E.render v m.abs.pat with
      | .error e => .error (.crash e)
      | .ok repl => .ok (GenF.pySetAdd found m.pattern,
          setLine ls m.lineno ((ls.getD m.lineno []).take m.abs.start ++ repl ++ (ls.getD m.lineno []).drop m.abs.stop)))
    (l : List PatternMatch) (found : List Pattern) (ls : List Str) (hl : ∀ m ∈ l, m.lineno < ls.length) :
    GenF.pyForE l body (found, ls) =
      match E.applyMatches v (l.map PatternMatch.abs) ls with
      | .error e => .error e
      | .ok new => .ok (l.foldl (fun s m => GenF.pySetAdd s m.pattern) found, new) := by
  induction l generalizing found ls with
  | nil => rfl
  | cons m l ih =>
    rw [GenF.pyForE_cons, hb m found ls (hl m List.mem_cons_self)]
    simp only [List.map_cons, RwEngine.applyMatches, List.foldl_cons]
    have e1 : m.abs.lineno = m.lineno := rfl
    rw [e1]
    cases E.render v m.abs.pat with
    | error e => rfl
    | ok repl =>
      simp only
      apply ih
      intro m' hm'
      rw [setLine_eq_set, List.length_set]
      exact hl m' (List.mem_cons_of_mem _ hm')

/-! ### the final test of `rewrite_lines`, in the two ways the two files write it -/

/-- the patterns found = the patterns of the yielded matches -/
theorem mem_found (sorted : List PatternMatch) (x : Pattern) :
    x ∈ List.foldl (fun s m => GenF.pySetAdd s m.pattern) GenF.pySetEmpty sorted ↔ ∃ m ∈ sorted, m.pattern = x := by
  rw [GenF.mem_foldl_pySetAdd]
  simp [GenF.pySetEmpty]

/-- "every configured pattern has a match", on the Python objects and on the abstraction -/
theorem allFound_iff (patterns : List Pattern) (hinj : ∀ p ∈ patterns, ∀ q ∈ patterns, p.abs = q.abs → p = q)
    (gen sorted : List PatternMatch) (hmem : ∀ m, m ∈ sorted ↔ m ∈ gen) (hpat : ∀ m ∈ gen, m.pattern ∈ patterns) :
    (∀ p ∈ patterns, ∃ m ∈ sorted, m.pattern = p) ↔
      (patterns.map Pattern.abs).all (fun p => (gen.map PatternMatch.abs).any (fun m => m.pat == p)) = true := by
  simp only [List.all_eq_true, List.mem_map, List.any_eq_true, beq_iff_eq]
  constructor
  · rintro h _ ⟨p, hp, rfl⟩
    obtain ⟨b, hb, e⟩ := h p hp
    exact ⟨b.abs, ⟨b, (hmem b).1 hb, rfl⟩, by rw [← e]; rfl⟩
  · intro h p hp
    obtain ⟨_, ⟨m, hm, rfl⟩, e⟩ := h p.abs ⟨p, hp, rfl⟩
    exact ⟨m, (hmem m).2 hm, hinj _ (hpat m hm) _ hp e⟩

/-- `set(patterns) - found_patterns` is empty iff the model's test holds -/
theorem foundDiff_agree (patterns : List Pattern) (hinj : ∀ p ∈ patterns, ∀ q ∈ patterns, p.abs = q.abs → p = q)
    (gen sorted : List PatternMatch) (hmem : ∀ m, m ∈ sorted ↔ m ∈ gen) (hpat : ∀ m ∈ gen, m.pattern ∈ patterns) :
    (GenF.pySetDiff (GenF.pySetOfList patterns)
        (List.foldl (fun s m => GenF.pySetAdd s m.pattern) GenF.pySetEmpty sorted)).isEmpty
      = (patterns.map Pattern.abs).all (fun p => (gen.map PatternMatch.abs).any (fun m => m.pat == p)) := by
  rw [Bool.eq_iff_iff, ← allFound_iff patterns hinj gen sorted hmem hpat]
  simp only [GenF.pySetDiff, List.isEmpty_iff, List.filter_eq_nil_iff, GenF.mem_pySetOfList,
    Bool.not_eq_true', Bool.not_eq_false, List.contains_iff_mem, Bool.not_eq_eq_eq_not, Bool.not_true,
    mem_found, Bool.not_eq_false']

/-- `set(patterns) == found_patterns` iff the model's test holds -/
theorem foundEq_agree (patterns : List Pattern) (hinj : ∀ p ∈ patterns, ∀ q ∈ patterns, p.abs = q.abs → p = q)
    (gen sorted : List PatternMatch) (hmem : ∀ m, m ∈ sorted ↔ m ∈ gen) (hpat : ∀ m ∈ gen, m.pattern ∈ patterns) :
    GenF.pySetEq (GenF.pySetOfList patterns)
        (List.foldl (fun s m => GenF.pySetAdd s m.pattern) GenF.pySetEmpty sorted)
      = (patterns.map Pattern.abs).all (fun p => (gen.map PatternMatch.abs).any (fun m => m.pat == p)) := by
  rw [Bool.eq_iff_iff, ← allFound_iff patterns hinj gen sorted hmem hpat, GenF.pySetEq_iff]
  simp only [GenF.mem_pySetOfList, mem_found]
  constructor
  · intro h p hp
    exact (h p).1 hp
  · intro h x
    constructor
    · exact h x
    · rintro ⟨b, hb, rfl⟩
      exact hpat b ((hmem b).1 hb)

end TieM

/-- the loop of `v2rewrite.rewrite_lines` -/
theorem pyForE_applyMatches (v : VInfo)
    (body : PatternMatch → List Pattern × List Str → Except RwErr (List Pattern × List Str))
    (hb : ∀ m found ls, m.lineno < ls.length → body m (found, ls) =
      match formatVersion v (normalizePattern m.abs.pat.vp m.abs.pat.raw) with
      | .error e => .error (.crash e)
      | .ok repl => .ok (GenF.pySetAdd found m.pattern,
          setLine ls m.lineno ((ls.getD m.lineno []).take m.abs.start ++ repl ++ (ls.getD m.lineno []).drop m.abs.stop)))
    (l : List PatternMatch) (found : List Pattern) (ls : List Str) (hl : ∀ m ∈ l, m.lineno < ls.length) :
    GenF.pyForE l body (found, ls) =
      match applyMatches v (l.map PatternMatch.abs) ls with
      | .error e => .error e
      | .ok new => .ok (l.foldl (fun s m => GenF.pySetAdd s m.pattern) found, new) := by
  rw [← v2Engine_applyMatches]
  exact TieM.pyForE_applyMatches v2Engine v body
    (fun m found ls h => (hb m found ls h).trans (by rw [v2Engine_render])) l found ls hl

/-- matches that neither overlap nor touch and are non-empty have different sort keys, so Python's
    `not (key y < key x)` (stable sort) and the model's strict test agree -/
theorem sortKey_agree (x y : PatternMatch) (hd : Disj x.abs y.abs) (hx : x.abs.start < x.abs.stop)
    (hy : y.abs.start < y.abs.stop) :
    (!(decide (y.lineno < x.lineno) || (y.lineno == x.lineno && decide (-Int.ofNat y.span.1 < -Int.ofNat x.span.1))))
      = mltB x.abs y.abs := by
  simp only [Disj, PatternMatch.abs] at hd hx hy
  show _ = (decide (x.lineno < y.lineno) || (x.lineno == y.lineno && decide (x.span.1 > y.span.1)))
  rw [Bool.eq_iff_iff]
  simp
  omega

theorem tie_rewriteLines (patterns : List Pattern) (new_vinfo : VInfo) (old_lines : List Str)
    (hwf : ∀ p ∈ patterns, p.Wf) :
    GenF.rewriteLines patterns new_vinfo old_lines = rewriteLines (patterns.map Pattern.abs) new_vinfo old_lines := by
  have hms := tie_iterMatches old_lines patterns hwf
  obtain ⟨hdisj, hfacts⟩ := v2Engine.iterMatches_facts old_lines _ _ ((v2Engine_iterMatches _ _).trans hms)
  have hinj : ∀ p ∈ patterns, ∀ q ∈ patterns, p.abs = q.abs → p = q :=
    fun p hp q hq h => GenF.Pattern.abs_inj (hwf p hp) (hwf q hq) h
  unfold GenF.rewriteLines rewriteLines
  rw [hms]
  simp only []
  -- the loop: inside the list `xs[i]` / `xs[i] = v` cannot raise
  rw [pyForE_applyMatches new_vinfo _ ?hb _ _ _ ?hl]
  case hb =>
    intro m found ls hlt
    simp only [GenF.pyGetItem_lt ls m.lineno [] hlt, GenF.pySetItem_lt _ _ _ hlt, setLine_eq_set,
      PatternMatch.abs, Pattern.abs]
    cases formatVersion new_vinfo (normalizePattern m.pattern.version_pattern m.pattern.raw_pattern) <;> rfl
  case hl =>
    intro m hm
    unfold GenF.pySortedBy at hm
    rw [GenF.mem_foldr_pyInsertBy] at hm
    obtain ⟨-, -, line, h, -⟩ := hfacts m.abs (List.mem_map_of_mem hm)
    exact (List.getElem?_eq_some_iff.1 h).1
  -- the sort
  unfold GenF.pySortedBy
  rw [GenF.map_pySorted _ _ ?hp]
  case hp =>
    rw [List.pairwise_map] at hdisj
    refine hdisj.imp_of_mem ?_
    intro a b ha hb hd
    exact sortKey_agree a b hd (hfacts a.abs (List.mem_map_of_mem ha)).2.1 (hfacts b.abs (List.mem_map_of_mem hb)).2.1
  -- the final check
  cases applyMatches new_vinfo (sortMatches (List.map PatternMatch.abs (GenF.iterMatches old_lines patterns))) old_lines with
  | error e => rfl
  | ok new =>
    simp only
    have h1 := fun le => TieM.foundEq_agree patterns hinj (GenF.iterMatches old_lines patterns)
      ((GenF.iterMatches old_lines patterns).foldr (GenF.pyInsertBy le) [])
      (fun m => GenF.mem_foldr_pyInsertBy le m _) (iterMatches_pattern_mem old_lines patterns)
    have h2 := fun le => (GenF.pySetEq_comm _ _).trans (h1 le)
    simp only [h1, h2]
    try (cases ((patterns.map Pattern.abs).all fun p =>
      (List.map PatternMatch.abs (GenF.iterMatches old_lines patterns)).any fun m => m.pat == p) <;> simp)

end BV
