/-
  Proofs/Tie_cmdTestAny.lean — the GENERATED `cli.test` (Gen/F_cmdTest.lean) for ANY pattern, new-style or legacy:

    tie_cmdTest_any    (echoed lines, ending) of the translated command = `resultView (testRef …)`, where `TieL.testRef`
                       (Proofs/Tie_cmdTest.lean) is `bumpver test` written by hand over BOTH engines: `incr_dispatch` picks
                       the engine by `hasV1Part`, `_normalize_set_version` and the gate pick it by `isNewPattern`.
                       The proof is `TieL.cmdTest_ref` of Proofs/Tie_cmdTest.lean, of which `tie_cmdTest` is the
                       new-style instance (`TieL.testRef_new`).
    dispatchCliTest_eq_testCoreAny   without `--set-version`, the reference collapses to the hand model `dispatchCliTest`
                       (Model/V1.lean, the model of C20)

  FINDING (reported): WITH `--set-version`, `dispatchCliTest` takes the text as it is (`| some v => .new v`); the code
  normalises it through the pattern — through the LEGACY engine for a pattern with braces
  (`tie_normalizeSetVersion_legacy`).  Witness on the real CLI: `bumpver test 1.0.0 '{semver}' --set-version 1.02.3`
  announces `1.2.3`, `dispatchCliTest` announces `1.02.3`.  `testRef` is the repaired reading.
-/
import BumpverVerif.Proofs.Tie_cmdTest
namespace BV
open TieL

attribute [local irreducible] isValid parseVersionInfo incr v1IsValid v1ParseVersionInfo v1Incr formatVersion
  v1FormatVersion normalizeSetVersion v1NormalizeSetVersion gate v1Gate

theorem tie_cmdTest_any {DateTime : Type} (today : Date) (strptime : Str → Str → Option DateTime)
    (dateOf : DateTime → Date) (vg verbose : Int) (old pat : Str) (fl : IncrFlags) (date setVersion : Option Str)
    (hverb : pyMaxInt vg verbose ≠ 0 → CompilesForLog pat)
    (ce : CmdEnv) (s0 : CState) (hout : s0.out = []) :
    let r := GenL.test today strptime dateOf vg old pat verbose fl.major fl.minor fl.patch fl.tag fl.tagNum
      fl.pinIncrements fl.pinDate date setVersion ce s0
    r.1.p = s0.p ∧
    (r.1.out.reverse, ending r.2) = resultView (testRef strptime dateOf old pat fl date today setVersion) :=
  cmdTest_ref today strptime dateOf vg verbose old pat fl date setVersion hverb ce s0 hout

/-- `TestResult` with the exception collapsed the way `TestOutcome` (Model/V1.lean) does -/
def TieL.collapseResult : TestResult → TestOutcome
  | .announce n p => .announce n p
  | .exit1 => .exit1
  | .crash (.v1 .unsupported) => .unsupported
  | .crash (.v2 .unsupported) => .unsupported
  | .crash _ => .crash

/-- WITHOUT `--set-version` the reference collapses to the hand model of C20, `dispatchCliTest` — for every pattern.
    (WITH `--set-version` the two differ: see the header.) -/
theorem TieL.dispatchCliTest_eq_testCoreAny (old pat : Str) (fl : IncrFlags) (dg : Bool) (date today : Date)
    (hrt : validReleaseTag fl.tag = true) (hvf : validFlags pat fl = true) (hd : (dg && fl.pinDate) = false) :
    dispatchCliTest old pat fl dg date today none = collapseResult (testCoreAny old pat fl date today none) := by
  -- `IncrResult` is `Except Exc` with the exception collapsed, for the candidate and for the gate alike
  have hI : dispatchIncr old pat fl date today = collapseIncr (dispatchIncrExc old pat fl date today) := by
    rw [dispatchIncr_eq_generated today date, tie_incrDispatch]; rfl
  have hG : ∀ nv, dispatchGate pat old nv today = (match dispatchGateExc pat old nv today with
      | .ok .accept => .new nv
      | .ok _ => .noChange
      | .error (.v1 .unsupported) => .unsupported
      | .error (.v2 .unsupported) => .unsupported
      | .error _ => .crash) := by
    intro nv
    unfold dispatchGate dispatchGateExc
    cases isNewPattern pat
    · cases v1Gate pat old nv false [] with
      | error e => cases e <;> rfl
      | ok v => cases v <;> rfl
    · cases gate pat old nv false [] today with
      | error e => cases e <;> rfl
      | ok v => cases v <;> rfl
  unfold dispatchCliTest testCoreAny
  simp only [hrt, hvf, hd, Bool.not_true, Bool.false_eq_true, if_false, hI, hG]
  cases dispatchIncrExc old pat fl date today with
  | error e => cases e <;> first | rfl | (rename_i e'; cases e' <;> rfl)
  | ok o =>
    cases o with
    | none => rfl
    | some nv =>
      simp only [collapseIncr]
      cases dispatchGateExc pat old nv today with
      | error e => cases e <;> first | rfl | (rename_i e'; cases e' <;> rfl)
      | ok v => cases v <;> rfl

end BV
