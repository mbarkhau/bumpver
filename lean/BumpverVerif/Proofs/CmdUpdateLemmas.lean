/-
  Proofs/CmdUpdateLemmas.lean — definitions and lemmas for the tie of the command `cli.update`
  (Proofs/Tie_cmdUpdate.lean): the command line as a record (`UpdArgs`), the input of the composed model that a run
  corresponds to (`updInOf`), `get_tags` in one equation (`getTags_full`), and the bridge between the copies of
  `config.Config` that the translator modules generate.
-/
import BumpverVerif.Gen.F_cmdUpdate
import BumpverVerif.Proofs.Tie_cmdNormalizeSetVersion
import BumpverVerif.Proofs.Tie_cmdIsValidVersion
import BumpverVerif.Proofs.Tie_cmdUpdateCfgFromVcs
import BumpverVerif.Proofs.Tie_cmdTest
import BumpverVerif.Proofs.Tie_parseVcsOptions
import BumpverVerif.Proofs.Tie_cliUpdate
import BumpverVerif.Props.Update
-- simp lists here name the lemmas for every spelling the translator can emit; the current text does not need all
set_option linter.unusedSimpArgs false
namespace BV
namespace TieL

/-- the command line of `bumpver update` -/
structure UpdArgs where
  dry : Bool
  allow_dirty : Bool
  ignore_vcs_tag : Bool
  fetch : Bool
  verbose : Int
  fl : IncrFlags
  date : Option Str
  set_version : Option Str
  commit_message : Option Str
  tag_message : Option Str
  commit : Option Bool
  tag_commit : Option Bool
  push : Option Bool
  tag_scope : Option Str
  pre_commit_hook : Option Str
  post_commit_hook : Option Str

/-- the GENERATED `cli.update` applied to a command line -/
def runUpdate {α DateTime Ctx : Type} (today : Date) (strptime : Str → Str → Option DateTime)
    (dateOf : DateTime → Date) (subT : Str → Str) (vg : Int) (ci : Ctx × Option (GenE.Config α))
    (files : List Str) (A : UpdArgs) : Cmd Unit :=
  GenL.update today strptime dateOf subT vg ci files A.dry A.allow_dirty A.ignore_vcs_tag A.fetch A.verbose
    A.fl.major A.fl.minor A.fl.patch A.fl.tag A.fl.tagNum A.fl.pinIncrements A.fl.pinDate A.date A.set_version
    A.commit_message A.tag_message A.commit A.tag_commit A.push A.tag_scope A.pre_commit_hook A.post_commit_hook

/-- what the plan model keeps of the command line -/
def planCliOf (A : UpdArgs) : PlanCli :=
  absCli A.commit A.tag_commit A.push A.tag_scope A.pre_commit_hook A.post_commit_hook
    { commit := none, tagCommit := none, push := none, preHook := false, postHook := false, scopeBranch := none,
      dry := A.dry, fetch := A.fetch, ignoreVcsTag := A.ignore_vcs_tag, setVersion := A.set_version.isSome }

/-- the tag scope in force: `--tag-scope` when given (click guarantees a member value), else the configured one -/
def scopeE {α : Type} (A : UpdArgs) (cfg0 : GenE.Config α) : GenE.TagScope :=
  match A.tag_scope with
  | none => cfg0.tag_scope
  | some s => (GenE.TagScope.ofValue s).getD cfg0.tag_scope

/-- the tag listing a `get_tags(…, scope)` call returns in state `p`: `[]` without a usable VCS -/
def tagsServed (e : EffEnv) (scope : GenE.TagScope) (p : PState) : List Str :=
  if (isUsable e.plan p).2 then tagsOf (e.output (if scope == .BRANCH then "ls_tags_branch" else "ls_tags")) else []

/-- the input of the composed model `updateFull` that a run of the translated command corresponds to.
    `tme`, `fs`, `fps` are what the translation abstracts: is the rendered tag message empty, the project files, the
    compiled file patterns. -/
def updInOf {α : Type} (A : UpdArgs) (cfg0 : GenE.Config α) (e : EffEnv) (today date : Date) (dateGiven : Bool)
    (tme : Bool) (fs : FS) (fps : List (Str × List CPat)) : UpdIn :=
  { c0 := absCfg tme (GenL.cfgToF cfg0)
    a := planCliOf A
    scope0 := absScopeE cfg0.tag_scope
    cliScope := A.tag_scope.bind (fun s => (GenE.TagScope.ofValue s).map absScopeE)
    kind := e.plan.kind
    vcsPresent := e.plan.vcsPresent
    failAt := e.plan.failAt
    branchRemote := e.plan.branchRemote
    urlRemote := e.plan.urlRemote
    preOk := e.plan.preOk
    postOk := e.plan.postOk
    pat := cfg0.version_pattern
    cfgVersion := cfg0.current_version
    fl := A.fl
    dateGiven := dateGiven
    date := date
    today := today
    setVersion := A.set_version
    scopeTags := tagsOf (e.output (if scopeE A cfg0 == .BRANCH then "ls_tags_branch" else "ls_tags"))
    globalTags := tagsOf (e.output "ls_tags")
    statusLines := pySplitlines (e.output "status")
    allowDirty := A.allow_dirty
    fs := fs
    filePatterns := fps }

theorem updInOf_fields {α : Type} {A : UpdArgs} {cfg0 : GenE.Config α} {e : EffEnv} {today date : Date} {dg tme : Bool}
    {fs : FS} {fps : List (Str × List CPat)} {u : UpdIn} (h : u = updInOf A cfg0 e today date dg tme fs fps) :
    u.c0 = absCfg tme (GenL.cfgToF cfg0) ∧ u.a = planCliOf A ∧ u.a.ignoreVcsTag = A.ignore_vcs_tag ∧ u.a.dry = A.dry ∧
    u.pat = cfg0.version_pattern ∧ u.cfgVersion = cfg0.current_version ∧ u.fl = A.fl ∧ u.dateGiven = dg ∧
    u.date = date ∧ u.today = today ∧ u.setVersion = A.set_version ∧ u.globalTags = tagsOf (e.output "ls_tags") ∧
    u.statusLines = pySplitlines (e.output "status") ∧ u.allowDirty = A.allow_dirty := by
  subst h
  exact ⟨rfl, rfl, rfl, rfl, rfl, rfl, rfl, rfl, rfl, rfl, rfl, rfl, rfl, rfl⟩

/-- how the `--date` text was read (`_validate_date`): absent = today; otherwise what `strptime` parsed -/
def DateReading {DateTime : Type} (strptime : Str → Str → Option DateTime) (dateOf : DateTime → Date)
    (text : Option Str) (today : Date) (dateGiven : Bool) (date : Date) : Prop :=
  (text = none ∧ dateGiven = false ∧ date = today) ∨
  (∃ d dt, text = some d ∧ strptime d "%Y-%m-%d".toList = some dt ∧ dateGiven = true ∧ date = dateOf dt)

/-- the keyword arguments of the two message templates (`new_version`, `old_version`, `NEW_VERSION`, `OLD_VERSION`,
    `new_version_pep440`, `old_version_pep440`; see `msgKwargs_keys`) -/
def msgKwargs (old new : Str) : List (Str × Str) :=
  [(['n', 'e', 'w', '_', 'v', 'e', 'r', 's', 'i', 'o', 'n'], new),
   (['o', 'l', 'd', '_', 'v', 'e', 'r', 's', 'i', 'o', 'n'], old),
   (['N', 'E', 'W', '_', 'V', 'E', 'R', 'S', 'I', 'O', 'N'], new),
   (['O', 'L', 'D', '_', 'V', 'E', 'R', 'S', 'I', 'O', 'N'], old),
   (['n', 'e', 'w', '_', 'v', 'e', 'r', 's', 'i', 'o', 'n', '_', 'p', 'e', 'p', '4', '4', '0'], pyToPep440 new),
   (['o', 'l', 'd', '_', 'v', 'e', 'r', 's', 'i', 'o', 'n', '_', 'p', 'e', 'p', '4', '4', '0'], pyToPep440 old)]

theorem msgKwargs_keys (old new : Str) :
    (msgKwargs old new).map (·.1) =
      ["new_version".toList, "old_version".toList, "NEW_VERSION".toList, "OLD_VERSION".toList,
       "new_version_pep440".toList, "old_version_pep440".toList] := by
  simp [msgKwargs]

end TieL
open TieL

/-! ### `get_tags` in one equation: the model's events and outcome, and the list it returns -/

theorem TieL.getTags_full (e : EffEnv) (p : PState) (fetch : Bool) (scope : GenE.TagScope) (hc : RemoteCoherent e) :
    GenE.getTags fetch scope e p =
      (match BV.getTags e.plan fetch (scope == .BRANCH) p with
       | (p', .ok) => (p', .ok (tagsServed e scope p))
       | (p', .failed) => (p', .error .called)) :=
  getTags_run e p fetch scope hc

theorem TieL.tagsThen_run {β : Type} (fetch : Bool) (scope : GenE.TagScope) (k : List Str → Except CStop β)
    (ce : CmdEnv) (s : CState) (hc : RemoteCoherent ce.eff) :
    tagsThen fetch scope k ce s =
      (match BV.getTags ce.eff.plan fetch (scope == .BRANCH) s.p with
       | (p', .ok) => ({ s with p := p' }, k (tagsServed ce.eff scope s.p))
       | (p', .failed) => ({ s with p := p' }, .error (.eff .called))) := by
  unfold tagsThen
  rw [getTags_full _ _ _ _ hc]
  rcases BV.getTags ce.eff.plan fetch (scope == .BRANCH) s.p with ⟨p', o⟩
  cases o <;> rfl

theorem TieL.uniqueCmd_run (check : List Str → Except CStop Bool) (ce : CmdEnv) (s : CState) (hc : RemoteCoherent ce.eff) :
    uniqueCmd check ce s =
      (match BV.getTags ce.eff.plan false false s.p with
       | (p', .ok) => ({ s with p := p' }, check (tagsServed ce.eff .GLOBAL s.p))
       | (p', .failed) => ({ s with p := p' }, .error (.eff .called))) := by
  unfold uniqueCmd
  rw [getTags_full _ _ _ _ hc]
  have hgb : (GenE.TagScope.GLOBAL == GenE.TagScope.BRANCH) = false := rfl
  rw [hgb]
  rcases BV.getTags ce.eff.plan false false s.p with ⟨p', o⟩
  cases o <;> rfl

/-! ### `_parse_vcs_options` on the GenE copy of the record -/

theorem TieL.scopeOfF_branch (x : GenF.TagScope) : (GenL.scopeOfF x == GenE.TagScope.BRANCH) = (x == GenF.TagScope.BRANCH) := by
  cases x <;> rfl

theorem TieL.scopeOfF_toF (x : GenE.TagScope) : GenL.scopeOfF (GenL.scopeToF x) = x := by cases x <;> rfl

theorem TieL.ofValue_EF (s : Str) : (GenF.TagScope.ofValue s).map GenL.scopeOfF = GenE.TagScope.ofValue s := by
  unfold GenF.TagScope.ofValue GenE.TagScope.ofValue
  have h1 : "default".toList = ['d', 'e', 'f', 'a', 'u', 'l', 't'] := by simp
  have h2 : "global".toList = ['g', 'l', 'o', 'b', 'a', 'l'] := by simp
  have h3 : "branch".toList = ['b', 'r', 'a', 'n', 'c', 'h'] := by simp
  rw [h1, h2, h3]
  repeat' split
  all_goals rfl

theorem TieL.scopeOfF_choice (ts : Option Str) (sc : GenE.TagScope)
    (hts : ∀ s, ts = some s → (GenF.TagScope.ofValue s).isSome = true) :
    GenL.scopeOfF (match (generalizing := false) ts with
      | none => GenL.scopeToF sc
      | some s => (GenF.TagScope.ofValue s).getD (GenL.scopeToF sc))
      = (match (generalizing := false) ts with
         | none => sc
         | some s => (GenE.TagScope.ofValue s).getD sc) := by
  cases ts with
  | none => exact scopeOfF_toF _
  | some s =>
    have h2 := ofValue_EF s
    cases hvs : GenF.TagScope.ofValue s with
    | none => have := hts s rfl; rw [hvs] at this; cases this
    | some v => rw [hvs] at h2; simp only [Option.map] at h2; simp [← h2, hvs]

/-- what the plan model keeps of a record is the same for the two generated copies -/
theorem TieL.absCfgE_ofF {α : Type} (tm : Str) (c : GenF.Config α) :
    absCfgE tm (GenL.cfgOfF c) = absCfg tm.isEmpty c := by
  simp [absCfgE, absCfg, GenL.cfgOfF, scopeOfF_branch]

/-- the fields `_parse_vcs_options` never assigns, and the tag scope (assigned once, from `--tag-scope`) -/
def TieL.keptPart {α : Type} (c : GenF.Config α) : (Str × Str × Str × Str × Str × Bool) × GenF.TagScope :=
  ((c.current_version, c.version_pattern, c.pep440_version, c.commit_message, c.tag_message, c.is_new_pattern),
   c.tag_scope)

theorem TieL.of_ite_none {β : Type} {c : Prop} [Decidable c] {x : Option β} {y : β}
    (h : (if c then none else x) = some y) : x = some y := by
  by_cases hc : c
  · rw [if_pos hc] at h; cases h
  · rwa [if_neg hc] at h

/-- `_parse_vcs_options` only touches the VCS switches, the hooks and the tag scope -/
theorem TieL.parseVcsOptions_fields {α : Type} (cfg c1 : GenF.Config α) (commit tag_commit push : Option Bool)
    (tag_scope pre post : Option Str)
    (h : GenF.parseVcsOptions cfg commit tag_commit push tag_scope pre post = some c1) :
    c1.current_version = cfg.current_version ∧ c1.version_pattern = cfg.version_pattern ∧
    c1.pep440_version = cfg.pep440_version ∧ c1.commit_message = cfg.commit_message ∧
    c1.tag_message = cfg.tag_message ∧ c1.is_new_pattern = cfg.is_new_pattern ∧
    c1.tag_scope = (match (generalizing := false) tag_scope with
      | none => cfg.tag_scope
      | some s => (GenF.TagScope.ofValue s).getD cfg.tag_scope) := by
  first
  | -- every assignment is `cfg = cfg._replace(field=…)` of another field: follow them one at a time
    unfold GenF.parseVcsOptions at h
    have h2 := of_ite_none (of_ite_none h)
    extract_lets cfgA cfgB cfgC cfgD cfgE at h2
    have h3 := of_ite_none (of_ite_none h2)
    have hA : keptPart cfgA = keptPart cfg := by cases commit <;> rfl
    have hB : keptPart cfgB = keptPart cfgA := by cases tag_commit <;> rfl
    have hC : keptPart cfgC = keptPart cfgB := by cases push <;> rfl
    have hD : keptPart cfgD = keptPart cfgC := by cases pre <;> rfl
    have hE : keptPart cfgE = keptPart cfgD := by cases post <;> rfl
    have hfin : ∀ c : GenF.Config α, keptPart c = keptPart cfg → c.current_version = cfg.current_version ∧
        c.version_pattern = cfg.version_pattern ∧ c.pep440_version = cfg.pep440_version ∧
        c.commit_message = cfg.commit_message ∧ c.tag_message = cfg.tag_message ∧
        c.is_new_pattern = cfg.is_new_pattern ∧ c.tag_scope = cfg.tag_scope := by
      intro c hc
      simp only [keptPart, Prod.mk.injEq] at hc
      obtain ⟨⟨h1, h2, h3, h4, h5, h6⟩, h7⟩ := hc
      exact ⟨h1, h2, h3, h4, h5, h6, h7⟩
    cases tag_scope with
    | none =>
      rw [← Option.some.inj h3]
      exact hfin cfgE (hE.trans (hD.trans (hC.trans (hB.trans hA))))
    | some ts =>
      cases hv : GenF.TagScope.ofValue ts with
      | none => simp only [hv] at h3; cases h3
      | some v =>
        simp only [hv] at h3
        obtain ⟨e1, e2, e3, e4, e5, e6, -⟩ := hfin cfgC (hC.trans (hB.trans hA))
        have h7 : v = (GenF.TagScope.ofValue ts).getD cfg.tag_scope := by rw [hv]; rfl
        rw [← Option.some.inj h3]
        cases post <;> cases pre <;> exact ⟨e1, e2, e3, e4, e5, e6, h7⟩
  | -- the same by cases on every option: does not depend on how the Python arranges its early returns
    unfold GenF.parseVcsOptions at h
    rcases commit with _ | _ | _ <;> rcases tag_commit with _ | _ | _ <;> rcases push with _ | _ | _ <;>
      cases hc : cfg.commit <;> simp [hc] at h <;>
      (rcases tag_scope with _ | s <;> simp at h ⊢ <;>
        first
          | (subst h; rcases pre with _ | p <;> rcases post with _ | q <;> simp)
          | (cases hv : GenF.TagScope.ofValue s <;> simp [hv] at h ⊢ <;>
              (subst h; rcases pre with _ | p <;> rcases post with _ | q <;> simp)))

/-! ### the plan model, staged the way the command runs -/

/-- what is observed of a run: the VCS events in order and the exit code -/
def TieL.cmdView {α : Type} (r : CState × Except CStop α) : List Ev × Nat := (r.1.p.evs.reverse, Cmd.exitCode r.2)

/-- a command that starts with `m`: either `m` stops, and that is what is observed, or it returns and the rest of
    the command is observed; `P` is what the rest may assume about the value and the state `m` returns -/
theorem TieL.cmdView_bind {α β : Type} {m : Cmd α} {K : α → Cmd β} {ce : CmdEnv} {s : CState} {R : List Ev × Nat}
    (P : α → CState → Prop)
    (hm : match m ce s with
          | (s', .ok a) => P a s'
          | (s', .error x) => (s'.p.evs.reverse, x.code) = R)
    (hK : ∀ a s', P a s' → cmdView (K a ce s') = R) :
    cmdView (Cmd.bind m K ce s) = R := by
  unfold Cmd.bind
  generalize m ce s = r at hm
  obtain ⟨s', r⟩ := r
  cases r with
  | ok a => exact hK a s' hm
  | error x => exact hm

theorem TieL.cmdView_liftEff {α : Type} (m : Eff α) (ce : CmdEnv) (s : CState) :
    cmdView (Cmd.liftEff m ce s) = ((m ce.eff s.p).1.evs.reverse, Eff.exitCode (m ce.eff s.p).2) := by
  unfold Cmd.liftEff
  rcases m ce.eff s.p with ⟨p', r⟩
  cases r with
  | ok a => rfl
  | error x => cases x <;> rfl

/-- the part of `plan` after the start-version listing, started in state `s1` -/
def TieL.planGate (c : PlanCfg) (a : PlanCli) (e : PlanEnv) (s1 : PState) : List Ev × Nat :=
  if !e.gateOk then (s1.evs.reverse, 1)
  else
    let (s2, o2) :=
      if c.scopeBranch || a.setVersion then getTags e false false s1 else (s1, Outcome.ok)
    if o2 == .failed then (s2.evs.reverse, 1)
    else if (c.scopeBranch || a.setVersion) && tagsListed e s1 && !e.uniqueOk then (s2.evs.reverse, 1)
    else if a.dry then (s2.evs.reverse, if e.rewriteOk then 0 else 1)
    else planTail e c s2

/-- `plan` with its two later stages folded -/
def TieL.planStaged (c0 : PlanCfg) (a : PlanCli) (e : PlanEnv) : List Ev × Nat :=
  match parseVcsOptions c0 a with
  | none => ([], 1)
  | some c =>
    let s0 : PState := { evs := [], n := 0 }
    let (s1, o1) := if a.ignoreVcsTag then (s0, Outcome.ok) else getTags e a.fetch c.scopeBranch s0
    if o1 == .failed then (s1.evs.reverse, 1)
    else planGate c a e s1

theorem TieL.plan_eq_staged (c0 : PlanCfg) (a : PlanCli) (e : PlanEnv) : plan c0 a e = planStaged c0 a e := by
  rw [plan_eq_viaTail]; rfl

/-! ### the model input of a run: its fields -/

theorem TieL.isUsable_congr (e1 e2 : PlanEnv) (hv : e1.vcsPresent = e2.vcsPresent) (hf : e1.failAt = e2.failAt) (p : PState) :
    isUsable e1 p = isUsable e2 p := by
  unfold isUsable vcsCall
  rw [hv, hf]

/-- the scope in force, as the model input has it -/
theorem TieL.updInOf_scope {α : Type} (A : UpdArgs) (cfg0 : GenE.Config α) (e : EffEnv) (today date : Date) (dg tme : Bool)
    (fs : FS) (fps : List (Str × List CPat))
    (hts : ∀ s, A.tag_scope = some s → (GenF.TagScope.ofValue s).isSome = true) :
    (updInOf A cfg0 e today date dg tme fs fps).scope = absScopeE (scopeE A cfg0) := by
  unfold UpdIn.scope scopeE
  simp only [updInOf]
  cases hs : A.tag_scope with
  | none => rfl
  | some s =>
    have h1 := hts s hs
    have h2 := ofValue_EF s
    cases hv : GenF.TagScope.ofValue s with
    | none => rw [hv] at h1; cases h1
    | some v =>
      rw [hv] at h2
      simp only [Option.map] at h2
      simp [← h2]

theorem TieL.planGate_reject (c : PlanCfg) (a : PlanCli) (e : PlanEnv) (s1 : PState) (h : e.gateOk = false) :
    planGate c a e s1 = (s1.evs.reverse, 1) := by
  unfold planGate; simp [h]

/-- no start version, or no candidate: the model's gate is closed -/
theorem TieL.decide_gateOk_of_cand_none (u : UpdIn) (h : u.cand = none) : u.decide.gateOk = false := by
  unfold UpdIn.decide; rw [h]; rfl

theorem TieL.cand_none_of_startE_none (u : UpdIn) (h : u.startE = none) : u.cand = none := by
  unfold UpdIn.cand; rw [h]

attribute [local irreducible] gate parseVersionTags parseVersionInfo in
theorem TieL.decide_of_cand (u : UpdIn) {start nv : Str} (hs : u.startE = some start) (hc : u.cand = some nv) :
    u.decide.start = start ∧ u.decide.new = some nv ∧
    u.decide.gateOk = (match gate u.pat start nv false [] u.today with
      | .ok .accept => true
      | _ => false) ∧
    u.decide.uniqueOk = (match parseVersionTags u.pat u.today u.globalTags with
      | .ok vts => !vts.contains nv
      | .error _ => false) := by
  have hd : u.decide = decideCand u start (some nv) := by unfold UpdIn.decide UpdIn.start; rw [hs, hc]; rfl
  rw [hd]
  exact ⟨rfl, rfl, rfl, rfl⟩

end BV
