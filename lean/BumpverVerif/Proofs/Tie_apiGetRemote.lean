/-
  Proofs/Tie_apiGetRemote.lean — `VCSAPI.get_remote` (GENERATED: Gen/F_apiGetRemote.lean) against the
  hand model `BV.getRemote` (Model/Plan.lean).

  The Python looks at what `git branch -vv` and `git config --get remote.origin.url` / `hg paths` PRINT;
  the hand model only has two Booleans (`branchRemote`, `urlRemote`).  `RemoteCoherent e` states the
  expansion explicitly: which function of the printed text each Boolean is.

  tie_apiGetRemote :  for every environment, state and failure position
      state after get_remote       = state after the model's getRemote
      truthiness of its result     = the model's Boolean          (and it never raises: `except Exception`)
-/
import BumpverVerif.Gen.F_apiGetRemote
import BumpverVerif.Proofs.EffLemmas
namespace BV
open GenE

/-- the loop of `get_remote` over the `BRANCH_RE` matches: the `remote` group of the first match whose
    `is_current` group is truthy (`some none` cannot happen for the real regex: the group is mandatory) -/
def currentRemote (ms : List GroupDict) : Option (Option Str) :=
  ms.findSome? (fun m => if (m "is_current" != none && m "is_current" != some []) then some (m "remote") else none)

/-- what the model's Booleans mean in terms of the printed text -/
structure RemoteCoherent (e : EffEnv) : Prop where
  /-- `branchRemote` = "`git branch -vv` shows a remote for the current branch" -/
  branch : e.plan.branchRemote = (currentRemote (e.branchMatches (e.output "ls_branches"))).isSome
  /-- fact about BRANCH_RE: the group `remote` is `[^/]+`, mandatory and non-empty -/
  remoteGroup : ∀ r, currentRemote (e.branchMatches (e.output "ls_branches")) = some r → truthyOS r = true
  /-- `urlRemote` = "`show_remotes` prints something other than white space" -/
  url : e.plan.urlRemote = !(strip (e.output "show_remotes")).isEmpty

/-- ANY loop body that, match by match, answers like the specification is `currentRemote` (used as a
    conditional rewrite rule: the side condition is discharged by a case split on the `is_current` group, so
    the generated body may test it with `if`, through a local variable, with a narrowing `match`, …) -/
theorem findSome_eq_currentRemote (F : GroupDict → Option (Option Str)) (ms : List GroupDict)
    (h : ∀ m, F m = if (m "is_current" != none && m "is_current" != some []) then some (m "remote") else none) :
    List.findSome? F ms = currentRemote ms := by
  unfold currentRemote
  congr 1
  funext m
  exact h m

theorem tie_apiGetRemote (e : EffEnv) (s : PState) (api : VcsApi) (hc : RemoteCoherent e)
    (hk : api.name = e.plan.kind.name) :
    ((apiGetRemote api e s).1, (apiGetRemote api e s).2.map truthyOS)
      = ((getRemote e.plan s).1, Except.ok (getRemote e.plan s).2) := by
  obtain ⟨hb, hr, hu⟩ := hc
  unfold apiGetRemote getRemote
  -- both sides make the same invocations in the same order; by `hc` the model's two Booleans are what the code reads
  -- off the printed text (the loop over the matches is `currentRemote`), and `except Exception` is the model's "no remote"
  cases hkind : e.plan.kind <;> simp only [hkind, VcsKind.name] at hk <;>
    eff_simp [vcsCall] <;>
    (try simp (disch := (intro m; cases hm : m "is_current" <;> simp_all)) only [findSome_eq_currentRemote]) <;>
    eff_auto [vcsCall]

/-- the form in which callers use it -/
theorem getRemote_result (e : EffEnv) (s : PState) (api : VcsApi) (hc : RemoteCoherent e)
    (hk : api.name = e.plan.kind.name) :
    ∃ r, apiGetRemote api e s = ((getRemote e.plan s).1, .ok r) ∧ (getRemote e.plan s).2 = truthyOS r := by
  have h := tie_apiGetRemote e s api hc hk
  rcases hres : apiGetRemote api e s with ⟨s1, r⟩
  rw [hres] at h
  cases r with
  | error x => simp [Except.map] at h
  | ok a =>
    simp only [Except.map, Prod.mk.injEq, Except.ok.injEq] at h
    exact ⟨a, by rw [h.1], h.2.symm⟩

/-- "look up the remote; run `cmd` only when there is one" — the shape of `VCSAPI.fetch`, `push_tag` and
    `push`, written with the hand model's `getRemote` and `vcsCall` exactly as `getTags` / `commitPhase`
    (Model/Plan.lean) inline it -/
def remotePiece (e : PlanEnv) (cmd : String) (s : PState) : PState × Outcome :=
  let (s5, remote) := getRemote e s
  if remote then vcsCall e (.cmd cmd) s5 else (s5, .ok)

/-- `VCSAPI.fetch`, `push_tag` and `push` in ANY environment: given the result of `get_remote`, run `cmd`
    exactly when it names a remote -/
def thenIfRemote (e : EffEnv) (cmd : String) : PState × Except Stop (Option Str) → PState × Except Stop Unit
  | (s', .ok r) => if truthyOS r then Eff.liftC () (vcsCall e.plan (.cmd cmd) s') else (s', .ok ())
  | (s', .error x) => (s', .error x)

theorem bind_getRemote (e : EffEnv) (s : PState) (api : VcsApi) {f : Option Str → Eff Unit} {cmd : String}
    (hf : ∀ r s', f r e s' = if truthyOS r then Eff.liftC () (vcsCall e.plan (.cmd cmd) s') else (s', .ok ())) :
    Eff.bind (apiGetRemote api) f e s = thenIfRemote e cmd (apiGetRemote api e s) := by
  simp only [Eff.bind]
  rcases apiGetRemote api e s with ⟨s', r⟩
  cases r with
  | ok r => exact hf r s'
  | error x => rfl

theorem thenIfRemote_coherent (e : EffEnv) (s : PState) (api : VcsApi) (cmd : String) (hc : RemoteCoherent e)
    (hk : api.name = e.plan.kind.name) :
    thenIfRemote e cmd (apiGetRemote api e s) = Eff.liftC () (remotePiece e.plan cmd s) := by
  obtain ⟨r, hr, ht⟩ := getRemote_result e s api hc hk
  simp only [hr, thenIfRemote, remotePiece, ht]
  cases truthyOS r <;> rfl

/-! non-vacuity: a coherent environment in which `git branch -vv` names a remote -/
private def exPlan : PlanEnv :=
  ⟨.git, true, none, true, false, false, true, true, true, true, true, [], [], []⟩
private def exEnv : EffEnv :=
  { plan := exPlan, output := fun _ => [],
    branchMatches := fun _ => [fun g => if g == "is_current" then some ['*'] else if g == "remote" then some ['o'] else none],
    excText := [], excStderr := [], osErrno := 0 }
example : RemoteCoherent exEnv := ⟨by decide, by decide, by decide⟩

end BV
