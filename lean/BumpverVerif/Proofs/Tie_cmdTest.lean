/-
  Proofs/Tie_cmdTest.lean — the definition GENERATED from the Python source of the command `cli.test`
  (Gen/F_cmdTest.lean, harness/translate_commands.py) against the hand model `BV.cliTest` (Model/Cli.lean):

    tie_cmdTest   for a new-style pattern and ALL other inputs: no VCS invocation happens, and
                  (the lines echoed, in order; how the command ends) = `outcomeView` of `cliTest …`
                  — `announce new pep` is exit 0 with the line `New Version: <new>` and, only when it differs,
                  the line `PEP440     : <pep>`; `exit1` is `sys.exit(1)` with nothing echoed; `crash e` is the
                  uncaught exception `e` of the engine with nothing echoed.

  What the tie fixes about the GLUE (everything `test` calls is tied elsewhere): the three validations come first
  and in an order in which each failure is `exit 1` before anything is echoed; the candidate is `incr_dispatch(...)`
  exactly when `--set-version` is absent and `_normalize_set_version(pattern, set_version)` otherwise; `None` is
  exit 1; the gate is `_is_valid_version(pattern, OLD, candidate)` WITHOUT the uniqueness check; the PEP 440 line
  is `to_pep440(candidate)` and is only shown when it differs.

  Hypotheses:
  * `hp`     : the pattern has no braces (the hand model `cliTest` is the new-style one; `incr_dispatch` then picks the
               new engine too: `not_new_of_hasV1Part`).
  * `hempty` : `strptime("", "%Y-%m-%d")` raises ValueError (a fact about the library; needed for `--date '' --pin-date`,
               see Tie_validateDate.lean).
  * `hverb`  : with `-v` (the global `_VERBOSE` or the option) `incr_dispatch` additionally compiles the pattern, only to
               log it; that call can raise where `incr` alone answers None (witness in Tie_incrDispatch.lean:
               `YYYY.VV[`).  The model has no verbosity: the tie assumes the compilation succeeds when it happens.
  The model takes the `--date` already parsed; `testModel` composes it with `_validate_date`'s reading of the text
  (`strptime`, a parameter): an unparsable date is exit 1.

  `TieL.cmdTest_run` is the glue of `test` with what its three callees answer as parameters; the ties for ANY pattern
  (`cmdTest_valid_any`, `cmdTest_ref` = `tie_cmdTest_any`) instantiate it, and the new-style ones (`cmdTest_valid`,
  `tie_cmdTest`, `incrDispatch_new`) are their instances through `testCoreAny_new` / `testRef_new`.
-/
import BumpverVerif.Gen.F_cmdTest
import BumpverVerif.Proofs.Tie_cmdNormalizeSetVersion
import BumpverVerif.Proofs.Tie_cmdIsValidVersion
import BumpverVerif.Proofs.Tie_validateReleaseTag
import BumpverVerif.Proofs.Tie_validateFlags
import BumpverVerif.Proofs.Tie_validateDate
import BumpverVerif.Proofs.Tie_incrDispatch
import BumpverVerif.Proofs.V1Lemmas
namespace BV
namespace TieL

/-- how a command ended, as seen from outside -/
inductive Ending
  | ok                       -- exit code 0
  | exit (n : Nat)           -- `sys.exit(n)`
  | crashV2 (e : PErr)       -- an uncaught exception of the new-style engine (traceback)
  | crashV1 (e : V1Err)      -- … of the legacy engine
  | other                    -- any other uncaught exception
  deriving DecidableEq, Repr

def ending {α : Type} : Except CStop α → Ending
  | .ok _ => .ok
  | .error (.eff (.exit n)) => .exit n
  | .error (.exc (.sysExit n)) => .exit n.toNat
  | .error (.exc (.v2 e)) => .crashV2 e
  | .error (.exc (.v1 e)) => .crashV1 e
  | .error _ => .other

/-- `"New Version: "` -/
def newVersionLabel : Str := ['N', 'e', 'w', ' ', 'V', 'e', 'r', 's', 'i', 'o', 'n', ':', ' ']
/-- `"PEP440     : "` -/
def pep440Label : Str := ['P', 'E', 'P', '4', '4', '0', ' ', ' ', ' ', ' ', ' ', ':', ' ']

theorem newVersionLabel_eq : newVersionLabel = "New Version: ".toList := by simp [newVersionLabel]
theorem pep440Label_eq : pep440Label = "PEP440     : ".toList := by simp [pep440Label]

/-- what the user sees of an outcome of the hand model: the echoed lines and the ending -/
def outcomeView : CliOutcome → List Str × Ending
  | .announce new pep =>
    ((newVersionLabel ++ new) :: (if new != pep then [pep440Label ++ pep] else []), .ok)
  | .exit1 => ([], .exit 1)
  | .crash e => ([], .crashV2 e)

/-- the part of `cliTest` after the validations: candidate, gate, announcement -/
def testCore (old pat : Str) (fl : IncrFlags) (date today : Date) (setVersion : Option Str) : CliOutcome :=
  match candidateE old pat fl date today setVersion with
  | .error e => .crash e
  | .ok none => .exit1
  | .ok (some new) =>
    match gate pat old new false [] today with
    | .error e => .crash e
    | .ok .accept => .announce new (verStr (parseVersion new))
    | .ok _ => .exit1

/-- the hand model composed with `_validate_date`'s reading of the `--date` text -/
def testModel {DateTime : Type} (strptime : Str → Str → Option DateTime) (dateOf : DateTime → Date)
    (old pat : Str) (fl : IncrFlags) (date : Option Str) (today : Date) (setVersion : Option Str) : CliOutcome :=
  match date with
  | none => cliTest old pat fl false today today setVersion
  | some d =>
    match strptime d "%Y-%m-%d".toList with
    | none => .exit1
    | some dt => cliTest old pat fl true (dateOf dt) today setVersion

/-- `_normalize_set_version` for any pattern -/
def dispatchNormalize (pat v : Str) (today : Date) : Except Exc Str :=
  if isNewPattern pat then liftV2 (normalizeSetVersion pat v today) else liftV1 (v1NormalizeSetVersion pat v)

/-- `_is_valid_version(pattern, old, new)` (no uniqueness check) for any pattern -/
def dispatchGateExc (pat old new : Str) (today : Date) : Except Exc GateVerdict :=
  if isNewPattern pat then liftV2 (gate pat old new false [] today) else liftV1 (v1Gate pat old new false [])

/-- outcome of `bumpver test` with the exception kept -/
inductive TestResult
  | announce (new pep : Str)
  | exit1
  | crash (e : Exc)
  deriving DecidableEq, Repr

/-- candidate, gate, announcement — over both engines -/
def testCoreAny (old pat : Str) (fl : IncrFlags) (date today : Date) (setVersion : Option Str) : TestResult :=
  let cand : Except Exc (Option Str) := match setVersion with
    | some v => (dispatchNormalize pat v today).map some
    | none => dispatchIncrExc old pat fl date today
  match cand with
  | .error e => .crash e
  | .ok none => .exit1
  | .ok (some new) =>
    match dispatchGateExc pat old new today with
    | .error e => .crash e
    | .ok .accept => .announce new (verStr (parseVersion new))
    | .ok _ => .exit1

/-- `bumpver test OLD PATTERN [flags] [--date D] [--set-version V]` for any pattern, the `--date` text read by `strptime` -/
def testRef {DateTime : Type} (strptime : Str → Str → Option DateTime) (dateOf : DateTime → Date)
    (old pat : Str) (fl : IncrFlags) (date : Option Str) (today : Date) (setVersion : Option Str) : TestResult :=
  if !validReleaseTag fl.tag then .exit1
  else if !validFlags pat fl then .exit1
  else match date with
    | none => testCoreAny old pat fl today today setVersion
    | some d =>
      if !d.isEmpty && fl.pinDate then .exit1
      else match strptime d "%Y-%m-%d".toList with
        | none => .exit1
        | some dt => testCoreAny old pat fl (dateOf dt) today setVersion

def resultView : TestResult → List Str × Ending
  | .announce new pep =>
    ((newVersionLabel ++ new) :: (if new != pep then [pep440Label ++ pep] else []), .ok)
  | .exit1 => ([], .exit 1)
  | .crash e => ([], ending (.error (.exc e) : Except CStop Unit))

/-- what `-v` needs: the pattern compiles with the engine `incr_dispatch` picks -/
def CompilesForLog (pat : Str) : Prop :=
  if hasV1Part pat then ∃ r, pyV1CompilePattern pat = .ok r else ∃ r, pyV2CompilePattern pat = .ok r

end TieL
open TieL

attribute [local irreducible] isValid parseVersionInfo incr v1IsValid v1ParseVersionInfo v1Incr formatVersion
  v1FormatVersion normalizeSetVersion v1NormalizeSetVersion gate v1Gate

/-- the searching-loop spelling of `has_v1_part` (`for part in v1_parts: if … : has_v1_part = True; break`): nothing found -/
theorem TieL.hasV1Part_of_find_none (pat : Str)
    (h : List.find? (fun part => isInfix (("{".toList ++ part) ++ "}".toList) pat)
      ((Gen.v1PartPatterns.map (·.1)) ++ (Gen.v1FullPartFormats.map (·.1))) = none) : hasV1Part pat = false := by
  have hany : hasV1Part pat = (List.any ((Gen.v1PartPatterns.map (·.1)) ++ (Gen.v1FullPartFormats.map (·.1)))
      (fun part => isInfix (("{".toList ++ part) ++ "}".toList) pat)) := rfl
  rw [hany, List.any_eq_false]
  intro x hx
  simpa using List.find?_eq_none.mp h x hx

/-- … something found -/
theorem TieL.hasV1Part_of_find_some (pat part : Str)
    (h : List.find? (fun part => isInfix (("{".toList ++ part) ++ "}".toList) pat)
      ((Gen.v1PartPatterns.map (·.1)) ++ (Gen.v1FullPartFormats.map (·.1))) = some part) : hasV1Part pat = true := by
  have hany : hasV1Part pat = (List.any ((Gen.v1PartPatterns.map (·.1)) ++ (Gen.v1FullPartFormats.map (·.1)))
      (fun part => isInfix (("{".toList ++ part) ++ "}".toList) pat)) := rfl
  rw [hany, List.any_eq_true]
  have hp := List.find?_some h
  have hm := List.mem_of_find?_eq_some h
  exact ⟨part, hm, hp⟩

theorem TieL.pyMaxInt_ne_zero_iff (a b : Int) : ((pyMaxInt a b != 0) = true) ↔ pyMaxInt a b ≠ 0 := by simp

/-- `incr_dispatch` for any pattern, whatever `_VERBOSE` is (given that the logged compilation succeeds) -/
theorem TieL.incrDispatch_any (today : Date) (b : Bool) (old pat : Str) (fl : IncrFlags) (maybe_date : Option Date)
    (hc : b = true → CompilesForLog pat) :
    GenC.incrDispatch today b old pat fl.major fl.minor fl.patch fl.tag fl.tagNum fl.pinIncrements
        fl.pinDate maybe_date
      = dispatchIncrExc old pat fl (maybe_date.getD today) today := by
  cases b with
  | false => exact tie_incrDispatch today old pat fl maybe_date
  | true =>
    rw [← tie_incrDispatch]
    have h := hc rfl
    unfold CompilesForLog at h
    first
      | -- `has_v1_part = any(… for part in v1_parts)`
        (have hv : (List.any ((Gen.v1PartPatterns.map (·.1)) ++ (Gen.v1FullPartFormats.map (·.1)))
            (fun part => isInfix (("{".toList ++ part) ++ "}".toList) pat)) = hasV1Part pat := rfl
         unfold GenC.incrDispatch
         cases hp : hasV1Part pat
         · rw [hp] at h; simp only [Bool.false_eq_true, if_false] at h
           obtain ⟨r, hr⟩ := h
           simp only [hv, hp, hr, Bool.false_eq_true, if_false, if_true, Bool.not_false, Bool.not_true]
           done
         · rw [hp] at h; simp only [if_true] at h
           obtain ⟨r, hr⟩ := h
           simp only [hv, hp, hr, Bool.false_eq_true, if_false, if_true, Bool.not_false, Bool.not_true]
           done)
      | -- the searching loop
        (unfold GenC.incrDispatch
         dsimp only
         cases hfind : List.find? (fun part => isInfix (("{".toList ++ part) ++ "}".toList) pat)
             ((Gen.v1PartPatterns.map (·.1)) ++ (Gen.v1FullPartFormats.map (·.1))) with
         | none =>
           rw [hasV1Part_of_find_none pat hfind] at h
           simp only [Bool.false_eq_true, if_false] at h
           obtain ⟨r, hr⟩ := h
           simp only [hr, Bool.false_eq_true, if_false, if_true, Bool.not_false, Bool.not_true]
         | some part =>
           rw [hasV1Part_of_find_some pat part hfind] at h
           simp only [if_true] at h
           obtain ⟨r, hr⟩ := h
           simp only [hr, Bool.false_eq_true, if_false, if_true, Bool.not_false, Bool.not_true])

theorem TieL.hasV1Part_of_new {pat : Str} (hp : isNewPattern pat = true) : hasV1Part pat = false := by
  cases h : hasV1Part pat
  · rfl
  · have := not_new_of_hasV1Part pat h; rw [hp] at this; cases this

theorem TieL.compilesForLog_of_new {pat : Str} (hp : isNewPattern pat = true)
    (hc : ∃ r, pyV2CompilePattern pat = .ok r) : CompilesForLog pat := by
  unfold CompilesForLog; rw [hasV1Part_of_new hp]; exact hc

/-- `incr_dispatch` for a new-style pattern, whatever `_VERBOSE` is (given `hverb`) -/
theorem TieL.incrDispatch_new (today : Date) (b : Bool) (old pat : Str) (fl : IncrFlags) (maybe_date : Option Date)
    (hp : isNewPattern pat = true) (hc : b = true → ∃ r, pyV2CompilePattern pat = .ok r) :
    GenC.incrDispatch today b old pat fl.major fl.minor fl.patch fl.tag fl.tagNum fl.pinIncrements
        fl.pinDate maybe_date
      = liftV2 (incr old pat fl (maybe_date.getD today) today) := by
  have hv1 := hasV1Part_of_new hp
  rw [incrDispatch_any today b old pat fl maybe_date (fun h => compilesForLog_of_new hp (hc h))]
  unfold dispatchIncrExc
  simp [hv1]

/-- with `-v`, `incr_dispatch` is the same function provided the pattern compiles (new engine) -/
theorem TieL.incrDispatch_verbose (today : Date) (old pat : Str) (fl : IncrFlags) (maybe_date : Option Date)
    (hv1 : hasV1Part pat = false) (hc : ∃ r, pyV2CompilePattern pat = .ok r) :
    GenC.incrDispatch today true old pat fl.major fl.minor fl.patch fl.tag fl.tagNum fl.pinIncrements
        fl.pinDate maybe_date
      = GenC.incrDispatch today false old pat fl.major fl.minor fl.patch fl.tag fl.tagNum fl.pinIncrements
        fl.pinDate maybe_date := by
  have hlog : CompilesForLog pat := by unfold CompilesForLog; rw [hv1]; exact hc
  rw [incrDispatch_any today true old pat fl maybe_date (fun _ => hlog),
    incrDispatch_any today false old pat fl maybe_date (fun h => nomatch h)]

theorem TieL.cmdIsValidVersion_not_unique_legacy (today : Date) (pat old new : Str) (hp : isNewPattern pat = false)
    (ce : CmdEnv) (s : CState) :
    GenL.isValidVersion today pat old new false ce s
      = (s, ofV1 ((v1Gate pat old new false []).map GateVerdict.toBool)) := by
  rw [tie_cmdIsValidVersion_legacy today pat old new false hp]
  unfold v1GateCmd
  cases v1Gate pat old new false [] with
  | error e => rfl
  | ok v => cases v <;> rfl

/-- `_is_valid_version(pattern, old, new)` for any pattern -/
theorem TieL.cmdIsValidVersion_any (today : Date) (pat old new : Str) (ce : CmdEnv) (s : CState) :
    GenL.isValidVersion today pat old new false ce s
      = (s, ofExc ((dispatchGateExc pat old new today).map GateVerdict.toBool)) := by
  unfold dispatchGateExc
  cases hp : isNewPattern pat
  · rw [cmdIsValidVersion_not_unique_legacy today pat old new hp]
    simp only [Bool.false_eq_true, if_false]
    cases v1Gate pat old new false [] <;> rfl
  · rw [cmdIsValidVersion_not_unique today pat old new hp]
    simp only [if_true]
    cases gate pat old new false [] today <;> rfl

/-- `_normalize_set_version` for any pattern -/
theorem TieL.normalizeSetVersion_any (today : Date) (pat v : Str) (ce : CmdEnv) (s : CState) :
    GenL.normalizeSetVersion today pat v ce s = (s, ofExc (dispatchNormalize pat v today)) := by
  unfold dispatchNormalize
  cases hp : isNewPattern pat
  · rw [tie_normalizeSetVersion_legacy today pat v hp]
    simp only [Bool.false_eq_true, if_false]
    cases v1NormalizeSetVersion pat v <;> rfl
  · rw [tie_normalizeSetVersion_new today pat v hp]
    simp only [if_true]
    cases normalizeSetVersion pat v today <;> rfl

namespace TieL
/-- the lines `test` echoes for an accepted candidate, on top of `out` (most recent first): `New Version: <new>`
    and, only when it differs, `PEP440     : <to_pep440(new)>` -/
def announceOut (nv : Str) (out : List Str) : List Str :=
  (if nv != pyToPep440 nv then [pep440Label ++ pyToPep440 nv] else []) ++ (newVersionLabel ++ nv) :: out

/-- `test` after its validations, in terms of what its callees answer: the candidate `c` (`incr_dispatch` or the
    normalised `--set-version`) and the gate `G` -/
def testRun (c : Except CStop (Option Str)) (G : Str → Except CStop Bool) (s : CState) : CState × Except CStop Unit :=
  match c with
  | .error x => (s, .error x)
  | .ok none => (s, .error (.eff (.exit 1)))
  | .ok (some nv) =>
    match G nv with
    | .error x => (s, .error x)
    | .ok false => (s, .error (.eff (.exit 1)))
    | .ok true => ({ s with out := announceOut nv s.out }, .ok ())
end TieL
open TieL

/-- the glue of `test` once its three validations have passed, for ANY engine: what the callees answer is a parameter -/
theorem TieL.cmdTest_run {DateTime : Type} (today : Date) (strptime : Str → Str → Option DateTime)
    (dateOf : DateTime → Date) (vg verbose : Int) (old pat : Str) (fl : IncrFlags) (date setVersion : Option Str)
    (md : Option Date) (ce : CmdEnv) (s0 : CState)
    (hrt : validReleaseTag fl.tag = true) (hvf : validFlags pat fl = true)
    (hvd : GenC.validateDate strptime dateOf date fl.pinDate = .ok md)
    (I : Except Exc (Option Str))
    (hI : GenC.incrDispatch today (pyMaxInt vg verbose != 0) old pat fl.major fl.minor fl.patch fl.tag fl.tagNum
      fl.pinIncrements fl.pinDate md = I)
    (N : Str → Except CStop Str) (hN : ∀ sv s, GenL.normalizeSetVersion today pat sv ce s = (s, N sv))
    (G : Str → Except CStop Bool) (hG : ∀ nv s, GenL.isValidVersion today pat old nv false ce s = (s, G nv)) :
    GenL.test today strptime dateOf vg old pat verbose fl.major fl.minor fl.patch fl.tag fl.tagNum
      fl.pinIncrements fl.pinDate date setVersion ce s0
      = testRun (match setVersion with | none => ofExc I | some sv => (N sv).map some) G s0 := by
  unfold GenL.test
  simp only [Cmd.bind_liftExc, tie_validateReleaseTag, tie_validateFlags, hrt, hvf, hvd, if_true]
  refine (Cmd.bind_of_run (s' := s0)
    (r := match setVersion with | none => ofExc I | some sv => (N sv).map some) ?cand).trans ?rest
  case cand =>
    cases setVersion with
    | none => simp only [Cmd.bind_pure_right, Cmd.liftExc_run, hI]
    | some sv =>
      simp only [Cmd.bind, hN]
      cases N sv <;> rfl
  case rest =>
  generalize (match setVersion with | none => ofExc I | some sv => (N sv).map some) = c
  rcases c with x | _ | nv
  · rfl
  · rfl
  · simp only [testRun]
    rw [Cmd.bind_of_run (hG nv s0)]
    rcases G nv with x | _ | _
    · rfl
    · rfl
    · cases hne : (nv != pyToPep440 nv) <;>
        simp [Cmd.bind, Cmd.echo, Cmd.pure, Cmd.ite_run, announceOut, newVersionLabel, pep440Label, hne]
/-- the command once its three validations have passed -/
theorem TieL.cmdTest_valid_any {DateTime : Type} (today : Date) (strptime : Str → Str → Option DateTime)
    (dateOf : DateTime → Date) (vg verbose : Int) (old pat : Str) (fl : IncrFlags) (date setVersion : Option Str)
    (md : Option Date)
    (hverb : pyMaxInt vg verbose ≠ 0 → CompilesForLog pat)
    (hrt : validReleaseTag fl.tag = true) (hvf : validFlags pat fl = true)
    (hvd : GenC.validateDate strptime dateOf date fl.pinDate = .ok md)
    (ce : CmdEnv) (s0 : CState) (hout : s0.out = []) :
    let r := GenL.test today strptime dateOf vg old pat verbose fl.major fl.minor fl.patch fl.tag fl.tagNum
      fl.pinIncrements fl.pinDate date setVersion ce s0
    r.1.p = s0.p ∧
    (r.1.out.reverse, ending r.2) = resultView (testCoreAny old pat fl (md.getD today) today setVersion) := by
  intro r
  have hc : (pyMaxInt vg verbose != 0) = true → CompilesForLog pat :=
    fun h => hverb ((pyMaxInt_ne_zero_iff vg verbose).mp h)
  obtain ⟨p0, out0⟩ := s0
  subst hout
  simp only [r]
  rw [cmdTest_run today strptime dateOf vg verbose old pat fl date setVersion md ce ⟨p0, []⟩ hrt hvf hvd _
    (incrDispatch_any today _ old pat fl md hc)
    (fun sv => ofExc (dispatchNormalize pat sv today)) (fun sv s => normalizeSetVersion_any today pat sv ce s)
    (fun nv => ofExc ((dispatchGateExc pat old nv today).map GateVerdict.toBool))
    (fun nv s => cmdIsValidVersion_any today pat old nv ce s)]
  -- both sides are now the dispatching candidate and gate, read two ways
  have hgate : ∀ nv,
      let r := testRun (.ok (some nv)) (fun nv => ofExc ((dispatchGateExc pat old nv today).map GateVerdict.toBool)) ⟨p0, []⟩
      r.1.p = p0 ∧ (r.1.out.reverse, ending r.2) = resultView (match dispatchGateExc pat old nv today with
          | .error e => .crash e
          | .ok .accept => .announce nv (verStr (parseVersion nv))
          | .ok _ => .exit1) := by
    intro nv
    simp only [testRun]
    cases dispatchGateExc pat old nv today with
    | error e => exact ⟨rfl, rfl⟩
    | ok v =>
      cases v
      case accept =>
        refine ⟨rfl, ?_⟩
        have hacc : (GateVerdict.accept == GateVerdict.accept) = true := rfl
        simp only [ofExc, Except.map, GateVerdict.toBool, hacc, resultView, announceOut, pyToPep440, ending]
        by_cases hne : (nv != verStr (parseVersion nv)) = true
        · simp [hne]
        · simp [hne]
      all_goals exact ⟨rfl, rfl⟩
  unfold testCoreAny
  cases setVersion with
  | none =>
    simp only []
    cases dispatchIncrExc old pat fl (md.getD today) today with
    | error e => exact ⟨rfl, rfl⟩
    | ok o =>
      cases o with
      | none => exact ⟨rfl, rfl⟩
      | some nv => exact hgate nv
  | some sv =>
    simp only []
    cases dispatchNormalize pat sv today with
    | error e => exact ⟨rfl, rfl⟩
    | ok nv => exact hgate nv

/-- for a new-style pattern the reference is the hand model `cliTest` (Model/Cli.lean) -/
theorem TieL.testCoreAny_new (old pat : Str) (fl : IncrFlags) (date today : Date) (setVersion : Option Str)
    (hp : isNewPattern pat = true) :
    resultView (testCoreAny old pat fl date today setVersion) = outcomeView (testCore old pat fl date today setVersion) := by
  have hv1 := hasV1Part_of_new hp
  unfold testCoreAny testCore candidateE dispatchNormalize dispatchGateExc dispatchIncrExc
  simp only [hp, hv1, if_true, Bool.false_eq_true, if_false]
  cases setVersion with
  | some v =>
    simp only
    cases hn : normalizeSetVersion pat v today with
    | error e => cases e <;> simp [liftV2, Except.map, resultView, outcomeView, ending]
    | ok nv =>
      simp only [liftV2, Except.map]
      cases hg : gate pat old nv false [] today with
      | error e => cases e <;> simp [liftV2, resultView, outcomeView, ending]
      | ok v => cases v <;> simp [liftV2, resultView, outcomeView]
  | none =>
    simp only
    cases hn : incr old pat fl date today with
    | error e => cases e <;> simp [liftV2, resultView, outcomeView, ending]
    | ok o =>
      cases o with
      | none => simp [liftV2, resultView, outcomeView]
      | some nv =>
        simp only [liftV2]
        cases hg : gate pat old nv false [] today with
        | error e => cases e <;> simp [liftV2, resultView, outcomeView, ending]
        | ok v => cases v <;> simp [liftV2, resultView, outcomeView]

theorem TieL.cliTest_valid (old pat : Str) (fl : IncrFlags) (dateGiven : Bool) (date today : Date) (sv : Option Str)
    (hrt : validReleaseTag fl.tag = true) (hvf : validFlags pat fl = true) (hd : (dateGiven && fl.pinDate) = false) :
    cliTest old pat fl dateGiven date today sv = testCore old pat fl date today sv := by
  unfold cliTest testCore
  simp only [hrt, hvf, hd, Bool.not_true, Bool.false_eq_true, if_false]
  rfl

/-- the command once its three validations have passed, `maybe_date` being what `_validate_date` returned -/
theorem TieL.cmdTest_valid {DateTime : Type} (today : Date) (strptime : Str → Str → Option DateTime)
    (dateOf : DateTime → Date) (vg verbose : Int) (old pat : Str) (fl : IncrFlags) (date setVersion : Option Str)
    (md : Option Date)
    (hp : isNewPattern pat = true)
    (hverb : pyMaxInt vg verbose ≠ 0 → ∃ r, pyV2CompilePattern pat = .ok r)
    (hrt : validReleaseTag fl.tag = true) (hvf : validFlags pat fl = true)
    (hvd : GenC.validateDate strptime dateOf date fl.pinDate = .ok md)
    (ce : CmdEnv) (s0 : CState) (hout : s0.out = []) :
    let r := GenL.test today strptime dateOf vg old pat verbose fl.major fl.minor fl.patch fl.tag fl.tagNum
      fl.pinIncrements fl.pinDate date setVersion ce s0
    r.1.p = s0.p ∧
    (r.1.out.reverse, ending r.2) = outcomeView (testCore old pat fl (md.getD today) today setVersion) := by
  have hlog := fun h => compilesForLog_of_new hp (hverb h)
  rw [← testCoreAny_new old pat fl (md.getD today) today setVersion hp]
  exact cmdTest_valid_any today strptime dateOf vg verbose old pat fl date setVersion md hlog hrt hvf hvd ce s0 hout

/-- a failing validation: `sys.exit(1)` before anything is echoed or asked of the VCS -/
theorem TieL.cmdTest_invalid {DateTime : Type} (today : Date) (strptime : Str → Str → Option DateTime)
    (dateOf : DateTime → Date) (vg verbose : Int) (old pat : Str) (fl : IncrFlags) (date setVersion : Option Str)
    (h : validReleaseTag fl.tag = false ∨ validFlags pat fl = false ∨
         GenC.validateDate strptime dateOf date fl.pinDate = .error (.sysExit 1))
    (ce : CmdEnv) (s0 : CState) :
    GenL.test today strptime dateOf vg old pat verbose fl.major fl.minor fl.patch fl.tag fl.tagNum
      fl.pinIncrements fl.pinDate date setVersion ce s0 = (s0, .error (.exc (.sysExit 1))) := by
  unfold GenL.test
  simp only [Cmd.bind_liftExc, tie_validateReleaseTag, tie_validateFlags]
  by_cases hrt : validReleaseTag fl.tag = true <;> by_cases hvf : validFlags pat fl = true <;>
    simp only [hrt, hvf, if_true, Bool.false_eq_true, if_false]
  rcases h with h | h | h
  · rw [hrt] at h; cases h
  · rw [hvf] at h; cases h
  · simp only [h]

/-- the tie for ANY pattern (`tie_cmdTest_any`, Proofs/Tie_cmdTestAny.lean) -/
theorem TieL.cmdTest_ref {DateTime : Type} (today : Date) (strptime : Str → Str → Option DateTime)
    (dateOf : DateTime → Date) (vg verbose : Int) (old pat : Str) (fl : IncrFlags) (date setVersion : Option Str)
    (hverb : pyMaxInt vg verbose ≠ 0 → CompilesForLog pat)
    (ce : CmdEnv) (s0 : CState) (hout : s0.out = []) :
    let r := GenL.test today strptime dateOf vg old pat verbose fl.major fl.minor fl.patch fl.tag fl.tagNum
      fl.pinIncrements fl.pinDate date setVersion ce s0
    r.1.p = s0.p ∧
    (r.1.out.reverse, ending r.2) = resultView (testRef strptime dateOf old pat fl date today setVersion) := by
  intro r
  simp only [r]
  have hinv := fun h => cmdTest_invalid today strptime dateOf vg verbose old pat fl date setVersion h ce s0
  unfold testRef
  by_cases hrt : validReleaseTag fl.tag = true
  · by_cases hvf : validFlags pat fl = true
    · simp only [hrt, hvf, Bool.not_true, Bool.false_eq_true, if_false]
      have hval := fun md hvd => cmdTest_valid_any today strptime dateOf vg verbose old pat fl date setVersion md hverb
        hrt hvf hvd ce s0 hout
      cases date with
      | none =>
        have := hval none (validateDate_absent strptime dateOf fl.pinDate)
        simpa only [Option.getD_none] using this
      | some d =>
        have hvd := tie_validateDate strptime dateOf (some d) fl.pinDate
        unfold validateDateRef at hvd
        simp only at hvd ⊢
        by_cases hcf : (!d.isEmpty && fl.pinDate) = true
        · have hx : GenC.validateDate strptime dateOf (some d) fl.pinDate = .error (.sysExit 1) := by
            rw [hvd]; simp only [hcf, if_true]
          rw [hinv (Or.inr (Or.inr hx))]
          simp only [hcf, if_true]
          simp [resultView, ending, hout]
        · simp only [hcf, Bool.false_eq_true, if_false] at hvd ⊢
          cases hsp : strptime d "%Y-%m-%d".toList with
          | none =>
            have hx : GenC.validateDate strptime dateOf (some d) fl.pinDate = .error (.sysExit 1) := by
              rw [hvd, hsp]
            rw [hinv (Or.inr (Or.inr hx))]
            simp [resultView, ending, hout]
          | some dt =>
            have hx : GenC.validateDate strptime dateOf (some d) fl.pinDate = .ok (some (dateOf dt)) := by
              rw [hvd, hsp]
            have := hval _ hx
            simpa only [Option.getD_some] using this
    · have hvf' : validFlags pat fl = false := by simpa using hvf
      rw [hinv (Or.inr (Or.inl hvf'))]
      simp [hrt, hvf', resultView, ending, hout]
  · have hrt' : validReleaseTag fl.tag = false := by simpa using hrt
    rw [hinv (Or.inl hrt')]
    simp [hrt', resultView, ending, hout]

theorem TieL.testRef_new {DateTime : Type} (strptime : Str → Str → Option DateTime) (dateOf : DateTime → Date)
    (old pat : Str) (fl : IncrFlags) (date : Option Str) (today : Date) (setVersion : Option Str)
    (hp : isNewPattern pat = true) (hempty : strptime [] "%Y-%m-%d".toList = none) :
    resultView (testRef strptime dateOf old pat fl date today setVersion)
      = outcomeView (testModel strptime dateOf old pat fl date today setVersion) := by
  unfold testRef testModel
  cases hrt : validReleaseTag fl.tag
  · cases date with
    | none => simp [cliTest, hrt, resultView, outcomeView]
    | some d => simp only [cliTest, hrt, Bool.not_false, if_true]; split <;> rfl
  cases hvf : validFlags pat fl
  · cases date with
    | none => simp [cliTest, hrt, hvf, resultView, outcomeView]
    | some d => simp only [cliTest, hrt, hvf, Bool.not_false, Bool.not_true, Bool.false_eq_true, if_true, if_false]; split <;> rfl
  simp only [Bool.not_true, Bool.false_eq_true, if_false]
  cases date with
  | none => rw [testCoreAny_new _ _ _ _ _ _ hp, cliTest_valid _ _ _ _ _ _ _ hrt hvf (by simp)]
  | some d =>
    simp only
    cases hsp : strptime d "%Y-%m-%d".toList with
    | none => cases (!d.isEmpty && fl.pinDate) <;> rfl
    | some dt =>
      have hne : d.isEmpty = false := by
        cases d with
        | nil => rw [hempty] at hsp; cases hsp
        | cons c cs => rfl
      cases hpin : fl.pinDate
      · simp only [hne, Bool.not_false, Bool.and_false, Bool.false_eq_true, if_false]
        rw [testCoreAny_new _ _ _ _ _ _ hp, cliTest_valid _ _ _ _ _ _ _ hrt hvf (by simp [hpin])]
      · simp [hne, cliTest, hrt, hvf, hpin, resultView, outcomeView]

theorem tie_cmdTest {DateTime : Type} (today : Date) (strptime : Str → Str → Option DateTime)
    (dateOf : DateTime → Date) (vg verbose : Int) (old pat : Str) (fl : IncrFlags) (date setVersion : Option Str)
    (hp : isNewPattern pat = true)
    (hempty : strptime [] "%Y-%m-%d".toList = none)
    (hverb : pyMaxInt vg verbose ≠ 0 → ∃ r, pyV2CompilePattern pat = .ok r)
    (ce : CmdEnv) (s0 : CState) (hout : s0.out = []) :
    let r := GenL.test today strptime dateOf vg old pat verbose fl.major fl.minor fl.patch fl.tag fl.tagNum
      fl.pinIncrements fl.pinDate date setVersion ce s0
    r.1.p = s0.p ∧
    (r.1.out.reverse, ending r.2) = outcomeView (testModel strptime dateOf old pat fl date today setVersion) := by
  intro r
  have hlog := fun h => compilesForLog_of_new hp (hverb h)
  rw [← testRef_new strptime dateOf old pat fl date today setVersion hp hempty]
  exact cmdTest_ref today strptime dateOf vg verbose old pat fl date setVersion hlog ce s0 hout

end BV
