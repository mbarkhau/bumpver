/-
  Proofs/Tie_argvCall.lean — source-level ties for `vcs.VCSAPI.__init__` and `vcs.VCSAPI.__call__`
  (generated: Gen/F_argvInit.lean, Gen/F_argvCall.lean; property C12).

  `tie_argvCall` (ALL template tables, command names, environments, keyword dictionaries, worlds and traces):

      VCSAPI.__call__(cmd_name, env, **kwargs)  =  callRef
        = look the template up (KeyError) · format the WHOLE template for the log line (its exception, if any,
          comes first; its value is only logged) · the hand model's `argv` = `shlex.split(TEMPLATE)` FIRST,
          then `.format(**kwargs)` on every token · ONE process with exactly that argument vector, the given
          environment and stderr captured · its output.

  The statement shows WHICH string is split (the template, not the formatted command) and which are formatted
  (its tokens): the pre-repair order `shlex.split(cmd_tmpl.format(**kwargs))` (`argvLegacy`, DESIGN.md D10) is a
  different generated term and `tie_argvCall` fails for it (`Eff.shlexSplit cmd_str`).

  `tie_argvCall_std`: on the GENERATED table (`Gen.vcsTemplates` = `VCS_SUBCOMMANDS_BY_NAME` of the working tree)
  the log line never decides anything — `table_logAgrees`, a `decide` over the regenerated table, says that for
  every template formatting the whole string fails exactly when formatting its tokens fails, with the same
  exception — so `__call__` IS `argv` followed by the process.  No hypothesis on the keyword arguments.
-/
import BumpverVerif.Gen.F_argvInit
import BumpverVerif.Gen.F_argvCall
import BumpverVerif.Gen.VcsTemplates
import BumpverVerif.Proofs.ArgvLemmas
namespace BV.TieK
open BV.TieK.Gen

/-! ### `VCSAPI.__init__` -/

/-- `VCSAPI(name)` with the standard table of that name -/
def VcsApi.std (name : Str) : VcsApi :=
  { name := name, subcommands := (lookup name BV.Gen.vcsTemplates).getD [] }

/-- reference: `subcommands=None` selects `VCS_SUBCOMMANDS_BY_NAME[name]` (KeyError for an unknown name) -/
def initRef (name : Str) (subcommands : Option EnvMap) : Eff VcsApi :=
  match subcommands with
  | some t => Eff.pure { name := name, subcommands := t }
  | none =>
    match lookup name BV.Gen.vcsTemplates with
    | some t => Eff.pure { name := name, subcommands := t }
    | none => Eff.throw .keyError

theorem tie_argvInit (name : Str) (subcommands : Option EnvMap) :
    argvInit name subcommands = initRef name subcommands := by
  funext w s
  unfold argvInit initRef
  cases subcommands with
  | some t => rfl
  | none =>
    simp only [Eff.bind, Eff.dictGet, Eff.ofOption]
    cases lookup name BV.Gen.vcsTemplates <;> rfl

/-- for the two names of the table the constructor yields `VcsApi.std` -/
theorem tie_argvInit_std (name : Str) (h : (lookup name BV.Gen.vcsTemplates).isSome = true) :
    argvInit name none = Eff.pure (VcsApi.std name) := by
  rw [tie_argvInit]
  obtain ⟨t, ht⟩ := Option.isSome_iff_exists.1 h
  simp only [initRef, VcsApi.std, ht, Option.getD_some]

/-! ### `VCSAPI.__call__` -/

/-- the reference definition (see the file header) -/
def callRef (self : VcsApi) (cmd_name : Str) (env : Option EnvMap) (kw : List (Str × Str)) : Eff Str := fun w s =>
  match lookup cmd_name self.subcommands with
  | none => (s, .error .keyError)
  | some tmpl =>
    match pyFormat kw tmpl with                         -- `cmd_str`: formatted as a whole, only logged
    | .error e => (s, .error (stopOfFmt e))
    | .ok _ =>
      match argv tmpl kw with                           -- split the TEMPLATE, format each token
      | .error e => (s, .error (stopOfArgv e))
      | .ok parts => Eff.checkOutput parts env true w s

theorem tie_argvCall (self : VcsApi) (cmd_name : Str) (env : Option EnvMap) (kw : List (Str × Str)) :
    argvCall self cmd_name env kw = callRef self cmd_name env kw := by
  funext w s
  unfold argvCall callRef
  simp only [Eff.bind_pure_right]
  simp only [Eff.bind, Eff.dictGet, Eff.ofOption]
  cases lookup cmd_name self.subcommands with
  | none => rfl
  | some tmpl =>
    simp only [Eff.pure]
    rw [Eff.format_eq tmpl kw]
    cases pyFormat kw tmpl with
    | error e => rfl
    | ok cmd_str =>
      simp only [Eff.ofExcept, Except.mapError, Eff.pure, Eff.shlexSplit, Eff.ofOption, argv]
      cases BV.shlexSplit tmpl with
      | none => rfl
      | some toks =>
        simp only [Eff.pure, Eff.mapM_format]
        cases mapFormat kw toks with
        | error e => rfl
        | ok parts =>
          simp only [Except.mapError, utf8Decode]
          rcases Eff.checkOutput parts env true w s with ⟨s', r⟩
          cases r <;> rfl

/-- the order in which the keyword arguments are written does not matter -/
theorem callRef_kw_congr (self : VcsApi) (cmd_name : Str) (env : Option EnvMap) {kw kw' : List (Str × Str)}
    (h : ∀ k, lookup k kw = lookup k kw') : callRef self cmd_name env kw = callRef self cmd_name env kw' := by
  funext w s
  simp only [callRef, pyFormat_congr h, argv_congr h]

/-! ### on the generated table the log line never decides -/

/-- formatting the whole template and formatting its tokens have the same skeleton -/
def logAgrees (tmpl : Str) : Bool :=
  match BV.shlexSplit tmpl with
  | some toks => decide (fmtSkel tmpl = skelCat toks)
  | none => false

theorem logAgrees_spec {tmpl : Str} (h : logAgrees tmpl = true) (kw : List (Str × Str)) (e : FmtErr)
    (he : pyFormat kw tmpl = .error e) : argv tmpl kw = .error (.fmt e) := by
  unfold logAgrees at h
  unfold argv
  cases hs : BV.shlexSplit tmpl with
  | none => rw [hs] at h; cases h
  | some toks =>
    rw [hs] at h
    have hsk : fmtSkel tmpl = skelCat toks := of_decide_eq_true h
    have h1 := errOf_pyFormat kw tmpl
    rw [he, hsk] at h1
    have h2 := errOf_mapFormat kw toks
    rw [← h1] at h2
    exact errOf_some h2

/-- every template of the working tree has that property (re-checked whenever the table is regenerated) -/
theorem table_logAgrees :
    BV.Gen.vcsTemplates.all (fun vc => vc.2.all (fun ct => logAgrees ct.2)) = true := by
  -- the literals of the table are decoded by lemma (`String.toList` of a literal would run the UTF-8 decoder)
  unfold BV.Gen.vcsTemplates
  repeat rw [String.toList_ofList]
  decide +kernel

theorem table_logAgrees_of {vcs cmd tmpl : Str} {tbl : List (Str × Str)}
    (h1 : lookup vcs BV.Gen.vcsTemplates = some tbl) (h2 : lookup cmd tbl = some tmpl) : logAgrees tmpl = true := by
  have h := table_logAgrees
  simp only [List.all_eq_true] at h
  exact h _ (lookup_mem h1) _ (lookup_mem h2)

/-- `__call__` on a standard `VCSAPI` object: the hand model's `argv`, then ONE process with that argument
    vector.  For every command of the table, ALL keyword dictionaries (missing keys included), environments,
    worlds and traces. -/
theorem tie_argvCall_std {vcs cmd tmpl : Str} {tbl : List (Str × Str)}
    (h1 : lookup vcs BV.Gen.vcsTemplates = some tbl) (h2 : lookup cmd tbl = some tmpl)
    (env : Option EnvMap) (kw : List (Str × Str)) (w : World) (s : List KEv) :
    argvCall (VcsApi.std vcs) cmd env kw w s =
      match argv tmpl kw with
      | .error e => (s, .error (stopOfArgv e))
      | .ok parts => Eff.checkOutput parts env true w s := by
  rw [tie_argvCall]
  simp only [callRef, VcsApi.std, h1, Option.getD_some, h2]
  cases hp : pyFormat kw tmpl with
  | ok _ => rfl
  | error e => rw [logAgrees_spec (table_logAgrees_of h1 h2) kw e hp]; rfl

/-- … and a command name that is not in the table is a KeyError before anything runs -/
theorem tie_argvCall_std_unknown {vcs cmd : Str} {tbl : List (Str × Str)}
    (h1 : lookup vcs BV.Gen.vcsTemplates = some tbl) (h2 : lookup cmd tbl = none)
    (env : Option EnvMap) (kw : List (Str × Str)) (w : World) (s : List KEv) :
    argvCall (VcsApi.std vcs) cmd env kw w s = (s, .error .keyError) := by
  rw [tie_argvCall]
  simp only [callRef, VcsApi.std, h1, Option.getD_some, h2]

/-- why `callRef` formats the whole template first: on a CUSTOM table the log line can raise although the repaired
    construction would succeed.  Witness on the real code:
    `VCSAPI('git', {'x': "echo {a}'{'{b}'}'"})('x', a='1', b='2')` raises `ValueError: unexpected '{' in field name`
    (from `cmd_str = cmd_tmpl.format(**kwargs)`), while `[p.format(a='1', b='2') for p in shlex.split(tmpl)]` is
    `['echo', '1{b}']`.  On the standard table this cannot happen (`table_logAgrees`). -/
theorem log_line_decides_witness :
    errOf (pyFormat [("a".toList, "1".toList), ("b".toList, "2".toList)] "echo {a}'{'{b}'}'".toList) = some .unsupported
      ∧ argv "echo {a}'{'{b}'}'".toList [("a".toList, "1".toList), ("b".toList, "2".toList)]
          = .ok ["echo".toList, "1{b}".toList]
      ∧ logAgrees "echo {a}'{'{b}'}'".toList = false := by
  repeat rw [String.toList_ofList]
  decide +kernel

/-- the repaired defect (D10), stated on the reference: the pre-repair order lets a VALUE change the argument
    vector; with `argv` it cannot (Props/C12.lean `C12_legacy_injection_witness` is the model-level witness) -/
example : argvLegacy "git commit --message '{message}'".toList [("message".toList, "a' --amend '".toList)]
    ≠ argv "git commit --message '{message}'".toList [("message".toList, "a' --amend '".toList)] := by
  repeat rw [String.toList_ofList]
  decide +kernel

end BV.TieK
