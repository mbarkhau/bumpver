/-
  Proofs/Tie_v1Diff.lean — the definition GENERATED from the Python source of `v1rewrite.diff`
  (Gen/F_v1Diff.lean; `difflib` stays the parameter `diff_lines`) against the legacy dry path of the hand
  model (`v1HasUpdatedVersion`, `v1DiffFile`, `v1DiffFiles`, `v1DiffAll`, Model/V1Rewrite.lean), up to
  (old_lines, new_lines):

  * `tie_v1Diff` : the file system is untouched; if a configured file is missing the result is the IOError
    (ALL files are checked first: `sorted(...)` runs `iter_path_patterns_items` to exhaustion); otherwise the
    files are processed in the order of their paths and each contributes `"\n".join(diff_lines(rfd)) + "\n"`
    where `rfd` carries exactly the (old_lines, new_lines) of the model's `v1DiffFile` — or the whole call fails
    with `v1DiffFile`'s error.  The `has_updated_version` loop runs BEFORE `rfd_from_content` and propagates the
    exceptions of `format_version`; the model `v1DiffFile` has the same order, so — unlike `tie_diff` of the v2
    path — NO hypothesis about `format_version` is needed;
  * `tie_v1Diff_outcome` : success / the error of `diff` is success / the error of the model's `v1DiffAll`;
  * `tie_v1Diff_pure` : `diff` never writes.

  Explicit hypotheses:
  * `hdl` : `diff_lines rfd` is empty iff old_lines = new_lines (the model tests `old == new`, Python tests
            `len(lines) == 0` on difflib's output; difflib itself is not modelled);
  * `hwf` : the patterns were made by the legacy compiler (`TieM.Wf1`).
-/
import BumpverVerif.Gen.F_v1Diff
import BumpverVerif.Proofs.Tie_v1IterRewritten
import BumpverVerif.Proofs.Tie_iterPathPatternsItems
import BumpverVerif.Proofs.Tie_diffFold
namespace BV

open GenF (Pattern RewrittenFileData)

namespace TieM

/-- one iteration of the `has_updated_version` loop, as a function of the two renderings -/
def updStep (a b : Except PErr Str) (st : Bool) : Except RwErr Bool :=
  match a, b with
  | .error e, _ => .error (.crash e)
  | .ok _, .error e => .error (.crash e)
  | .ok x, .ok y => .ok ((x != y) || st)

/-- the loop that computes `has_updated_version` is the model's `v1HasUpdatedVersion` -/
theorem pyForFS_hasUpdated (old new : V1Info) (body : Pattern → Bool → FS → FS × Except RwErr Bool)
    (hb : ∀ p st fs, body p st fs = (fs, updStep (v1Render old p.abs) (v1Render new p.abs) st))
    (l : List Pattern) (st : Bool) (fs : FS) :
    GenF.pyForFS l body st fs = (fs, (v1HasUpdatedVersion old new (l.map Pattern.abs)).map (fun r => st || r)) := by
  induction l generalizing st with
  | nil => simp [GenF.pyForFS_nil, v1HasUpdatedVersion, Except.map]
  | cons p l ih =>
    rw [GenF.pyForFS_cons, hb]
    simp only [List.map_cons, v1HasUpdatedVersion, updStep]
    cases v1Render old p.abs with
    | error e => rfl
    | ok a =>
      cases v1Render new p.abs with
      | error e => rfl
      | ok b =>
        simp only []
        rw [ih]
        cases v1HasUpdatedVersion old new (l.map Pattern.abs) with
        | error e => rfl
        | ok r =>
          simp only [Except.map]
          cases (a != b) <;> cases st <;> cases r <;> rfl

def diffFold (diff_lines : RewrittenFileData → List Str) (fs : FS) (old new : V1Info)
    (l : List (Str × List Pattern)) (acc : Str) : Except RwErr Str :=
  diffFoldWith (fun fs => v1DiffFile fs old new) diff_lines fs l acc

/-! the sort by path: Python's `sorted(items)` on the objects, `sortByPath` on the abstraction -/

theorem map_pyInsertBy_path (x : Str × List Pattern) (ys : List (Str × List Pattern)) :
    GenF.absFilePatterns (GenF.pyInsertBy (fun a b => !(strLt b.1 a.1)) x ys)
      = insertByPath (x.1, x.2.map Pattern.abs) (GenF.absFilePatterns ys) := by
  induction ys with
  | nil => rfl
  | cons y ys ih =>
    simp only [GenF.pyInsertBy, GenF.absFilePatterns, List.map_cons, insertByPath]
    by_cases h : strLt y.1 x.1 = true
    · simp only [h, Bool.not_true, Bool.false_eq_true, if_false, if_true, List.map_cons]
      have := ih
      simp only [GenF.absFilePatterns] at this
      rw [this]
    · simp [h]

theorem abs_sortedByPath (l : List (Str × List Pattern)) :
    GenF.absFilePatterns (GenF.pySortedBy (fun x => x.1) (fun a b => strLt a b) l)
      = sortByPath (GenF.absFilePatterns l) := by
  unfold GenF.pySortedBy
  induction l with
  | nil => rfl
  | cons x l ih =>
    rw [List.foldr_cons, map_pyInsertBy_path, ih]
    rfl

/-- success, or the error, of the per-file fold of `diff` is success, or the error, of the model's
    `v1DiffFiles` on the same list of files -/
theorem diffFold_outcome (diff_lines : RewrittenFileData → List Str) (fs : FS) (old new : V1Info)
    (l : List (Str × List Pattern)) (acc : Str) :
    (diffFold diff_lines fs old new l acc).map (fun _ => ()) =
      (v1DiffFiles fs old new (GenF.absFilePatterns l)).map (fun _ => ()) :=
  diffFoldWith_outcome _ diff_lines fs (fun path pats h => by simp only [v1DiffFile, h])
    (v1DiffFiles fs old new) rfl (fun _ _ _ => rfl) l acc

end TieM

theorem tie_v1Diff (old_vinfo new_vinfo : V1Info) (file_patterns : List (Str × List Pattern))
    (diff_lines : RewrittenFileData → List Str) (fs : FS)
    (hdl : ∀ rfd, (diff_lines rfd).length = 0 ↔ rfd.old_lines = rfd.new_lines)
    (hwf : TieM.WfFilePatterns1 file_patterns) :
    GenF.v1Diff old_vinfo new_vinfo file_patterns diff_lines fs =
      (fs, if file_patterns.all (fun it => (lookup it.1 fs).isSome) then
             (TieM.diffFold diff_lines fs old_vinfo new_vinfo
               (GenF.pySortedBy (fun x => x.1) (fun a b => strLt a b) file_patterns) []).map
                 (rstripChars "\n".toList)
           else .error .missingFile) := by
  unfold GenF.v1Diff TieM.diffFold
  simp only [tie_iterPathPatternsItems]
  by_cases hall : file_patterns.all (fun it => (lookup it.1 fs).isSome) = true
  · simp only [hall, if_true]
    rw [TieM.pyForFS_eq_diffFoldWith (fun fs => v1DiffFile fs old_vinfo new_vinfo) diff_lines
      (fun it => ∀ p ∈ it.2, TieM.Wf1 p) _ ?hb _ ?hl]
    case hl =>
      intro it hit
      unfold GenF.pySortedBy at hit
      exact hwf it ((GenF.mem_foldr_pyInsertBy _ it _).1 hit)
    case hb =>
      intro it acc fs' hit
      simp only [GenF.pyRead, TieM.diffStepWith, v1DiffFile]
      have hl : lookup it.1 fs' = none ∨ ∃ c, lookup it.1 fs' = some c := by
        cases lookup it.1 fs' <;> simp
      rcases hl with hl | ⟨content, hl⟩
      · simp [hl]
      · simp only [hl]
        rw [TieM.pyForFS_hasUpdated old_vinfo new_vinfo _ ?hu]
        case hu =>
          intro p st fs''
          have e1 : p.abs.raw = p.raw_pattern := rfl
          simp only [TieM.updStep, v1Render, e1]
          cases v1FormatVersion old_vinfo p.raw_pattern with
          | error e => rfl
          | ok a =>
            cases v1FormatVersion new_vinfo p.raw_pattern with
            | error e => rfl
            | ok b =>
              simp only []
              -- `if old != new: flag = True`, `if old == new: pass else: flag = True`, `flag = flag or old != new` … all mean the same
              by_cases hab : a = b
              · subst hab; cases st <;> simp
              · cases st <;> simp [hab]
        simp only [tie_v1RfdFromContent it.2 new_vinfo content _ hit, Bool.false_or]
        cases v1HasUpdatedVersion old_vinfo new_vinfo (it.2.map Pattern.abs) with
        | error e => rfl
        | ok upd =>
          simp only [Except.map]
          cases v1RewriteLines (it.2.map Pattern.abs) new_vinfo (splitOn (detectLineSep content) content) with
          | error e =>
            simp only []
            split <;> simp_all
          | ok nl =>
            simp only []
            have h1 := hdl (rfdOf it.1 content nl)
            by_cases heq : splitOn (detectLineSep content) content = nl
            · have hz : diff_lines (rfdOf it.1 content nl) = [] := List.length_eq_zero_iff.1 (h1.2 heq)
              subst heq
              simp only [rfdOf] at hz
              cases upd <;> simp [hz, rfdOf]
            · have hz : ¬ diff_lines (rfdOf it.1 content nl) = [] :=
                fun h => heq (h1.1 (List.length_eq_zero_iff.2 h))
              simp only [rfdOf] at hz
              simp [hz, heq, rfdOf]
    rw [show ("".toList : Str) = [] from rfl]
    cases TieM.diffFoldWith (fun fs => v1DiffFile fs old_vinfo new_vinfo) diff_lines fs
      (GenF.pySortedBy (fun x => x.1) (fun a b => strLt a b) file_patterns) [] <;> rfl
  · simp [hall]

/-- `diff` never writes: whatever the parameters, the file system comes back unchanged -/
theorem tie_v1Diff_pure (old_vinfo new_vinfo : V1Info) (file_patterns : List (Str × List Pattern))
    (diff_lines : RewrittenFileData → List Str) (fs : FS) :
    (GenF.v1Diff old_vinfo new_vinfo file_patterns diff_lines fs).1 = fs := by
  unfold GenF.v1Diff
  simp only [tie_iterPathPatternsItems]
  by_cases hall : file_patterns.all (fun it => (lookup it.1 fs).isSome) = true
  · simp only [hall, if_true]
    generalize hres : GenF.pyForFS _ _ _ _ = res
    have h1 : res.1 = fs := by
      rw [← hres]
      refine GenF.pyForFS_fst _ ?_ _ _ _
      intro x st fs'
      split
      · rfl
      · generalize hin : GenF.pyForFS _ _ _ _ = inner
        have h2 : inner.1 = fs' := by
          rw [← hin]
          refine GenF.pyForFS_fst _ ?_ _ _ _
          intro p b fs''
          repeat' split
          all_goals rfl
        obtain ⟨fi, ri⟩ := inner
        simp only at h2
        subst h2
        cases ri with
        | error e => rfl
        | ok b =>
          simp only []
          repeat' split
          all_goals rfl
    obtain ⟨a, r⟩ := res
    simp only at h1
    subst h1
    cases r <;> rfl
  · simp [hall]

/-- success / the error of `v1rewrite.diff` is success / the error of the model's `v1DiffAll` -/
theorem tie_v1Diff_outcome (old_vinfo new_vinfo : V1Info) (file_patterns : List (Str × List Pattern))
    (diff_lines : RewrittenFileData → List Str) (fs : FS)
    (hdl : ∀ rfd, (diff_lines rfd).length = 0 ↔ rfd.old_lines = rfd.new_lines)
    (hwf : TieM.WfFilePatterns1 file_patterns) :
    (GenF.v1Diff old_vinfo new_vinfo file_patterns diff_lines fs).2.map (fun _ => ()) =
      (v1DiffAll fs old_vinfo new_vinfo (GenF.absFilePatterns file_patterns)).map (fun _ => ()) := by
  rw [tie_v1Diff _ _ _ _ _ hdl hwf]
  unfold v1DiffAll
  have hall : (GenF.absFilePatterns file_patterns).all (fun it => (lookup it.1 fs).isSome)
      = file_patterns.all (fun it => (lookup it.1 fs).isSome) := by
    simp [GenF.absFilePatterns, List.all_map, Function.comp_def]
  rw [hall, ← TieM.abs_sortedByPath]
  by_cases h : file_patterns.all (fun it => (lookup it.1 fs).isSome) = true
  · simp only [h, if_true]
    rw [← TieM.diffFold_outcome diff_lines]
    cases TieM.diffFold diff_lines fs old_vinfo new_vinfo
      (GenF.pySortedBy (fun x => x.1) (fun a b => strLt a b) file_patterns) [] <;> rfl
  · simp [h, Except.map]

end BV
