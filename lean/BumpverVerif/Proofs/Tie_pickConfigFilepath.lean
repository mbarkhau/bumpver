/-
  Proofs/Tie_pickConfigFilepath.lean — the definition GENERATED from the Python source of
  `config._pick_config_filepath` (Gen/F_pickConfigFilepath.lean) equals the hand model
  `BV.pickConfigFile` (Model/Config.lean, property C19) on all inputs.

  The file system is abstracted: `pathlib`'s `/`, `Path.exists()` and "open in mode rb and read" are
  the parameters `path_join`, `path_exists`, `read_bytes` of the generated definition (any type of
  paths).  The model works on file NAMES relative to the project directory and on a `World`
  (name ↦ absent / empty / unrelated / hasSection); the abstraction is
      worldAt … name = classify (if exists (path / name) then some (read (path / name)) else none).
  The tie also checks the candidate list and the fallback against the GENERATED tables
  `Gen.configCandidates` / `Gen.configFallback` (harness/gen_tables.py reads them from the same AST).

  This is the translation by harness/translate_cli.py; Proofs/Tie_pickConfigFile.lean ties the translation of the same
  function by harness/translate_config.py, over a `ProjFS`.
-/
import BumpverVerif.Gen.F_pickConfigFilepath
import BumpverVerif.Model.Config
namespace BV

/-- the model's view of the project directory `path` -/
def worldAt {Path : Type} (join : Path → Str → Path) (ex : Path → Bool) (read : Path → Str) (path : Path) : World :=
  worldOf (fun name => if ex (join path name) then some (read (join path name)) else none)

theorem findSome?_eq_find? {α : Type} (f : α → Option α) (p : α → Bool)
    (h : ∀ x, f x = if p x then some x else none) (l : List α) : l.findSome? f = l.find? p := by
  induction l with
  | nil => rfl
  | cons a as ih =>
    simp only [List.findSome?_cons, List.find?_cons, h a]
    cases p a <;> simp [ih]

theorem find?_map' {α β : Type} (g : α → β) (p : β → Bool) (l : List α) :
    (l.map g).find? p = (l.find? (fun a => p (g a))).map g := by
  induction l with
  | nil => rfl
  | cons a as ih =>
    simp only [List.map_cons, List.find?_cons]
    cases p (g a) <;> simp [ih]

theorem classify_eq_hasSection (o : Option Str) :
    (classify o == .hasSection) =
      match o with
      | none => false
      | some d => (isInfix "bumpver]".toList d || isInfix "pycalver]".toList d) && isInfix "current_version".toList d := by
  cases o with
  | none => rfl
  | some d =>
    cases d with
    | nil => rfl
    | cons c cs =>
      simp only [classify]
      split
      · rename_i h; rw [h]; rfl
      · rename_i h; rw [Bool.not_eq_true] at h; rw [h]; rfl

theorem classify_ne_absent (o : Option Str) : (classify o != .absent) = o.isSome := by
  cases o with
  | none => rfl
  | some d =>
    cases d with
    | nil => rfl
    | cons c cs => simp only [classify]; split <;> rfl

theorem tie_pickConfigFilepath {Path : Type} (join : Path → Str → Path) (ex : Path → Bool) (read : Path → Str)
    (path : Path) :
    GenC.pickConfigFilepath join ex read path = join path (pickConfigFile (worldAt join ex read path)) := by
  have hc : [join path "pycalver.toml".toList, join path "bumpver.toml".toList, join path ".bumpver.toml".toList,
      join path "pyproject.toml".toList, join path "setup.cfg".toList] = Gen.configCandidates.map (join path) := rfl
  have hf : join path "bumpver.toml".toList = join path Gen.configFallback := rfl
  unfold GenC.pickConfigFilepath pickConfigFile
  dsimp only
  rw [hc, hf]
  rw [findSome?_eq_find? (p := fun c => ex c && ((isInfix "bumpver]".toList (read c) || isInfix "pycalver]".toList (read c))
        && isInfix "current_version".toList (read c))),
      findSome?_eq_find? (p := ex)]
  · rw [find?_map', find?_map']
    have h1 : (fun a => ex (join path a) && ((isInfix "bumpver]".toList (read (join path a)) ||
        isInfix "pycalver]".toList (read (join path a))) && isInfix "current_version".toList (read (join path a))))
        = (fun f => worldAt join ex read path f == .hasSection) := by
      funext a
      simp only [worldAt, worldOf, classify_eq_hasSection]
      cases ex (join path a) <;> rfl
    have h2 : (fun a => ex (join path a)) = (fun f => (worldAt join ex read path).exists_ f) := by
      funext a
      simp only [World.exists_, worldAt, worldOf, classify_ne_absent]
      cases ex (join path a) <;> rfl
    rw [h1, h2]
    cases Gen.configCandidates.find? (fun f => worldAt join ex read path f == .hasSection) with
    | some f => rfl
    | none =>
      cases Gen.configCandidates.find? (fun f => (worldAt join ex read path).exists_ f) <;> rfl
  · intro c; cases ex c <;> rfl
  · intro c
    cases ex c
    · rfl
    · try dsimp only
      generalize isInfix "bumpver]".toList (read c) = b1
      generalize isInfix "pycalver]".toList (read c) = b2
      generalize isInfix "current_version".toList (read c) = b3
      cases b1 <;> cases b2 <;> cases b3 <;> rfl

end BV
