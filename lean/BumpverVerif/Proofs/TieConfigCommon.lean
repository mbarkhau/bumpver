/-
  Proofs/TieConfigCommon.lean — lemmas shared by the ties of the `config` group (namespace `BV.TieH`,
  so that generic names such as `lookup_setOpt_ne` cannot clash with other groups' helper files)
  (Proofs/Tie_parseConfig.lean, Tie_parseCfg.lean, …): the exception classes of the hand model's
  errors as `rfl` facts, the generated enum `GenF.Cfg.TagScope` against the generated table
  `Gen.tagScopes`, small facts about the primitives of Model/ConfigPy.lean.
-/
import BumpverVerif.Gen.F_configTypes
import BumpverVerif.Proofs.ConfigLemmas
namespace BV.TieH

/-! ### `CfgErr.pyClass` (the abstraction of errors) on every constructor -/
theorem pyClass_missingSection : CfgErr.pyClass .missingSection = "ValueError".toList := rfl
theorem pyClass_missingPattern : CfgErr.pyClass .missingPattern = "TypeError".toList := rfl
theorem pyClass_patternType : CfgErr.pyClass .patternType = "TypeError".toList := rfl
theorem pyClass_missingVersion : CfgErr.pyClass .missingVersion = "ValueError".toList := rfl
theorem pyClass_versionType : CfgErr.pyClass .versionType = "TypeError".toList := rfl
theorem pyClass_noVersionLine : CfgErr.pyClass .noVersionLine = "ValueError".toList := rfl
theorem pyClass_notAString : CfgErr.pyClass .notAString = "AttributeError".toList := rfl
theorem pyClass_keyError : CfgErr.pyClass .keyError = "KeyError".toList := rfl
theorem pyClass_invalidVersion : CfgErr.pyClass .invalidVersion = "ValueError".toList := rfl
theorem pyClass_bracketPattern : CfgErr.pyClass .bracketPattern = "ValueError".toList := rfl
theorem pyClass_reError : CfgErr.pyClass .reError = "re.error".toList := rfl
theorem pyClass_tagScope : CfgErr.pyClass .tagScope = "ValueError".toList := rfl
theorem pyClass_tagRequiresCommit : CfgErr.pyClass .tagRequiresCommit = "ValueError".toList := rfl
theorem pyClass_pushRequiresCommit : CfgErr.pyClass .pushRequiresCommit = "ValueError".toList := rfl
theorem pyClass_preHookMissing : CfgErr.pyClass .preHookMissing = "ValueError".toList := rfl
theorem pyClass_postHookMissing : CfgErr.pyClass .postHookMissing = "ValueError".toList := rfl

/-- no error of the hand model is the pseudo class `!cast` -/
theorem pyClass_ne_cast (e : CfgErr) : e.pyClass ≠ "!cast".toList := by
  cases e <;> decide

/-! ### the generated enum `TagScope` and the generated table `Gen.tagScopes` -/
theorem isSome_ite3 {β} (s a b c : Str) (x y z : β) :
    (if s == a then some x else if s == b then some y else if s == c then some z else none).isSome
      = [a, b, c].contains s := by
  by_cases h1 : s = a
  · subst h1; simp
  · by_cases h2 : s = b
    · subst h2; simp [h1]
    · by_cases h3 : s = c
      · subst h3; simp [h1, h2]
      · simp [h1, h2, h3]

open GenF in
theorem tagScope_ofValue_isSome (s : Str) : (Cfg.TagScope.ofValue s).isSome = Gen.tagScopes.contains s := by
  have : Gen.tagScopes = ["default".toList, "global".toList, "branch".toList] := by decide
  rw [this]
  exact isSome_ite3 s _ _ _ _ _ _

theorem value_of_ite3 {β} (s a b c : Str) (x y z v : β) (f : β → Str) (hx : f x = a) (hy : f y = b) (hz : f z = c)
    (h : (if s == a then some x else if s == b then some y else if s == c then some z else none) = some v) :
    f v = s := by
  by_cases h1 : s = a
  · subst h1; simp at h; rw [← h, hx]
  · by_cases h2 : s = b
    · subst h2; simp [h1] at h; rw [← h, hy]
    · by_cases h3 : s = c
      · subst h3; simp [h1, h2] at h; rw [← h, hz]
      · simp [h1, h2, h3] at h

open GenF in
theorem tagScope_value_of (s : Str) (v : Cfg.TagScope) (h : Cfg.TagScope.ofValue s = some v) : v.value = s := by
  unfold Cfg.TagScope.ofValue at h
  exact value_of_ite3 s "default".toList "global".toList "branch".toList Cfg.TagScope.DEFAULT Cfg.TagScope.GLOBAL
    Cfg.TagScope.BRANCH v Cfg.TagScope.value rfl rfl rfl h

open GenF in
theorem tagScope_mem_all (v : Cfg.TagScope) : List.elem v Cfg.TagScope.all = true := by
  cases v <;> decide

open GenF in
theorem tagScope_default : Cfg.TagScope.value Cfg.TagScope.DEFAULT = Gen.defaultTagScope := by decide

/-! ### the raw dict after `_parse_cfg_strings` -/

/-- the raw dict after `if key in raw_cfg: raw_cfg[key] = raw_cfg[key].strip("'\" ")` -/
def stripOpt (key : Str) (raw : TomlSection) : TomlSection :=
  match lookup key raw.opts with
  | some (.str s) => { raw with opts := setOpt key (.str (stripQuotes s)) raw.opts }
  | _ => raw

theorem lookup_stripOpt_ne (k key : Str) (raw : TomlSection) (h : k ≠ key) :
    lookup k (stripOpt key raw).opts = lookup k raw.opts := by
  unfold stripOpt
  split
  · simp [lookup_setOpt, h]
  · rfl

theorem stripOpt_filePatterns (key : Str) (raw : TomlSection) :
    (stripOpt key raw).filePatterns = raw.filePatterns := by
  unfold stripOpt
  split <;> rfl

/-! ### association lists, again: the two halves of `lookup_setOpt` as conditional rewrite rules.
    Used as `simp (disch := exact toList_ne (by simp)) only [lookup_setOpt_ne]`: two keys written as string literals
    are compared as strings (evaluating `"a".toList` means decoding the literal, which is slow) -/
theorem toList_ne {a b : String} (h : a ≠ b) : a.toList ≠ b.toList := fun e => h (String.toList_inj.mp e)

theorem lookup_setOpt_eq {α} (k : Str) (v : α) (l : List (Str × α)) : lookup k (setOpt k v l) = some v := by
  simp [lookup_setOpt]

theorem lookup_setOpt_ne {α} (k k' : Str) (v : α) (l : List (Str × α)) (h : k ≠ k') :
    lookup k (setOpt k' v l) = lookup k l := by
  simp [lookup_setOpt, h]

/-! ### the hand model's string readers as matches on `Py.strOf` -/
theorem strOptDefault_match (k d : Str) (o : List (Str × RawVal)) :
    strOptDefault k d o = match Py.strOf ((lookup k o).getD (.str d)) with
      | none => .error .notAString
      | some s => .ok (stripQuotes s) := by
  unfold strOptDefault
  rcases lookup k o with _ | (s | _ | _) <;> rfl

theorem strReq_match (k : Str) (o : List (Str × RawVal)) :
    strReq k o = match lookup k o with
      | none => .error .keyError
      | some v => match Py.strOf v with
        | none => .error .notAString
        | some s => .ok (stripQuotes s) := by
  unfold strReq
  rcases lookup k o with _ | (s | _ | _) <;> rfl

theorem parseCfgStrings_setOpt_ne (k k' d : Str) (v : RawVal) (o : List (Str × RawVal)) (h : k ≠ k') :
    parseCfgStrings k d (setOpt k' v o) = parseCfgStrings k d o := by
  unfold parseCfgStrings
  rw [lookup_setOpt_ne k k' v o h]

theorem parseCfgStrings_stripOpt_ne (k k' d : Str) (r : TomlSection) (h : k ≠ k') :
    parseCfgStrings k d (stripOpt k' r).opts = parseCfgStrings k d r.opts := by
  unfold parseCfgStrings
  rw [lookup_stripOpt_ne k k' r h]

/-- used as `rw [strOf_default k _ _ Gen.defaultX (by decide)]`: the literal default inlined from the
    Python module is the generated table entry, whatever its text is -/
theorem strOf_default (k : Str) (o : List (Str × RawVal)) (d d' : Str) (h : d = d') :
    Py.strOf ((lookup k o).getD (RawVal.str d)) = Py.strOf ((lookup k o).getD (RawVal.str d')) := by rw [h]

theorem emptyStr : "".toList = ([] : Str) := rfl

theorem isInfix_lbrace (s : Str) : isInfix "{".toList s = s.contains '{' := isInfix_singleton '{' s
theorem isInfix_rbrace (s : Str) : isInfix "}".toList s = s.contains '}' := isInfix_singleton '}' s

/-- `"{" not in p and "}" not in p` (in either order) is the hand model's `cfgIsNewPattern` -/
theorem isNew_fold (s : Str) : (!isInfix "{".toList s && !isInfix "}".toList s) = cfgIsNewPattern s := by
  rw [isInfix_lbrace, isInfix_rbrace]; rfl
theorem isNew_fold' (s : Str) : (!isInfix "}".toList s && !isInfix "{".toList s) = cfgIsNewPattern s := by
  rw [Bool.and_comm]; exact isNew_fold s

/-! ### `if tag is None: tag = False` does not change the truth value -/
theorem truthy_bool (b : Bool) : (RawVal.bool b).truthy = b := rfl

theorem truthy_ite_none (v : RawVal) : (if (v == RawVal.none) = true then false else v.truthy) = v.truthy := by
  cases v <;> rfl

theorem truthy_ite_nnone (v : RawVal) : (if (v != RawVal.none) = true then v.truthy else false) = v.truthy := by
  cases v <;> rfl

/-! ### an accumulation loop that appends one element per round is a `map` -/
theorem foldl_append_singleton {α β} (f : α → β) (l : List α) (init : List β) :
    l.foldl (fun st x => st ++ [f x]) init = init ++ l.map f := by
  induction l generalizing init with
  | nil => simp
  | cons a t ih => simp [ih]

/-- an accumulation loop that appends under a test (`for x in xs: if q: out.append(f)`) is a
    comprehension with a filter -/
theorem foldl_append_if {α β} (f : α → β) (q : α → Bool) (l : List α) (init : List β) :
    l.foldl (fun st x => if q x = true then st ++ [f x] else st) init = init ++ (l.filter q).map f := by
  induction l generalizing init with
  | nil => simp
  | cons a t ih =>
    simp only [List.foldl_cons, List.filter_cons]
    cases q a <;> simp [ih]

/-- used as `rw [foldl_list_eq _ _ _ Gen.table (by decide)]`: the literal inlined from the Python module is
    the generated table, whatever its text is -/
theorem foldl_list_eq {α β} (f : β → α → β) (init : β) (l l' : List α) (h : l = l') :
    l.foldl f init = l'.foldl f init := by rw [h]

/-- a loop that only updates the scalar options of a raw dict -/
theorem foldl_opts {α} (step : List (Str × RawVal) → α → List (Str × RawVal)) (l : List α) (d : TomlSection) :
    l.foldl (fun st x => { st with opts := step st.opts x }) d = { d with opts := l.foldl step d.opts } := by
  induction l generalizing d with
  | nil => rfl
  | cons a t ih => simp only [List.foldl_cons, ih]

/-- used as `rw [elem_list_eq _ _ Gen.table (by decide)]` -/
theorem elem_list_eq (x : Str) (l l' : List Str) (h : l = l') : List.elem x l = l'.contains x := by
  rw [h]

/-! ### `dict(pairs)` of pairs with distinct keys is the list of pairs itself -/
theorem setOpt_append_new {α} (k : Str) (v : α) (acc : List (Str × α)) (h : k ∉ acc.map Prod.fst) :
    setOpt k v acc = acc ++ [(k, v)] := by
  induction acc with
  | nil => rfl
  | cons a t ih =>
    obtain ⟨k', v'⟩ := a
    simp only [List.map_cons, List.mem_cons, not_or] at h
    simp only [setOpt, h.1, if_false, List.cons_append, ih h.2]

theorem pyDict_foldl_nodup {α} (l acc : List (Str × α)) (h : (acc.map Prod.fst ++ l.map Prod.fst).Nodup) :
    l.foldl (fun d kv => setOpt kv.1 kv.2 d) acc = acc ++ l := by
  induction l generalizing acc with
  | nil => simp
  | cons a t ih =>
    obtain ⟨k, v⟩ := a
    have hk : k ∉ acc.map Prod.fst := by
      intro hm
      have := List.nodup_append.mp h
      exact this.2.2 k hm k (by simp) rfl
    rw [List.foldl_cons, setOpt_append_new k v acc hk, ih]
    · simp
    · simpa [List.append_assoc] using h

theorem pyDict_nodup {α} (l : List (Str × α)) (h : (l.map Prod.fst).Nodup) : Py.pyDict l = l := by
  unfold Py.pyDict
  rw [pyDict_foldl_nodup l [] (by simpa using h)]
  rfl

/-- the raw dict of the hand model as the Python dict (`file_patterns` present) -/
def embedRaw (raw : RawCfg) : TomlSection := { opts := raw.opts, filePatterns := some raw.filePatterns }

end BV.TieH
