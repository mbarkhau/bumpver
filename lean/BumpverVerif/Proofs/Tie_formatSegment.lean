/-
  Proofs/Tie_formatSegment.lean — the definition GENERATED from the Python source of
  `v2version._format_segment` (Gen/F_formatSegment.lean) equals the hand model `BV.formatSegment`.

  Python: one loop collects `used_parts` and counts the zero-valued ones, a second loop substitutes.
  Model : `filter` / `filter … |>.length` / `foldl replaceAll`.

  HYPOTHESIS `hne`: no part name is the empty string.  Concrete difference without it:
  `_format_segment("a", [("", "X")])` is `FormatedSeg(False, False, "XaX")` (Python's `str.replace("", r)` inserts `r`
  around every character) whereas the model's `replaceAll [] r s = s` gives result "a".  `_format_part_values` only
  produces the keys of `PATTERN_PART_FIELDS`, none of which is empty (`partFields_keys_ne`).
-/
import BumpverVerif.Gen.F_formatSegment
import BumpverVerif.Proofs.Tie_isZeroVal
namespace BV.TieF
open GenF GenF.FP

theorem pyReplace_eq (pat rep s : Str) (h : pat ≠ []) : pyReplace pat rep s = replaceAll pat rep s := by
  cases pat with
  | nil => exact absurd rfl h
  | cons c cs => simp [pyReplace]

/-- the collecting loop, for any step function that behaves like the Python loop body
    (state = (zero_part_count, used_parts)) -/
theorem foldl_usedParts (seg : Str) (f : Int × List (Str × Str) → Str × Str → Int × List (Str × Str))
    (hf : ∀ c u p, f (c, u) p =
      if isInfix p.1 seg then ((if isZeroVal p.1 p.2 then c + 1 else c), u ++ [p]) else (c, u)) :
    ∀ (pvs : List (Str × Str)) (c : Int) (u : List (Str × Str)),
      List.foldl f (c, u) pvs =
        (c + Int.ofNat (((pvs.filter (fun pv => isInfix pv.1 seg)).filter (fun pv => isZeroVal pv.1 pv.2)).length),
         u ++ pvs.filter (fun pv => isInfix pv.1 seg)) := by
  intro pvs
  induction pvs with
  | nil => intro c u; simp
  | cons p ps ih =>
    intro c u
    rw [List.foldl_cons, hf]
    by_cases h1 : isInfix p.1 seg = true
    · by_cases h2 : isZeroVal p.1 p.2 = true
      · simp only [h1, h2, if_true, ih, List.filter_cons_of_pos, List.length_cons]
        simp only [List.append_assoc, List.singleton_append, Prod.mk.injEq, and_true, Int.ofNat_eq_natCast]
        omega
      · simp only [h1, h2, if_true, ih, List.filter_cons_of_pos]
        simp [h2]
    · simp only [h1, ih]
      simp [h1]

/-- the substituting loop -/
theorem foldl_pyReplace (f : Str → Str × Str → Str) (hf : ∀ r p, f r p = pyReplace p.1 p.2 r) :
    ∀ (used : List (Str × Str)) (r : Str), (∀ pv ∈ used, pv.1 ≠ []) →
      List.foldl f r used = List.foldl (fun acc pv => replaceAll pv.1 pv.2 acc) r used := by
  intro used
  induction used with
  | nil => intro r _; rfl
  | cons p ps ih =>
    intro r h
    rw [List.foldl_cons, List.foldl_cons, hf, pyReplace_eq _ _ _ (h p (by simp))]
    exact ih _ (fun pv hpv => h pv (by simp [hpv]))

theorem _root_.BV.tie_formatSegment (seg : Str) (pvs : List (Str × Str)) (hne : ∀ pv ∈ pvs, pv.1 ≠ []) :
    GenF.formatSegment seg pvs = formatSegment seg pvs := by
  have hused : ∀ pv ∈ pvs.filter (fun pv => isInfix pv.1 seg), pv.1 ≠ [] :=
    fun pv h => hne pv (List.mem_filter.mp h).1
  simp only [GenF.formatSegment]
  rw [foldl_usedParts seg _ (by
    intro c u p
    simp only [tie_isZeroVal] <;>
      (by_cases h1 : isInfix p.1 seg = true <;> by_cases h2 : isZeroVal p.1 p.2 = true <;> simp [h1, h2] <;> omega))]
  simp only [List.nil_append]
  rw [foldl_pyReplace _ (by intro r p; rfl) _ _ hused]
  simp only [formatSegment]
  generalize (pvs.filter (fun pv => isInfix pv.1 seg)) = used
  generalize (used.filter (fun pv => isZeroVal pv.1 pv.2)).length = n
  cases used with
  | nil => simp
  | cons u us =>
    simp only [List.length_cons, List.isEmpty_cons, Int.ofNat_eq_natCast]
    -- both sides choose among the same three records; what is left to see is that `len(used_parts) == 0` is false here
    -- and that the `Int` test `0 + n > 0 ∧ 0 + n = len(used_parts)` is the model's test on `Nat`, in whatever order
    -- the source writes its conjuncts
    grind

end BV.TieF
