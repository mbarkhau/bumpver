import BumpverVerif.Props.C02
import BumpverVerif.Props.C02Tie
open BV
#print axioms C02_unbounded_shapes
#print axioms C02_nat_part
#print axioms C02_build_part
#print axioms C02_posint_part
#print axioms C02_bld_part
#print axioms C02_year_part
#print axioms C02_finite_parts
#print axioms C02_tag_parts
#print axioms C02_week53_witness
#print axioms C02_calinfo_domains
#print axioms C02_inc1_positive
#print axioms C02_accepted_in_full
#print axioms C02_roundtrip_ast
#print axioms C02_roundtrip_of_date
#print axioms C02_tagCoh_invariant
#print axioms C02_readme_patterns_wf
#print axioms C02_readme_tree_tie
