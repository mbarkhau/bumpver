/-
  Props/C10.lean — property C10: VCS steps run only as configured, in order, and stop at the
  first failure.

  "A real `update` performs: dirty check, file rewrite, pre-commit hook, stage configured
   files and commit, post-commit hook, tag, push - each step only if enabled and only if
   every earlier step succeeded; without a commit there is never a tag or push, --no-fetch
   never fetches, and --dry issues no mutating VCS command and runs no hook. Hooks receive
   the old and new version in BUMPVER_OLD_VERSION/BUMPVER_NEW_VERSION, and contradictory
   flag/config combinations are rejected before anything happens."

  Model: `BV.plan` (Model/Plan.lean).  Every theorem quantifies over ALL configurations
  `c`, command lines `a` and environments `e` — i.e. the whole lattice of config
  commit/tag/push × tri-state flags × hooks × dirty × remote × dry × fetch × scope ×
  git/hg, every list of configured files and EVERY failure position `failAt`.
  Helper lemmas: Proofs/PlanLemmas.lean.
  The read-only probe commands are what `C10_probe_templates` (Props/VcsTable.lean) says they are.
-/
import BumpverVerif.Model.Plan
import BumpverVerif.Proofs.PlanLemmas
-- the functions this property's mechanism lives in are TRANSLATED from the Python source on every run (Gen/F_*.lean) and proved equal to the hand model:
import BumpverVerif.Proofs.Tie_parseVcsOptions
namespace BV

/-- mutating VCS commands -/
def Ev.mutating : Ev → Bool
  | .add _ => true
  | .cmd n => n == "commit" || n == "tag" || n == "tag_light" || n == "push" || n == "push_tag"
  | _ => false

def Ev.isHook : Ev → Bool
  | .preHook _ _ => true
  | .postHook _ _ => true
  | _ => false

def Ev.isTag : Ev → Bool
  | .cmd n => n == "tag" || n == "tag_light"
  | _ => false

def Ev.isPush : Ev → Bool
  | .cmd n => n == "push" || n == "push_tag"
  | _ => false

/-- position of an event in the documented step order (read-only probes have none) -/
def Ev.rank : Ev → Option Nat
  | .cmd n =>
    if n == "status" then some 0 else if n == "commit" then some 4
    else if n == "tag" || n == "tag_light" then some 6
    else if n == "push" || n == "push_tag" then some 7 else none
  | .rewrite => some 1
  | .preHook _ _ => some 2
  | .add _ => some 3
  | .postHook _ _ => some 5

/-- effective settings after merging the tri-state flags over the config -/
def effCommit (c : PlanCfg) (a : PlanCli) : Bool := a.commit.getD c.commit
def effTag (c : PlanCfg) (a : PlanCli) : Bool := a.tagCommit.getD c.tag
def effPush (c : PlanCfg) (a : PlanCli) : Bool := a.push.getD c.push

/-! glue between the helper lemmas (Proofs/PlanLemmas.lean) and the predicates above -/

private theorem tagEv_facts {f : Bool} {ev : Ev} (h : TagEv f ev) :
    ev.mutating = false ∧ ev.isHook = false ∧ ev ≠ .rewrite ∧ ev.isTag = false ∧
      ev.isPush = false ∧ (f = false → ev ≠ .cmd "fetch") := by
  rcases h with rfl | rfl | rfl | ⟨rfl, rfl | rfl | rfl⟩ <;>
    simp [Ev.mutating, Ev.isHook, Ev.isTag, Ev.isPush]

/-- what the predicates say about an event logged by the commit phase -/
private theorem commitEv_facts {e : PlanEnv} {c : PlanCfg} {C : List Ev} {o : Outcome}
    (hsh : CommitShape e c C o) {ev : Ev} (hC : ev ∈ C) :
    (ev.isTag = true → c.tag = true ∧ Ev.cmd "commit" ∈ C) ∧
    (ev.isPush = true → c.push = true ∧ Ev.cmd "commit" ∈ C) ∧
    (∀ x y, ev = .preHook x y → x = e.startVersion ∧ y = e.announced) ∧
    (∀ x y, ev = .postHook x y → x = e.startVersion ∧ y = e.announced) ∧ ev ≠ .cmd "fetch" := by
  rcases hsh.mem hC with ⟨rfl, -⟩ | ⟨p, -, rfl⟩ | rfl | ⟨rfl, -⟩ | ⟨rfl, ht, hc⟩ | ⟨h, -⟩ |
      ⟨rfl, hp, hc⟩
  · simp [Ev.isTag, Ev.isPush]
  · simp [Ev.isTag, Ev.isPush]
  · simp [Ev.isTag, Ev.isPush]
  · simp [Ev.isTag, Ev.isPush]
  · unfold tagCmd; split <;> simp [Ev.isTag, Ev.isPush, ht, hc]
  · rcases h with rfl | rfl <;> simp [Ev.isTag, Ev.isPush]
  · unfold pushCmd; split <;> simp [Ev.isTag, Ev.isPush, hp, hc]

private theorem isTag_tagCmd (c : PlanCfg) : (tagCmd c).isTag = true := by
  unfold tagCmd; split <;> simp [Ev.isTag]

/-- either the options are rejected, or the trace has one of the shapes of `PlanShape` for
    the merged configuration -/
private theorem plan_cases (c : PlanCfg) (a : PlanCli) (e : PlanEnv) :
    (parseVcsOptions c a = none ∧ plan c a e = ([], 1)) ∨
    ∃ c', PlanShape c' a e (plan c a e).1 (plan c a e).2 ∧ c'.commit = effCommit c a ∧
      c'.tag = effTag c a ∧ c'.push = effPush c a := by
  cases hp : parseVcsOptions c a with
  | none => exact .inl ⟨rfl, by simp [plan, hp]⟩
  | some c' => exact .inr ⟨c', plan_shape c c' a e hp, parseVcsOptions_some hp⟩

private theorem commit_phase {c : PlanCfg} {a : PlanCli} {e : PlanEnv} {tr : List Ev} {code : Nat}
    (sh : PlanShape c a e tr code) {ev : Ev} (h : ev ∈ tr)
    (hm : ev.mutating = true ∨ ev.isHook = true) :
    a.dry = false ∧ c.commit = true ∧ Ev.cmd "status" ∈ tr ∧ Ev.rewrite ∈ tr ∧
      ∃ C o, CommitShape e c C o ∧ ev ∈ C ∧ (∀ x ∈ C, x ∈ tr) ∧
        (code = if o = .ok then 0 else 1) ∧ (∀ x, C.head? = some x → tr.getLast? = some x) := by
  rcases sh.mem h with ht | ⟨hd, ⟨-, rfl⟩ | rfl | ⟨hc, -, hst, hrw, hC⟩⟩
  · simp [(tagEv_facts ht).1, (tagEv_facts ht).2.1] at hm
  · simp [Ev.mutating, Ev.isHook] at hm
  · simp [Ev.mutating, Ev.isHook] at hm
  · exact ⟨hd, hc, hst, hrw, hC⟩

/-- exactly the contradictory combinations are rejected … -/
theorem C10_reject_iff (c : PlanCfg) (a : PlanCli) :
    parseVcsOptions c a = none ↔
      (effCommit c a = false ∧ (a.tagCommit = some true ∨ a.push = some true)) :=
  parseVcsOptions_none_iff c a

/-- … and they are rejected before anything happens -/
theorem C10_reject_first (c : PlanCfg) (a : PlanCli) (e : PlanEnv)
    (h : parseVcsOptions c a = none) : plan c a e = ([], 1) := by
  simp [plan, h]

/-- the steps occur in the documented order: dirty check, rewrite, pre-commit hook, stage,
    commit, post-commit hook, tag, push -/
theorem C10_order (c : PlanCfg) (a : PlanCli) (e : PlanEnv) :
    ((plan c a e).1.filterMap Ev.rank).Pairwise (· ≤ ·) := by
  rcases plan_cases c a e with ⟨_, hp⟩ | ⟨c', sh, -, -, -⟩
  · simp [hp]
  · have hrk : Ev.rank = Ev.rk := by funext ev; cases ev <;> rfl
    have := sh.rk.1
    rw [List.filterMap_reverse, List.pairwise_reverse] at this
    rw [hrk]
    exact this

/-- a commit happens only if enabled (config or flag) and never in a dry run -/
theorem C10_commit_gated (c : PlanCfg) (a : PlanCli) (e : PlanEnv)
    (h : Ev.cmd "commit" ∈ (plan c a e).1) : effCommit c a = true ∧ a.dry = false := by
  rcases plan_cases c a e with ⟨_, hp⟩ | ⟨c', sh, hcm, -, -⟩
  · simp [hp] at h
  · obtain ⟨hd, hc, -⟩ := commit_phase sh h (.inl rfl)
    exact ⟨hcm ▸ hc, hd⟩

/-- without a commit there is never a tag or push; tag and push only if enabled -/
theorem C10_tag_push_gated (c : PlanCfg) (a : PlanCli) (e : PlanEnv) (ev : Ev)
    (h : ev ∈ (plan c a e).1) :
    (ev.isTag = true → Ev.cmd "commit" ∈ (plan c a e).1 ∧ effTag c a = true) ∧
    (ev.isPush = true → Ev.cmd "commit" ∈ (plan c a e).1 ∧ effPush c a = true) := by
  rcases plan_cases c a e with ⟨_, hp⟩ | ⟨c', sh, -, htg, hps⟩
  · simp [hp] at h
  · rcases sh.mem h with ht | ⟨-, ⟨-, rfl⟩ | rfl | ⟨-, -, -, -, C, o, hsh, hC, hsub, -⟩⟩
    · simp [(tagEv_facts ht).2.2.2.1, (tagEv_facts ht).2.2.2.2.1]
    · simp [Ev.isTag, Ev.isPush]
    · simp [Ev.isTag, Ev.isPush]
    · obtain ⟨h1, h2, -⟩ := commitEv_facts hsh hC
      exact ⟨fun ht => ⟨hsub _ (h1 ht).2, htg ▸ (h1 ht).1⟩,
        fun hp => ⟨hsub _ (h2 hp).2, hps ▸ (h2 hp).1⟩⟩

/-- staging and hooks only around an enabled commit -/
theorem C10_add_hook_gated (c : PlanCfg) (a : PlanCli) (e : PlanEnv) (ev : Ev)
    (h : ev ∈ (plan c a e).1) (hk : ev.isHook = true ∨ (∃ p, ev = .add p)) :
    effCommit c a = true ∧ a.dry = false ∧ Ev.rewrite ∈ (plan c a e).1 := by
  rcases plan_cases c a e with ⟨_, hp⟩ | ⟨c', sh, hcm, -, -⟩
  · simp [hp] at h
  · obtain ⟨hd, hc, -, hrw, -⟩ := commit_phase sh h (hk.symm.imp (fun ⟨_, hp⟩ => hp ▸ rfl) id)
    exact ⟨hcm ▸ hc, hd, hrw⟩

/-- with `--dry`: no mutating VCS command, no hook, no file written -/
theorem C10_dry (c : PlanCfg) (a : PlanCli) (e : PlanEnv) (hd : a.dry = true) (ev : Ev)
    (h : ev ∈ (plan c a e).1) : ev.mutating = false ∧ ev.isHook = false ∧ ev ≠ .rewrite := by
  rcases plan_cases c a e with ⟨_, hp⟩ | ⟨c', sh, -, -, -⟩
  · simp [hp] at h
  · rcases sh.mem h with ht | ⟨hd', -⟩
    · exact ⟨(tagEv_facts ht).1, (tagEv_facts ht).2.1, (tagEv_facts ht).2.2.1⟩
    · simp [hd] at hd'

/-- with `--no-fetch` nothing is ever fetched -/
theorem C10_no_fetch (c : PlanCfg) (a : PlanCli) (e : PlanEnv) (hf : a.fetch = false) :
    Ev.cmd "fetch" ∉ (plan c a e).1 := by
  intro h
  rcases plan_cases c a e with ⟨_, hp⟩ | ⟨c', sh, -, -, -⟩
  · simp [hp] at h
  · rcases sh.mem h with ht | ⟨-, ⟨_, hs⟩ | hr | ⟨-, -, -, -, C, o, hsh, hC, -⟩⟩
    · exact (tagEv_facts ht).2.2.2.2.2 hf rfl
    · simp at hs
    · simp at hr
    · exact (commitEv_facts hsh hC).2.2.2.2 rfl

/-- a dirty tree (C11 verdict `abort`) stops the run before any file is modified -/
theorem C10_dirty_blocks (c : PlanCfg) (a : PlanCli) (e : PlanEnv)
    (hd : e.dirtyAbort = true) (hs : Ev.cmd "status" ∈ (plan c a e).1) :
    (plan c a e).2 = 1 ∧ ∀ ev ∈ (plan c a e).1, ev ≠ .rewrite ∧ ev.mutating = false ∧ ev.isHook = false := by
  rcases plan_cases c a e with ⟨_, hp⟩ | ⟨c', sh, -, -, -⟩
  · simp [hp] at hs
  · obtain ⟨hcode, hall⟩ := sh.halted (.inr ⟨hd, hs⟩)
    refine ⟨hcode, fun ev hev => ?_⟩
    rcases hall ev hev with ht | rfl
    · exact ⟨(tagEv_facts ht).2.2.1, (tagEv_facts ht).1, (tagEv_facts ht).2.1⟩
    · simp [Ev.mutating, Ev.isHook]

/-- whenever a commit is attempted, the dirty check ran (and ran first: `C10_order`) -/
theorem C10_status_before_rewrite (c : PlanCfg) (a : PlanCli) (e : PlanEnv)
    (h : Ev.cmd "commit" ∈ (plan c a e).1) : Ev.cmd "status" ∈ (plan c a e).1 := by
  rcases plan_cases c a e with ⟨_, hp⟩ | ⟨c', sh, -, -, -⟩
  · simp [hp] at h
  · exact (commit_phase sh h (.inl rfl)).2.2.1

/-- read-only probes whose failure is swallowed by `is_usable` / `get_remote` -/
def Ev.swallowed : Ev → Bool
  | .cmd n => n == "is_usable" || n == "ls_branches" || n == "show_remotes"
  | _ => false

def Ev.isVcs : Ev → Bool
  | .cmd _ => true
  | .add _ => true
  | _ => false

/-- stop at the first failure, for EVERY failure position: if the k-th VCS invocation fails
    and it is not a swallowed probe, it is the last event and the exit code is non-zero -/
theorem C10_stop_at_failure (c : PlanCfg) (a : PlanCli) (e : PlanEnv) (k : Nat)
    (hk : e.failAt = some k) (ev : Ev)
    (hev : ((plan c a e).1.filter Ev.isVcs)[k]? = some ev) (hns : ev.swallowed = false) :
    (plan c a e).1.getLast? = some ev ∧ (plan c a e).2 = 1 := by
  have hv : Ev.isVcs = Ev.vcs := by funext ev; cases ev <;> rfl
  have hs : ev.swallowed = ev.swal := by cases ev <;> rfl
  rw [hv] at hev
  rw [hs] at hns
  exact stop_core hk (plan_post c a e) hev hns

/-- a failing hook is the last thing that happens -/
theorem C10_hook_failure_stops (c : PlanCfg) (a : PlanCli) (e : PlanEnv) :
    (e.preOk = false → ∀ o n, Ev.preHook o n ∈ (plan c a e).1 →
        (plan c a e).1.getLast? = some (.preHook o n) ∧ (plan c a e).2 = 1) ∧
    (e.postOk = false → ∀ o n, Ev.postHook o n ∈ (plan c a e).1 →
        (plan c a e).1.getLast? = some (.postHook o n) ∧ (plan c a e).2 = 1) := by
  rcases plan_cases c a e with ⟨_, hp⟩ | ⟨c', sh, -, -, -⟩
  · simp [hp]
  · constructor
    · intro hpre x y h
      obtain ⟨-, -, -, -, C, o, hsh, hC, -, hcode, hlast⟩ := commit_phase sh h (.inr rfl)
      obtain ⟨hh, rfl⟩ := hsh.pre_fail hpre hC
      exact ⟨hlast _ hh, by simpa using hcode⟩
    · intro hpost x y h
      obtain ⟨-, -, -, -, C, o, hsh, hC, -, hcode, hlast⟩ := commit_phase sh h (.inr rfl)
      obtain ⟨hh, rfl⟩ := hsh.post_fail hpost hC
      exact ⟨hlast _ hh, by simpa using hcode⟩

/-- hooks receive the start version and the announced version -/
theorem C10_hook_env (c : PlanCfg) (a : PlanCli) (e : PlanEnv) (ev : Ev)
    (h : ev ∈ (plan c a e).1) :
    (∀ o n, ev = .preHook o n → o = e.startVersion ∧ n = e.announced) ∧
    (∀ o n, ev = .postHook o n → o = e.startVersion ∧ n = e.announced) := by
  rcases plan_cases c a e with ⟨_, hp⟩ | ⟨c', sh, -, -, -⟩
  · simp [hp] at h
  · constructor <;> rintro x y rfl
    · obtain ⟨-, -, -, -, C, o, hsh, hC, -⟩ := commit_phase sh h (.inr rfl)
      exact (commitEv_facts hsh hC).2.2.1 x y rfl
    · obtain ⟨-, -, -, -, C, o, hsh, hC, -⟩ := commit_phase sh h (.inr rfl)
      exact (commitEv_facts hsh hC).2.2.2.1 x y rfl

/-- exit 0 of a real committing run means every enabled step happened: rewrite, one `add`
    per configured file, commit, and the tag when tagging is on -/
theorem C10_success_complete (c : PlanCfg) (a : PlanCli) (e : PlanEnv)
    (h0 : (plan c a e).2 = 0) (hd : a.dry = false)
    (hc : Ev.cmd "commit" ∈ (plan c a e).1) :
    Ev.rewrite ∈ (plan c a e).1 ∧ (∀ p ∈ e.files, Ev.add p ∈ (plan c a e).1) ∧
    (effTag c a = true → ∃ ev ∈ (plan c a e).1, ev.isTag = true) := by
  have _ := hd
  rcases plan_cases c a e with ⟨_, hp⟩ | ⟨c', sh, -, htg, -⟩
  · simp [hp] at hc
  · obtain ⟨-, -, -, hrw, C, o, hsh, -, hsub, hcode, -⟩ := commit_phase sh hc (.inl rfl)
    have ho : o = .ok := by
      cases o
      · rfl
      · rw [h0] at hcode; simp at hcode
    subst ho
    obtain ⟨hadd, -, htag⟩ := hsh.ok_complete
    exact ⟨hrw, fun p hp => hsub _ (hadd p hp),
      fun ht => ⟨tagCmd c', hsub _ (htag (htg ▸ ht)), isTag_tagCmd c'⟩⟩

/-! non-vacuity: a full run (hooks, three files, tag, push) and a failure in the middle -/
private def cfgAll : PlanCfg := ⟨true, true, true, true, true, false, false⟩
private def cliNone : PlanCli := ⟨none, none, none, false, false, none, false, false, false, false⟩
private def envOk (f : Option Nat) : PlanEnv :=
  ⟨.git, true, f, true, false, false, true, true, true, true, true,
   ["a".toList, "b".toList], "1.2.3".toList, "1.2.4".toList⟩
example : (plan cfgAll cliNone (envOk none)).2 = 0 ∧ (plan cfgAll cliNone (envOk none)).1.length = 13 := by
  decide
example : (plan cfgAll cliNone (envOk (some 4))).2 = 1 ∧
    (plan cfgAll cliNone (envOk (some 4))).1.getLast? = some (.add "a".toList) := by decide

end BV
