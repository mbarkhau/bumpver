/-
  Props/C04.lean — property C04: rewriting touches nothing but the matched spans.

  "An update changes only the character spans matched by configured patterns: every other byte
   of every file - unmatched lines, text before and after a match on its line, the line-ending
   style (LF, CRLF, CR or mixed), presence or absence of a final newline, non-ASCII text - is
   preserved exactly, whatever the process locale. Files not named in the configuration are
   never written."

  Model: Model/Rewrite.lean + Model/Basic.lean (`splitOn`, `join`, `detectLineSep`).
  All theorems are structural inductions over `List Char` / `List Str`: they hold for EVERY
  content (any code point, BOM, control characters), not for fixtures.  Those about `rewriteLines` …
  `rewriteFiles` are the theorems of Props/RewriteEngine.lean (every engine) at `v2Engine`.
  Runtime part (partial): that the bytes on disk are the UTF-8 encoding of the content with
  untranslated newlines depends on `open(..., newline='', encoding='utf-8')`; it is exercised
  by the check (in-process and in a subprocess under LC_ALL=C with UTF-8 mode off), not proved.
-/
import BumpverVerif.Props.RewriteEngine
-- the functions this property's mechanism lives in are TRANSLATED from the Python source on every run (Gen/F_*.lean) and proved equal to the hand model:
import BumpverVerif.Proofs.Tie_hasOverlap
import BumpverVerif.Proofs.Tie_detectLineSep
namespace BV

/-- `sep.join(content.split(sep)) == content` for every non-empty separator and every content:
    line endings (LF, CRLF, CR, mixed), final newline or not, anything between them survives -/
theorem C04_join_split (sep s : Str) (h : sep ≠ []) : join sep (splitOn sep s) = s :=
  join_splitOn sep s h

/-- the detected separator is one of the three, and it is non-empty -/
theorem C04_sep_detect (s : Str) :
    (detectLineSep s = "\r\n".toList ∨ detectLineSep s = "\r".toList ∨ detectLineSep s = "\n".toList)
    ∧ detectLineSep s ≠ [] := by
  refine ⟨detectLineSep_cases s, ?_⟩
  rcases detectLineSep_cases s with h | h | h <;> rw [h] <;> decide

/-- a rewrite keeps the number of lines … -/
theorem C04_line_count (pats : List CPat) (v : VInfo) (old new : List Str)
    (h : rewriteLines pats v old = .ok new) : new.length = old.length :=
  v2Engine.C04_line_count pats v old new ((v2Engine_rewriteLines _ _ _).trans h)

/-- … and every line without a surviving match is untouched -/
theorem C04_unmatched_lines (pats : List CPat) (v : VInfo) (old new : List Str) (ms : List PMatch)
    (hm : iterMatches old pats = some ms) (h : rewriteLines pats v old = .ok new)
    (i : Nat) (hi : ∀ m ∈ ms, m.lineno ≠ i) : new[i]? = old[i]? :=
  v2Engine.C04_unmatched_lines pats v old new ms ((v2Engine_iterMatches _ _).trans hm)
    ((v2Engine_rewriteLines _ _ _).trans h) i hi

attribute [local irreducible] formatVersion normalizePattern in
/-- on a line with exactly one surviving match, the text before and after the span is kept
    verbatim and the span is replaced by the rendered pattern -/
theorem C04_single_span (pats : List CPat) (v : VInfo) (old new : List Str) (ms : List PMatch)
    (hm : iterMatches old pats = some ms) (h : rewriteLines pats v old = .ok new)
    (m : PMatch) (hmem : m ∈ ms) (honly : ∀ m' ∈ ms, m'.lineno = m.lineno → m' = m)
    (line : Str) (hl : old[m.lineno]? = some line) :
    ∃ repl, formatVersion v (normalizePattern m.pat.vp m.pat.raw) = .ok repl ∧
      new[m.lineno]? = some (line.take m.start ++ repl ++ line.drop m.stop) :=
  v2Engine.C04_single_span pats v old new ms ((v2Engine_iterMatches _ _).trans hm)
    ((v2Engine_rewriteLines _ _ _).trans h) m hmem honly line hl

/-- whole file: if no line has a match to replace (e.g. a file whose occurrences already carry
    the text), the content is returned unchanged, whatever its line endings -/
theorem C04_content_identity (pats : List CPat) (v : VInfo) (s s' : Str)
    (hm : iterMatches (splitOn (detectLineSep s) s) pats = some [])
    (h : rewriteContent pats v s = .ok s') : s' = s :=
  v2Engine.C04_content_identity pats v s s' ((v2Engine_iterMatches _ _).trans hm)
    ((v2Engine_rewriteContent _ _ _).trans h)

/-- files not named in the configuration are never written, whether the update succeeds or not -/
theorem C04_other_files (fs : FS) (fps : List (Str × List CPat)) (v : VInfo) (p : Str)
    (hp : ∀ fp ∈ fps, fp.1 ≠ p) : lookup p (rewriteFiles fs fps v).1 = lookup p fs :=
  v2Engine_rewriteFiles fs fps v ▸ v2Engine.C04_other_files fs fps v p hp

/-! non-vacuity / concrete instances (tests) -/
example : join "\r\n".toList (splitOn "\r\n".toList "a\r\nb\nc\r\n".toList) = "a\r\nb\nc\r\n".toList := by decide
example : detectLineSep "a\rb\n".toList = "\r".toList := by decide

end BV
