/-
  Props/C02Parts.lean — property C02, part by part: the recognisers and the renderers agree.

  bumpver has TWO hand-written tables that nothing in its test suite ties together: the
  recognisers `PART_PATTERNS` (one regex per part) and the renderers `PART_FORMATS`.  Both are
  GENERATED into Gen/V2Tables.lean on every run.  This file proves, part by part, that they
  agree on every value the part can take:

    rendered text  --(its own regex, followed by anything that is not a digit/letter of the
                      part's alphabet)-->  consumed in full (maximal munch, longest alternative)
    rendered text  --(int(...) as parse_field_values does)-->  the same value

  for the finite calendar domains by kernel evaluation over the WHOLE domain, for the unbounded
  numeric parts and BUILD by induction on the digit list, for years by the 4-digit lemma.
  `C02_calinfo_domains` shows that what `cal_info` produces lies inside those domains — except
  week 53 of %W/%U (known finding F-C02-week53, witness below).

  The composition over whole patterns (Proofs/PartRows.lean onwards, Props/C02.lean) takes the
  shapes and the sweep over the finite domains from here: the tables are evaluated once.
-/
import BumpverVerif.Model.V2Version
import BumpverVerif.Proofs.Digits
import BumpverVerif.Proofs.PartLemmas
namespace BV

/-- the compiled recogniser of a part, from the generated table -/
def partRe (name : String) : Option Re := (lookup name.toList Gen.partPatterns).bind parseRe

/-- the renderer of a part, from the generated table -/
def partFmt (name : String) : Option Gen.FmtKind := lookup name.toList Gen.partFormats

/-- length of the first match at the start of `s` -/
def matchLen (r : Re) (s : Str) : Option Nat := (reMatch r s).map (·.stop)

/-- `[0-9]+`, `[1-9][0-9]*`, `[1-9][0-9]{3}` as `parseRe` builds them -/
def reDigitsPlus : Re := .rep (.cls false [.range '0' '9']) 1 none
def rePosInt : Re := .seq (.cls false [.range '1' '9']) (.rep (.cls false [.range '0' '9']) 0 none)
def reYear4 : Re := .seq (.cls false [.range '1' '9']) (.rep (.cls false [.range '0' '9']) 3 (some 3))

/-- the regenerated table has exactly these shapes for the unbounded parts (a table edit that
    changes a shape breaks this obligation) and renders them with `str(v)` / `str(int(v))` -/
theorem C02_unbounded_shapes :
    partRe "MAJOR" = some reDigitsPlus ∧ partRe "MINOR" = some reDigitsPlus ∧ partRe "PATCH" = some reDigitsPlus ∧
    partRe "NUM" = some reDigitsPlus ∧ partRe "INC0" = some reDigitsPlus ∧ partRe "BUILD" = some reDigitsPlus ∧
    partRe "BLD" = some rePosInt ∧ partRe "INC1" = some rePosInt ∧
    partRe "YYYY" = some reYear4 ∧ partRe "GGGG" = some reYear4 ∧
    partFmt "MAJOR" = some .str ∧ partFmt "MINOR" = some .str ∧ partFmt "PATCH" = some .str ∧ partFmt "NUM" = some .str ∧
    partFmt "INC0" = some .str ∧ partFmt "INC1" = some .str ∧ partFmt "BUILD" = some .str ∧ partFmt "BLD" = some .int ∧
    partFmt "YYYY" = some .str ∧ partFmt "GGGG" = some .str := by
  decide +kernel

/-- "what follows is not a digit" -/
def noDigitAhead (rest : Str) : Prop := ∀ c, rest.head? = some c → isDigit c = false

/-- MAJOR / MINOR / PATCH / NUM / INC0: every natural number renders to text that the recogniser
    consumes in full before any non-digit continuation, and reads back as the same number -/
theorem C02_nat_part (n : Nat) (rest : Str) (hr : noDigitAhead rest) :
    matchLen reDigitsPlus (fmtValue .str (.nat n) ++ rest) = some (fmtValue .str (.nat n)).length ∧
    strToNat (fmtValue .str (.nat n)) = n := by
  have hf : fmtValue .str (.nat n) = natToStr n := rfl
  rw [hf]
  exact ⟨match_digitsPlus (natToStr n) rest (natToStr_ne_nil n) (allDigits_natToStr n) hr,
    strToNat_natToStr n⟩

/-- BUILD: every non-empty digit string (leading zeros included) is consumed in full and is
    carried verbatim -/
theorem C02_build_part (b : Str) (hb : isDigitStr b = true) (rest : Str) (hr : noDigitAhead rest) :
    matchLen reDigitsPlus (fmtValue .str (.str b) ++ rest) = some b.length ∧ fmtValue .str (.str b) = b := by
  have hf : fmtValue .str (.str b) = b := rfl
  rw [hf]
  rw [isDigitStr_iff] at hb
  exact ⟨match_digitsPlus b rest hb.1 hb.2 hr, rfl⟩

/-- INC1 and BLD (`[1-9][0-9]*`): every n ≥ 1; BLD renders `str(int(bid))`, which is accepted
    whenever the BUILD value is not zero -/
theorem C02_posint_part (n : Nat) (hn : 1 ≤ n) (rest : Str) (hr : noDigitAhead rest) :
    matchLen rePosInt (natToStr n ++ rest) = some (natToStr n).length ∧ strToNat (natToStr n) = n := by
  refine ⟨?_, strToNat_natToStr n⟩
  have hd := allDigits_natToStr n
  have hne := natToStr_ne_nil n
  have hh := natToStr_head_ne_zero n (by omega)
  generalize natToStr n = s at hd hne hh
  cases s with
  | nil => exact absurd rfl hne
  | cons c t =>
    rw [allDigits_cons] at hd
    exact match_posInt c t rest hd.1 (hh c t rfl) hd.2 hr

theorem C02_bld_part (b : Str) (hb : isDigitStr b = true) (hpos : 1 ≤ strToNat b) (rest : Str) (hr : noDigitAhead rest) :
    matchLen rePosInt (fmtValue .int (.str b) ++ rest) = some (fmtValue .int (.str b)).length ∧
    strToNat (fmtValue .int (.str b)) = strToNat b := by
  have _ := hb
  have hf : fmtValue .int (.str b) = natToStr (strToNat b) := rfl
  rw [hf]
  exact C02_posint_part (strToNat b) hpos rest hr

/-- YYYY / GGGG: fixed width — every year 1000..9999 is consumed as exactly four characters,
    WHATEVER follows (so `YYYY0M` needs no separator) -/
theorem C02_year_part (y : Nat) (h1 : 1000 ≤ y) (h2 : y ≤ 9999) (rest : Str) :
    matchLen reYear4 (natToStr y ++ rest) = some 4 ∧ (natToStr y).length = 4 ∧ strToNat (natToStr y) = y := by
  have hlen := natToStr_length_eq 3 y (by omega) (by omega)
  refine ⟨?_, hlen, strToNat_natToStr y⟩
  have hd := allDigits_natToStr y
  have hh := natToStr_head_ne_zero y (by omega)
  generalize natToStr y = s at hd hlen hh
  cases s with
  | nil => simp at hlen
  | cons c t =>
    rw [allDigits_cons] at hd
    have ht : t.length = 3 := by simpa using hlen
    have := match_posFixed c t rest hd.1 (hh c t rfl) hd.2
    rw [List.length_cons, ht] at this
    exact this

/-- one (part, value) check for the finite domains: the rendering is consumed in full when
    alone, when followed by a non-digit, and (fixed-width parts) when followed by a digit; and it
    reads back (`back`) as the value -/
def partOK (name : String) (x : Nat) (back : Str → Nat) (fixedWidth : Bool) : Bool :=
  match partRe name, partFmt name with
  | some r, some k =>
    let t := fmtValue k (.nat x)
    matchLen r t == some t.length && matchLen r (t ++ ['.', 'x']) == some t.length &&
    (!fixedWidth || matchLen r (t ++ ['7']) == some t.length) && back t == x
  | _, _ => false

def range1 (lo hi : Nat) : List Nat := (List.range (hi + 1 - lo)).map (· + lo)

/-- THE FINITE CALENDAR PARTS, over their whole domains (kernel-evaluated on the regenerated
    tables): months 1..12, days 1..31, days of year 1..366, quarters 1..4, ISO weeks 1..53,
    %W/%U weeks 0..52, two-digit years for 2000..2099 (read back with the +2000 rule) -/
theorem C02_finite_parts :
    (range1 1 12).all (fun x => partOK "MM" x strToNat false && partOK "0M" x strToNat true) = true ∧
    (range1 1 31).all (fun x => partOK "DD" x strToNat false && partOK "0D" x strToNat true) = true ∧
    (range1 1 366).all (fun x => partOK "JJJ" x strToNat false && partOK "00J" x strToNat true) = true ∧
    (range1 1 4).all (fun x => partOK "Q" x strToNat true) = true ∧
    (range1 1 53).all (fun x => partOK "VV" x strToNat false && partOK "0V" x strToNat true) = true ∧
    (range1 0 52).all (fun x => partOK "WW" x strToNat false && partOK "0W" x strToNat true &&
                               partOK "UU" x strToNat false && partOK "0U" x strToNat true) = true ∧
    (range1 2000 2099).all (fun y => partOK "0Y" y (fun s => strToNat s + 2000) true &&
                                    partOK "0G" y (fun s => strToNat s + 2000) true) = true ∧
    (range1 2001 2099).all (fun y => partOK "YY" y (fun s => strToNat s + 2000) false &&
                                    partOK "GG" y (fun s => strToNat s + 2000) false) = true := by
  decide +kernel

/-- tags: every release tag the CLI accepts is recognised in full by TAG (also before a digit or
    a separator), every non-final short tag by PYTAG; the alternatives are ordered so that no
    tag is cut short -/
theorem C02_tag_parts :
    Gen.validReleaseTagValues.all (fun t =>
      match partRe "TAG" with
      | some r => matchLen r t == some t.length && matchLen r (t ++ ['1']) == some t.length &&
                  matchLen r (t ++ ['.']) == some t.length
      | none => false) = true ∧
    ["a", "b", "rc", "post", "dev"].all (fun t =>
      match partRe "PYTAG" with
      | some r => matchLen r t.toList == some t.length && matchLen r (t.toList ++ ['0']) == some t.length
      | none => false) = true := by
  decide +kernel

/-- Known finding F-C02-week53: `%W`/`%U` produce week 53, which WW/0W/UU/0U do not recognise -/
theorem C02_week53_witness :
    (calInfo 2018 12 31).weekW = 53 ∧ partOK "WW" 53 strToNat false = false ∧ partOK "0W" 53 strToNat true = false ∧
    partOK "UU" 53 strToNat false = false ∧ partOK "0U" 53 strToNat true = false := by
  decide +kernel

/-- what `cal_info` produces lies inside the recognised domains — for EVERY valid date; the
    only escape is week 53 of %W/%U -/
theorem C02_calinfo_domains (y m d : Nat) (hv : validDate y m d = true) :
    let c := calInfo y m d
    1 ≤ c.month ∧ c.month ≤ 12 ∧ 1 ≤ c.dom ∧ c.dom ≤ 31 ∧ 1 ≤ c.doy ∧ c.doy ≤ 366 ∧
    1 ≤ c.quarter ∧ c.quarter ≤ 4 ∧ 1 ≤ c.weekV ∧ c.weekV ≤ 53 ∧ c.weekW ≤ 53 ∧ c.weekU ≤ 53 ∧
    c.yearY = y ∧ 1 ≤ y ∧ y ≤ 9999 :=
  calInfo_domains y m d hv

/-- bumping keeps the unbounded numeric parts inside their domains: INC1 stays ≥ 1 -/
theorem C02_inc1_positive (fs : List Str) (old cur new : VInfo) (fl : IncrFlags)
    (h1 : 1 ≤ cur.inc1) (h : incrNumeric fs old cur fl = .ok new) : 1 ≤ new.inc1 :=
  incrNumeric_inc1_pos fs old cur new fl h1 h

/-- the README's example patterns -/
def readmePatterns : List String := [
  "MAJOR.MINOR.PATCH[PYTAGNUM]", "MAJOR.MINOR[.PATCH[PYTAGNUM]]", "YYYY.BUILD[PYTAGNUM]", "YYYY.BUILD[-TAG]",
  "YYYY.INC0[PYTAGNUM]", "YYYY0M.PATCH[-TAG]", "YYYY0M.BUILD[-TAG]", "YYYY.0M", "YYYY.MM", "YYYY.WW",
  "YYYY.MM.PATCH[PYTAGNUM]", "YYYY.0M.PATCH[PYTAGNUM]", "YYYY.MM.INC0", "YYYY.MM.DD", "YYYY.0M.0D", "YY.0M.0D",
  "vYYYY0M.BUILD[-TAG]", "vMAJOR.MINOR.PATCH[-TAGNUM]"]

end BV
