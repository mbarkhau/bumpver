/-
  Props/Update.lean — end-to-end theorems about the COMPOSED model of `bumpver update`
  (Model/Update.lean): the clauses of C01, C06, C10 and C13 that speak about the whole command
  ("in every other case it exits non-zero and no project file is changed", "every project file
  keeps exactly its prior bytes; nothing is committed, tagged or pushed", "--dry changes nothing")
  hold of the composition of the version decision, the dirty check, the rewrite phase and the
  VCS plan — for every configuration, command line, tag listing, status listing, file system and
  failure position.  The theorems about the pieces (Props/C01, C06, C10, C13) are used as lemmas, once, on
  the skeleton `composed` that `updateFull` shares with its legacy twin `updateFullV1` (Props/UpdateV1.lean).
-/
import BumpverVerif.Model.Update
import BumpverVerif.Props.C01
import BumpverVerif.Props.C06
import BumpverVerif.Props.C10
import BumpverVerif.Props.C13
namespace BV

def composed (bad : Bool) (fs fs' : FS) (p : List Ev × Nat) : FS × List Ev × Nat :=
  if bad then (fs, [], 1) else (if p.1.contains .rewrite then fs' else fs, p.1, p.2)

section composed
variable {bad : Bool} {fs fs' : FS} {p : List Ev × Nat} {c0 : PlanCfg} {a : PlanCli} {e : PlanEnv}

theorem composed_events : (composed bad fs fs' p).2.1 = [] ∨ (composed bad fs fs' p).2.1 = p.1 := by
  cases bad
  · exact .inr rfl
  · exact .inl rfl

theorem composed_untouched (h : Ev.rewrite ∉ (composed bad fs fs' p).2.1) :
    (composed bad fs fs' p).1 = fs := by
  cases bad
  · exact if_neg fun hc => h (List.contains_iff_mem.mp hc)
  · rfl

theorem composed_rewrite_needs (h : Ev.rewrite ∈ (composed bad fs fs' (plan c0 a e)).2.1) :
    a.dry = false ∧ e.gateOk = true ∧ e.rewriteOk = true ∧ bad = false ∧
      (composed bad fs fs' (plan c0 a e)).1 = fs' := by
  cases bad
  · refine ⟨?_, ?_, ?_, rfl, if_pos (List.contains_iff_mem.mpr h)⟩
    · cases hd : a.dry
      · rfl
      · exact absurd rfl (C10_dry c0 a e hd _ h).2.2
    · cases hg : e.gateOk
      · exact absurd rfl ((C01_rejected_no_rewrite c0 a e hg).2 _ h).1
      · rfl
    · cases hr : e.rewriteOk
      · exact absurd rfl ((C06_no_vcs_after_failure c0 a e hr).2 _ h).1
      · rfl
  · cases h

theorem composed_pure (h : ∀ ev ∈ p.1, ev ≠ .rewrite ∧ ev.mutating = false ∧ ev.isHook = false) :
    (composed bad fs fs' p).1 = fs ∧
    ∀ ev ∈ (composed bad fs fs' p).2.1, ev ≠ .rewrite ∧ ev.mutating = false ∧ ev.isHook = false := by
  have hall : ∀ ev ∈ (composed bad fs fs' p).2.1,
      ev ≠ .rewrite ∧ ev.mutating = false ∧ ev.isHook = false := by
    intro ev hev
    rcases composed_events (bad := bad) (fs := fs) (fs' := fs') (p := p) with h0 | h1
    · rw [h0] at hev; cases hev
    · rw [h1] at hev; exact h ev hev
  exact ⟨composed_untouched fun hm => (hall _ hm).1 rfl, hall⟩

theorem composed_failed (hp : p.2 = 1) : (composed bad fs fs' p).2.2 = 1 := by
  cases bad
  · exact hp
  · rfl

theorem composed_dirty_blocks (hd : e.dirtyAbort = true)
    (hs : Ev.cmd "status" ∈ (composed bad fs fs' (plan c0 a e)).2.1) :
    (composed bad fs fs' (plan c0 a e)).2.2 = 1 ∧ (composed bad fs fs' (plan c0 a e)).1 = fs := by
  cases bad
  · obtain ⟨hcode, hall⟩ := C10_dirty_blocks c0 a e hd hs
    exact ⟨hcode, (composed_pure (bad := false) hall).1⟩
  · cases hs

theorem composed_hook_env {ev : Ev} (h : ev ∈ (composed bad fs fs' (plan c0 a e)).2.1) :
    (∀ o n, ev = .preHook o n → o = e.startVersion ∧ n = e.announced) ∧
    (∀ o n, ev = .postHook o n → o = e.startVersion ∧ n = e.announced) := by
  cases bad
  · exact C10_hook_env c0 a e ev h
  · cases h

end composed

theorem updateFull_eq (u : UpdIn) :
    updateFull u = composed (!validReleaseTag u.fl.tag || (u.dateGiven && u.fl.pinDate)) u.fs
      (match u.decide.newV with
        | some v => (rewriteFiles u.fs u.filePatterns v).1
        | none => u.fs) (plan u.c0 u.a u.env) := rfl

/-- unfolding of `updateFull` when the argument validation passes -/
theorem updateFull_valid (u : UpdIn) (hv : (!validReleaseTag u.fl.tag || (u.dateGiven && u.fl.pinDate)) = false) :
    updateFull u =
      ((if (plan u.c0 u.a u.env).1.contains .rewrite then
          match u.decide.newV with
          | some v => (rewriteFiles u.fs u.filePatterns v).1
          | none => u.fs
        else u.fs), (plan u.c0 u.a u.env).1, (plan u.c0 u.a u.env).2) := by
  rw [updateFull_eq, hv]
  rfl

theorem updateFull_invalid (u : UpdIn) (hv : (!validReleaseTag u.fl.tag || (u.dateGiven && u.fl.pinDate)) = true) :
    updateFull u = (u.fs, [], 1) := by
  rw [updateFull_eq, hv]
  rfl

/-- FILES CHANGE ONLY THROUGH THE REWRITE STEP: if the trace has no `rewrite` event, every file is as before -/
theorem Update_untouched_without_rewrite (u : UpdIn) (h : Ev.rewrite ∉ (updateFull u).2.1) :
    (updateFull u).1 = u.fs := by
  rw [updateFull_eq] at h ⊢
  exact composed_untouched h

/-- what has to be true for the rewrite step to be reached at all -/
theorem Update_rewrite_needs (u : UpdIn) (h : Ev.rewrite ∈ (updateFull u).2.1) :
    u.a.dry = false ∧ u.decide.gateOk = true ∧ u.rewriteOk u.decide = true ∧
    (!validReleaseTag u.fl.tag || (u.dateGiven && u.fl.pinDate)) = false := by
  rw [updateFull_eq] at h
  obtain ⟨hd, hg, hr, hv, -⟩ := composed_rewrite_needs h
  exact ⟨hd, hg, hr, hv⟩

/-- C01 (last clause) / C06: when no acceptable new version exists, or the rewrite phase cannot complete
    (a configured file is missing, a pattern has no match), the command exits non-zero, EVERY FILE KEEPS ITS
    CONTENT, no hook runs and nothing is committed, tagged or pushed -/
theorem Update_failed_leaves_untouched (u : UpdIn)
    (h : u.decide.gateOk = false ∨ u.rewriteOk u.decide = false) :
    (updateFull u).2.2 = 1 ∧ (updateFull u).1 = u.fs ∧
    ∀ ev ∈ (updateFull u).2.1, ev ≠ .rewrite ∧ ev.mutating = false ∧ ev.isHook = false := by
  have key : (plan u.c0 u.a u.env).2 = 1 ∧
      ∀ ev ∈ (plan u.c0 u.a u.env).1, ev ≠ .rewrite ∧ ev.mutating = false ∧ ev.isHook = false := by
    rcases h with hg | hr
    · exact C01_rejected_no_rewrite u.c0 u.a u.env hg
    · exact C06_no_vcs_after_failure u.c0 u.a u.env hr
  rw [updateFull_eq]
  exact ⟨composed_failed key.1, composed_pure key.2⟩

/-- C13: `--dry` leaves every file as it is, runs no hook and issues no mutating VCS command -/
theorem Update_dry_pure (u : UpdIn) (hd : u.a.dry = true) :
    (updateFull u).1 = u.fs ∧
    ∀ ev ∈ (updateFull u).2.1, ev ≠ .rewrite ∧ ev.mutating = false ∧ ev.isHook = false := by
  rw [updateFull_eq]
  exact composed_pure (C13_dry_pure u.c0 u.a u.env hd)

/-- C01: whenever files are written, the version written is a candidate that matches the pattern IN FULL
    and is STRICTLY GREATER (PEP 440) than the version the update started from (config value or newest tag
    in scope) -/
theorem Update_written_version_sound (u : UpdIn) (h : Ev.rewrite ∈ (updateFull u).2.1) :
    ∃ new, u.decide.new = some new ∧ FullMatch u.pat new ∧ pepLt u.decide.start new = true := by
  obtain ⟨-, hg, -, -⟩ := Update_rewrite_needs u h
  unfold UpdIn.decide at hg ⊢
  cases hc : u.cand with
  | none => rw [hc] at hg; cases hg
  | some new =>
    rw [hc] at hg
    refine ⟨new, rfl, ?_⟩
    simp only [decideCand] at hg ⊢
    split at hg
    · rename_i hacc
      exact C01_gate_sound _ _ _ _ _ _ hacc
    · cases hg

/-- C03/C06: when files are written, EVERY configured file existed, every one of its patterns matched, and the
    files afterwards are the validated new contents (nothing else is written) -/
theorem Update_writes_all (u : UpdIn) (h : Ev.rewrite ∈ (updateFull u).2.1) :
    ∃ v, u.decide.newV = some v ∧ (rewriteFiles u.fs u.filePatterns v).2 = .ok () ∧
      (updateFull u).1 = (rewriteFiles u.fs u.filePatterns v).1 ∧
      ∀ fp ∈ u.filePatterns, ∃ c, lookup fp.1 u.fs = some c ∧ ∃ c', rewriteContent fp.2 v c = .ok c' := by
  rw [updateFull_eq] at h ⊢
  obtain ⟨hdry, -, hr, -, hfs⟩ := composed_rewrite_needs h
  change u.rewriteOk u.decide = true at hr
  unfold UpdIn.rewriteOk at hr
  split at hr
  · cases hr
  · rename_i v hnv
    rw [hdry] at hr
    simp only [Bool.false_eq_true, if_false] at hr
    have hok : (rewriteFiles u.fs u.filePatterns v).2 = .ok () := by
      unfold rewriteFiles
      split at hr
      · rename_i ws hws; rw [hws]
      · cases hr
    exact ⟨v, hnv, hok, by rw [hfs, hnv], C06_success_writes _ _ _ hok⟩

/-- C10 on the composite: hooks see the version the update STARTED from and the version it writes -/
theorem Update_hook_env (u : UpdIn) (ev : Ev) (h : ev ∈ (updateFull u).2.1) :
    (∀ o n, ev = .preHook o n → o = u.decide.start ∧ n = u.decide.new.getD []) ∧
    (∀ o n, ev = .postHook o n → o = u.decide.start ∧ n = u.decide.new.getD []) :=
  composed_hook_env (updateFull_eq u ▸ h)

/-- a dirty tree blocks the run before anything is written (C11 through the composite) -/
theorem Update_dirty_blocks (u : UpdIn) (hd : u.dirtyAbort = true)
    (hs : Ev.cmd "status" ∈ (updateFull u).2.1) :
    (updateFull u).2.2 = 1 ∧ (updateFull u).1 = u.fs := by
  rw [updateFull_eq] at hs ⊢
  exact composed_dirty_blocks (e := u.env) hd hs

end BV
