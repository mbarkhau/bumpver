/-
  Props/RewriteWitnesses.lean — the two concrete runs of the v2 rewrite model that Props/C03 and Props/C06
  quote as witnesses of the repaired defects D2 and D5.  They are evaluated by the kernel in ONE declaration:
  most of the work is converting the pattern tables of Gen/V2Tables.lean from string literals, which the
  kernel does once per declaration.
-/
import BumpverVerif.Model.Rewrite
namespace BV

theorem rewrite_witnesses :
    (let v : VInfo := { cal := ⟨none, none, none, none, none, none, none, none, none⟩, major := 1, minor := 2,
                         patch := 4, bid := "1000".toList, tag := "final".toList, pytag := [], num := 0, inc0 := 0, inc1 := 1 }
     let vp := "MAJOR.MINOR.PATCH".toList
     rewriteLines [{ vp := vp, raw := "a=MAJOR.MINOR.PATCH".toList }, { vp := vp, raw := "b=MAJOR.MINOR.PATCH".toList }] v
        ["a=1.2.3 b=1.2.3".toList] = .ok ["a=1.2.4 b=1.2.4".toList]) ∧
    (let v : VInfo := { cal := ⟨none, none, none, none, none, none, none, none, none⟩, major := 1, minor := 2,
                         patch := 4, bid := "1000".toList, tag := "final".toList, pytag := [], num := 0, inc0 := 0, inc1 := 1 }
     let p : CPat := { vp := "MAJOR.MINOR.PATCH".toList, raw := "MAJOR.MINOR.PATCH".toList }
     let fs : FS := [("a".toList, "v 1.2.3".toList)]
     let fps := [("a".toList, [p]), ("b".toList, [p])]
     (rewriteFilesLazy v fs fps).1 = [("a".toList, "v 1.2.4".toList)] ∧
     (rewriteFilesLazy v fs fps).2 = .error .missingFile ∧
     (rewriteFiles fs fps v).1 = fs) := by
  decide +kernel

end BV
