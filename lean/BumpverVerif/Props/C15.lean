/-
  Props/C15.lean — property C15: {pep440_version} always denotes the same version as {version}.

  "Whenever the version string is itself a valid PEP 440 version, the text written for
   `{pep440_version}` is a valid PEP 440 version equal to it (same release numbers, same
   pre/post/dev segment and number), is accepted by the derived search pattern, and equals
   the `PEP440` value printed by `test`/`show` up to PEP 440 normalisation. As the README's
   normalisation rules state, it carries no `v` prefix, every dot-separated numeric component
   after the first is written without leading zeros, and the release tag appears in its short
   form (a, b, rc, post, dev) followed by its number."

  Model: `convertToPep440` (string-faithful, Model/V2Patterns.lean) over the GENERATED tables,
  the tag maps, `fmtValue`, and C16's PEP 440 parser.
  What is PROVED here: the table-level facts the derivation rests on, for the regenerated tables; the conversion of
  every README example pattern; and, on the pattern TREE (`Pat.toPep`, Model/PepTree.lean), the property's statement
  for every `Pat.pepShaped` pattern and every record in its domain: the written text is accepted by the derived
  pattern (`C15_derived_accepts_of_original`), parses to the same PEP 440 version as the version string
  (`C15_version_parses_equal`) and is the printed `PEP440` value up to normalisation (`C15_equals_printed_pep440`).
  What is only VALIDATED (by the correspondence ops and the `packaging`-based oracle of harness/props/c15.py): that
  the string conversion `convertToPep440` and the tree conversion agree (`pepTie`) on patterns other than the
  README's, for which it is proved (`C15_readme_tree_tie`); labelled partial in MANIFEST.  Patterns outside the
  README's shapes are known finding F-C15-odd-shapes.
-/
import BumpverVerif.Model.V2Version
import BumpverVerif.Model.Pep440
import BumpverVerif.Model.PepTree
import BumpverVerif.Proofs.PepTreeLemmas
import BumpverVerif.Model.PepOfRecord
import BumpverVerif.Proofs.PepParseLemmas
namespace BV

private def S (s : String) : Str := s.toList

/-- every part the conversion substitutes shows the SAME field as the part it replaces and is
    rendered without zero padding (`str(v)` / `str(int(v))`): this is what strips leading
    zeros from the dot-separated components and from BUILD -/
theorem C15_substitutions_unpadded :
    Gen.pep440PartSubstitutions.all (fun pq =>
      ((lookup pq.1 Gen.partFields == lookup pq.2 Gen.partFields) ||
        (pq.1 == S "TAG" && pq.2 == S "PYTAG")) &&          -- the tag goes through the tag tables below
      (lookup pq.1 Gen.partFields).isSome &&
      (match lookup pq.2 Gen.partFormats with
       | some .str => true | some .int => true | _ => false)) = true := by
  decide +kernel

/-- the padded parts are exactly the ones that get substituted (nothing padded is forgotten),
    apart from the year parts, which are always the first component -/
theorem C15_padded_parts_covered :
    Gen.partFormats.all (fun pk =>
      match pk.2 with
      | .pad _ => (lookup pk.1 Gen.pep440PartSubstitutions).isSome
      | _ => true) = true := by
  decide +kernel

/-- the two tag tables are consistent: the long tag of a short tag maps back to it -/
theorem C15_tag_tables_consistent :
    Gen.tagByPep440Tag.all (fun pt => lookup pt.2 Gen.pep440TagByTag == some pt.1) = true ∧
    Gen.validReleaseTagValues.all (fun t => (lookup t Gen.pep440TagByTag).isSome) = true := by
  decide +kernel

/-- the short form of every release tag IS the PEP 440 segment of that name: `1.0<short>3`
    parses (C16's parser) with the pre / post / dev segment the README documents -/
theorem C15_short_tags_are_pep440 :
    (parsePep (S "1.0a3")).map (·.pre) = some (some (S "a", 3)) ∧
    (parsePep (S "1.0b3")).map (·.pre) = some (some (S "b", 3)) ∧
    (parsePep (S "1.0rc3")).map (·.pre) = some (some (S "rc", 3)) ∧
    (parsePep (S "1.0post3")).map (·.post) = some (some 3) ∧
    (parsePep (S "1.0dev3")).map (·.dev) = some (some 3) ∧
    lookup (S "alpha") Gen.pep440TagByTag = some (S "a") ∧ lookup (S "beta") Gen.pep440TagByTag = some (S "b") ∧
    lookup (S "rc") Gen.pep440TagByTag = some (S "rc") ∧ lookup (S "post") Gen.pep440TagByTag = some (S "post") ∧
    lookup (S "dev") Gen.pep440TagByTag = some (S "dev") ∧ lookup (S "final") Gen.pep440TagByTag = some [] := by
  decide +kernel

/-- a final release renders the tag part as the empty string, so `[PYTAGNUM]` is omitted -/
theorem C15_final_tail_omitted :
    isZeroVal (S "PYTAG") [] = true ∧ isZeroVal (S "NUM") (S "0") = true ∧ isZeroVal (S "TAG") (S "final") = true := by
  decide +kernel

/-- the README's pattern examples and their derived PEP 440 search patterns (kernel-evaluated
    on the regenerated tables; the conversion is string surgery, so this is checked per pattern) -/
def readmeConversions : List (String × String) := [
  ("MAJOR.MINOR.PATCH[PYTAGNUM]", "MAJOR.MINOR.PATCH[PYTAGNUM]"),
  ("MAJOR.MINOR[.PATCH[PYTAGNUM]]", "MAJOR.MINOR[.PATCH[PYTAGNUM]]"),
  ("YYYY.BUILD[PYTAGNUM]", "YYYY.BLD[PYTAGNUM]"),
  ("YYYY.BUILD[-TAG]", "YYYY.BLD[PYTAGNUM]"),
  ("YYYY.INC0[PYTAGNUM]", "YYYY.INC0[PYTAGNUM]"),
  ("YYYY0M.PATCH[-TAG]", "YYYY0M.PATCH[PYTAGNUM]"),
  ("YYYY0M.BUILD[-TAG]", "YYYY0M.BLD[PYTAGNUM]"),
  ("YYYY.0M", "YYYY.MM[PYTAGNUM]"),
  ("YYYY.MM", "YYYY.MM[PYTAGNUM]"),
  ("YYYY.WW", "YYYY.WW[PYTAGNUM]"),
  ("YYYY.MM.PATCH[PYTAGNUM]", "YYYY.MM.PATCH[PYTAGNUM]"),
  ("YYYY.0M.PATCH[PYTAGNUM]", "YYYY.MM.PATCH[PYTAGNUM]"),
  ("YYYY.MM.INC0", "YYYY.MM.INC0[PYTAGNUM]"),
  ("YYYY.MM.DD", "YYYY.MM.DD[PYTAGNUM]"),
  ("YYYY.0M.0D", "YYYY.MM.DD[PYTAGNUM]"),
  ("YY.0M.0D", "YY.MM.DD[PYTAGNUM]"),
  ("vYYYY0M.BUILD[-TAG]", "YYYY0M.BLD[PYTAGNUM]"),
  ("vMAJOR.MINOR.PATCH[-TAGNUM]", "MAJOR.MINOR.PATCH[PYTAGNUM]")]

/-- ONE evaluation of the README's table, line by line: the string conversion of the left column (its result is the
    right column; its shape), its tie to the tree conversion, and the static checks of the pattern's tree and of
    the derived tree -/
theorem readmeConversions_checked :
    readmeConversions.all (fun pq =>
      let q := convertToPep440 pq.1.toList
      q == pq.2.toList &&
      (!startsWith q ['v'] && isInfix (S "[PYTAGNUM]") q && !isInfix (S "-") q && !isInfix (S "BUILD") q) &&
      pepTie pq.1.toList &&
      (tokenize pq.1.toList).any (fun p =>
        p.toPep.wfTop && p.toPep.calAnchored && p.toPep.compile.isSome && p.pepShaped)) = true := by
  -- the patterns are spelled out as character lists first: the kernel decodes a string literal slowly, and would
  -- do so at every use of a line's text
  unfold readmeConversions
  simp only [List.all_cons, List.all_nil]
  repeat rw [String.toList_ofList]
  decide +kernel

structure ReadmeLine (pq : String × String) (p : Pat) : Prop where
  converts : (convertToPep440 pq.1.toList == pq.2.toList) = true
  shape : (!startsWith (convertToPep440 pq.1.toList) ['v'] && isInfix (S "[PYTAGNUM]") (convertToPep440 pq.1.toList) &&
    !isInfix (S "-") (convertToPep440 pq.1.toList) && !isInfix (S "BUILD") (convertToPep440 pq.1.toList)) = true
  tie : pepTie pq.1.toList = true
  tree : tokenize pq.1.toList = some p
  wf : p.toPep.wfTop = true
  anchored : p.toPep.calAnchored = true
  compiles : p.toPep.compile.isSome = true
  shaped : p.pepShaped = true

theorem readmeConversions_line (pq : String × String) (h : pq ∈ readmeConversions) : ∃ p, ReadmeLine pq p := by
  have := List.all_eq_true.mp readmeConversions_checked pq h
  simp only [Bool.and_eq_true, Option.any_eq_true] at this
  obtain ⟨⟨⟨h1, h2⟩, h3⟩, p, hp, ⟨⟨h4, h5⟩, h6⟩, h7⟩ := this
  exact ⟨p, h1, by simp only [Bool.and_eq_true]; exact h2, h3, hp, h4, h5, h6, h7⟩

theorem pepShaped_derived (p : Pat) (h : p.pepShaped = true) :
    p.tagGuarded = true ∧ p.toPep.pepParseable = true ∧ p.toPep.pepNormal = true := by
  simp only [Pat.pepShaped, Bool.and_eq_true] at h
  obtain ⟨⟨⟨⟨⟨⟨_, hguard⟩, hpars⟩, hnorm⟩, _⟩, _⟩, _⟩ := h
  exact ⟨hguard, hpars, hnorm⟩

theorem C15_readme_conversions :
    readmeConversions.all (fun pq => convertToPep440 pq.1.toList == pq.2.toList) = true := by
  rw [List.all_eq_true]
  exact fun pq h => let ⟨_, l⟩ := readmeConversions_line pq h; l.converts

/-- the derived pattern never starts with the `v` prefix of the version pattern, ends with the tag
    part in `PYTAGNUM` form, has no `-` separator and no zero-padded BUILD left — for the README examples -/
theorem C15_readme_shape :
    readmeConversions.all (fun pq =>
      let p := convertToPep440 pq.1.toList
      !startsWith p ['v'] && isInfix (S "[PYTAGNUM]") p && !isInfix (S "-") p && !isInfix (S "BUILD") p) = true := by
  rw [List.all_eq_true]
  exact fun pq h => let ⟨_, l⟩ := readmeConversions_line pq h; l.shape

/-- the defect region (F-C15-odd-shapes): a separator other than '.' is simply deleted, which
    glues two numeric parts together -/
theorem C15_odd_shape_witness :
    convertToPep440 (S "YYYY.MM-INC0") = S "YYYY.MMINC0[PYTAGNUM]" := by
  decide +kernel

/-! ## The derived pattern on the pattern TREE

  `Pat.toPep` (Model/PepTree.lean) is `_convert_to_pep440` on the tree of Model/PatAst.lean, step by step.  The
  string conversion above stays the reference (it is tied to the Python by the correspondence tests); `pepTie`
  says that both agree on a pattern.  It is PROVED here for the README's patterns and is a Bool the driver can
  evaluate for every generated pattern.  On the tree the round-trip theorems of C02 apply to the derived
  pattern. -/

/-- THE TIE for the README's patterns: the string surgery's result tokenises to exactly the tree conversion of
    the pattern's tree -/
theorem C15_readme_tree_tie :
    readmeConversions.all (fun pq => pepTie pq.1.toList) = true := by
  rw [List.all_eq_true]
  exact fun pq h => let ⟨_, l⟩ := readmeConversions_line pq h; l.tie

/-- "IS ACCEPTED BY THE DERIVED SEARCH PATTERN", on the tree: the text rendered through the derived pattern
    `p.toPep` is matched IN FULL by the regex compiled from `p.toPep`, its named groups are exactly the rendered
    part texts, it reads back with every part equal, and rendering what was read reproduces it.  This is the
    round trip of C02 (`compose_match`, `roundtrip_ast`) at the derived tree (nothing else about `toPep` is used);
    the hypotheses are about the derived tree — `C15_vok_transfer` and `C15_readme_derived_wf` discharge them from the original pattern. -/
theorem C15_derived_accepts_own_rendering (p : Pat) (v : VInfo) (r : Re) (today : Nat × Nat × Nat)
    (hwf : Pat.wfTop p.toPep = true) (hv : Pat.vok v p.toPep = true) (htc : tagCoh v = true)
    (hc : CalReadsBack p.toPep v today) (hr : Pat.compile p.toPep = some r) :
    reMatch r (Pat.render v p.toPep) =
      some { start := 0, stop := (Pat.render v p.toPep).length, caps := (Pat.caps v p.toPep).reverse } ∧
    ∃ v', parseWithRe r (Pat.render v p.toPep) today = .ok v' ∧ Pat.agree v v' p.toPep = true ∧
      Pat.render v' p.toPep = Pat.render v p.toPep := by
  -- `wfTop` is `wf` at the end of the text, and distinct field names
  exact ⟨compose_match v p.toPep r (Bool.and_eq_true_iff.mp hwf).1 hv hr,
    roundtrip_ast p.toPep v r today hwf hv htc hc hr⟩

/-- THE TRANSFER of the record-level hypothesis from the ORIGINAL pattern to the derived one.  `pepReady v`
    (Model/PepTree.lean) is what the substitutions need:
      * BUILD -> BLD          : the BUILD value is a NON-ZERO number (BLD is `[1-9][0-9]*`, rendered `str(int(v))`);
      * 0M 0D 00J 0W 0U 0V    : nothing (same field, same domain);
      * TAG -> PYTAG          : `pytag` is the image of `tag` under PEP440_TAG_BY_TAG (then TAG and PYTAG are zero
                                for the same records), and the release is NOT FINAL wherever the tag is rendered;
      * the appended `[PYTAGNUM]` : `tag` is a CLI release tag, and a final release has release number 0.
    `Pat.tagGuarded p`: every TAG of the pattern sits in an optional group made of tag / number parts only
    (`[-TAG]`, `[-TAGNUM]`), so that it is not rendered for a final release.  Without it the statement is FALSE:
    `C15_mandatory_tag_witness`. -/
theorem C15_vok_transfer (p : Pat) (v : VInfo) (hv : Pat.vok v p = true) (hr : pepReady v = true)
    (hg : Pat.tagGuarded p = true) : Pat.vok v p.toPep = true :=
  vok_toPep_guarded p v hv ((pepReady_iff v).1 hr) hg

/-- … for ANY pattern tree when the release is not final -/
theorem C15_vok_transfer_nonfinal (p : Pat) (v : VInfo) (hv : Pat.vok v p = true) (hr : pepReady v = true)
    (hnf : v.tag ≠ "final".toList) : Pat.vok v p.toPep = true :=
  vok_toPep_nonfinal p v hv ((pepReady_iff v).1 hr) hnf

/-- … for ANY pattern tree when the release tail is RELOCATED (no `PYTAGNUM` after the substitutions: all PYTAG
    and NUM parts are removed, empty groups dropped once, `[PYTAGNUM]` appended) -/
theorem C15_vok_transfer_relocated (p : Pat) (v : VInfo) (hv : Pat.vok v p = true) (hr : pepReady v = true)
    (hn : p.toPepPre.hasPytagNum = false) : Pat.vok v p.toPep = true :=
  vok_toPep_relocated p v hv ((pepReady_iff v).1 hr) hn

/-- `pepReady` contains the tag coherence the round trip needs -/
theorem C15_pepReady_tagCoh (v : VInfo) (hr : pepReady v = true) : tagCoh v = true :=
  tagCoh_of_pepReady v hr

/-- THE COMPOSITION, from hypotheses on the ORIGINAL pattern and record (plus the two static checks of the
    derived tree that `C15_readme_derived_wf` evaluates): for every version state whose calendar is
    `cal_info(date)` — what a bump produces — the `{pep440_version}` text is accepted in full by the derived
    pattern and reads back with every part equal. -/
theorem C15_derived_accepts_of_original (p : Pat) (v : VInfo) (r : Re) (today : Nat × Nat × Nat) (y m d : Nat)
    (hd : validDate y m d = true) (hcal : v.cal = (calInfo y m d).toOpt)
    (hv : Pat.vok v p = true) (hready : pepReady v = true) (hg : Pat.tagGuarded p = true)
    (hwf : Pat.wfTop p.toPep = true) (ha : Pat.calAnchored p.toPep = true) (hr : Pat.compile p.toPep = some r) :
    reMatch r (Pat.render v p.toPep) =
      some { start := 0, stop := (Pat.render v p.toPep).length, caps := (Pat.caps v p.toPep).reverse } ∧
    ∃ v', parseWithRe r (Pat.render v p.toPep) today = .ok v' ∧ Pat.agree v v' p.toPep = true ∧
      Pat.render v' p.toPep = Pat.render v p.toPep := by
  have hv' := C15_vok_transfer p v hv hready hg
  exact C15_derived_accepts_own_rendering p v r today hwf hv' (tagCoh_of_pepReady v hready)
    (calReadsBack_of_date p.toPep v today y m d hd hcal hwf hv' ha) hr

/-- NON-VACUITY and scope: for every README pattern the derived tree is `wfTop`, `calAnchored`, compiles, and
    the pattern is `tagGuarded` — the static hypotheses of `C15_derived_accepts_of_original` -/
theorem C15_readme_derived_wf :
    readmeConversions.all (fun pq => match tokenize pq.1.toList with
      | some p => p.toPep.wfTop && p.toPep.calAnchored && p.toPep.compile.isSome && p.tagGuarded
      | none => false) = true := by
  rw [List.all_eq_true]
  intro pq h
  obtain ⟨p, l⟩ := readmeConversions_line pq h
  rw [l.tree]
  simp only [Bool.and_eq_true]
  exact ⟨⟨⟨l.wf, l.anchored⟩, l.compiles⟩, (pepShaped_derived p l.shaped).1⟩

/-- a concrete record in the domain: 2024-03-09, BUILD 0013, beta 4 under `vYYYY0M.BUILD[-TAG]` renders through
    the derived tree as `202403.13b4` (hypotheses satisfiable) -/
example :
    let v : VInfo := { cal := (calInfo 2024 3 9).toOpt, major := 0, minor := 0, patch := 0, bid := "0013".toList,
                       tag := "beta".toList, pytag := "b".toList, num := 4, inc0 := 0, inc1 := 1 }
    (match tokenize "vYYYY0M.BUILD[-TAG]".toList with
     | some p => p.vok v && pepReady v && p.tagGuarded && p.toPep.wfTop && p.toPep.calAnchored && p.toPep.vok v &&
                 (p.toPep.render v == "202403.13b4".toList)
     | none => false) = true := by
  decide +kernel

/-- WITNESS (why `tagGuarded`): `MAJOR.MINOR.PATCH-TAGNUM` has a MANDATORY tag.  For the final release 1.2.3 the
    version text is "1.2.3-final0"; the derived pattern `MAJOR.MINOR.PATCHPYTAGNUM` is well-formed, the record is
    in the domain of the original pattern and `pepReady`, but NOT in the domain of the derived pattern: it
    renders "1.2.30" (empty PYTAG, the 0 of NUM glued to the patch number), which the derived pattern does not
    match at all (PYTAG `dev|post|rc|a|b` cannot be empty). -/
theorem C15_mandatory_tag_witness :
    let v : VInfo := { cal := (calInfo 2024 3 9).toOpt, major := 1, minor := 2, patch := 3, bid := "1001".toList,
                       tag := "final".toList, pytag := [], num := 0, inc0 := 0, inc1 := 1 }
    (match tokenize "MAJOR.MINOR.PATCH-TAGNUM".toList with
     | some p => p.vok v && pepReady v && !p.tagGuarded && p.toPep.wfTop && !p.toPep.vok v &&
                 (p.toPep.render v == "1.2.30".toList) &&
                 (match p.toPep.compile with
                  | some r => (reMatch r (p.toPep.render v)).isNone
                  | none => false)
     | none => false) = true := by
  decide +kernel

/-- WITNESSES (why `pepReady`): (1) a final release with a release number — `vYYYY.BUILD[-TAG][+NUM]`, "v2024.1001+5":
    the relocated `[PYTAGNUM]` renders the 5 without a tag, glued to the BUILD number: "2024.10015" (which the
    derived pattern even accepts — as BUILD 10015); (2) BUILD "0000" becomes BLD "0", which `[1-9][0-9]*` rejects. -/
theorem C15_pepReady_witnesses :
    let v1 : VInfo := { cal := (calInfo 2024 3 9).toOpt, major := 0, minor := 0, patch := 0, bid := "1001".toList,
                        tag := "final".toList, pytag := [], num := 5, inc0 := 0, inc1 := 1 }
    let v2 : VInfo := { v1 with bid := "0000".toList, num := 0 }
    (match tokenize "vYYYY.BUILD[-TAG][+NUM]".toList with
     | some p => p.vok v1 && !pepReady v1 && !p.toPep.vok v1 && (p.toPep.render v1 == "2024.10015".toList) &&
                 p.vok v2 && !pepReady v2 && !p.toPep.vok v2 && (p.toPep.render v2 == "2024.0".toList) &&
                 (match p.toPep.compile with
                  | some r => (reMatch r (p.toPep.render v2)).isNone
                  | none => false)
     | none => false) = true := by
  decide +kernel

/-! ### the normal form of the rendering -/

/-- EVERY derived pattern carries the release tail in the form `PYTAGNUM` (short tag directly followed by its
    number) — for all trees, not only the README's -/
theorem C15_derived_has_pytagnum (p : Pat) : p.toPep.hasPytagNum = true :=
  hasPytagNum_toPep p

/-- THE NORMAL FORM, structurally.  `Pat.pepNormal q`: no literal `v` at the start; every part AFTER THE FIRST
    DOT-SEPARATED COMPONENT (`q.afterHead`: from the first top-level `.` or optional group on) is unpadded
    (`str(v)` of a number or `str(int(v))`; not the verbatim BUILD string, not the long tag); no TAG part; every
    PYTAG part is directly followed by NUM.  (The first component is exempt as in the property's text: the
    README's `YYYY0M.BLD[PYTAGNUM]` keeps the padded month inside the first component `202403`.)
    For such a tree and every record in the domain:
      (1) text and captures split into the first component (no `.`, no group) and the rest;
      (2) every part text of the rest is the short tag or `str(n)` for the number `n` of its field (for BLD: the
          number the BUILD string denotes) — hence digits without a leading zero unless it is "0";
      (3) no long tag anywhere, every rendered tag is one of a, b, rc, post, dev;
      (4) every rendered tag is directly followed by the release number `str(num)`. -/
theorem C15_normal_form_parts (q : Pat) (v : VInfo) (hn : Pat.pepNormal q = true) (hv : Pat.vok v q = true) :
    (Pat.render v q = Pat.render v q.headComp ++ Pat.render v q.afterHead ∧
     Pat.caps v q = Pat.caps v q.headComp ++ Pat.caps v q.afterHead ∧ Pat.flatNoDot q.headComp = true) ∧
    (∀ ft, ft ∈ Pat.caps v q.afterHead →
      (ft.1 = "pytag".toList ∧ ft.2 ∈ pepShortTags) ∨
      (∃ n, ft.2 = natToStr n ∧ (v.get ft.1 = .nat n ∨ (ft.1 = "bid".toList ∧ n = strToNat v.bid)) ∧
        allDigits ft.2 = true ∧ (ft.2 = "0".toList ∨ ∀ c t, ft.2 = c :: t → c ≠ '0'))) ∧
    (∀ ft, ft ∈ Pat.caps v q → ft.1 ≠ "tag".toList ∧ (ft.1 = "pytag".toList → ft.2 ∈ pepShortTags)) ∧
    (∀ l1 t l2, Pat.caps v q = l1 ++ ("pytag".toList, t) :: l2 →
      ∃ l3, l2 = ("num".toList, natToStr v.num) :: l3) := by
  simp only [Pat.pepNormal, Bool.and_eq_true] at hn
  obtain ⟨⟨⟨_, hN⟩, hT⟩, hP⟩ := hn
  refine ⟨⟨render_head_after v q, caps_head_after v q, headComp_flatNoDot q⟩, ?_, caps_tags v q hT hv, ?_⟩
  · intro ft hm
    rcases caps_all_normal v q.afterHead hN (vok_afterHead v q hv) ft hm with h | ⟨n, h1, h2⟩
    · exact Or.inl h
    · refine Or.inr ⟨n, h1, h2, ?_, ?_⟩
      · rw [h1]; exact allDigits_natToStr n
      · rw [h1]; exact natToStr_no_leading_zero n
  · intro l1 t l2 e
    exact capsNumbered_split v _ l1 t l2 (caps_numbered v q hP) e

/-- the derived tree of every README pattern is in normal form -/
theorem C15_readme_derived_normal :
    readmeConversions.all (fun pq => match tokenize pq.1.toList with
      | some p => p.toPep.pepNormal
      | none => false) = true := by
  rw [List.all_eq_true]
  intro pq h
  obtain ⟨p, l⟩ := readmeConversions_line pq h
  rw [l.tree]
  exact (pepShaped_derived p l.shaped).2.2

/-! ## The written text IS a PEP 440 version with the right content

  `pepOfRecord q v` (Model/PepOfRecord.lean) is the version the record denotes under the derived tree `q`: release =
  the numbers of the dot-separated components (the first one may be several adjacent parts, `YYYY0M` -> 202403), pre /
  post / dev from `pytag` / `num` when the tag is rendered (`a` `b` `rc` -> pre, `post` -> post, `dev` -> dev), none
  of them when `[PYTAGNUM]` is omitted (final release), epoch 0, no local part.  `parsePep` is C16's model of the
  vendored PEP 440 parser (`Version.__init__`). -/

/-- "THE TEXT WRITTEN FOR `{pep440_version}` IS A VALID PEP 440 VERSION" with the record's content: for a derived tree
    in normal form (`Pat.pepNormal`, see `C15_normal_form_parts`) of the parseable shape (`Pat.pepParseable`: a first
    component made of numeric parts; then `.PART` components and optional groups; the tag sequence last) and a record
    in its domain, the vendored parser ACCEPTS the rendered text and reads exactly `pepOfRecord q v`, a well-formed
    version.  Bumpver writes `1.2.3post0` / `1.2.3dev0` without the `.` of the canonical form: the parser accepts
    the undotted spelling (`postSeg`, `devSeg`).
    Neither `Pat.wfTop q` nor `pepReady v` is needed here: `Pat.vok v q` already says that a rendered PYTAG is a
    short tag.  (`C15_vok_transfer` derives `Pat.vok v p.toPep` from the original pattern, with `pepReady v`.) -/
theorem C15_derived_parses (q : Pat) (v : VInfo) (hn : Pat.pepNormal q = true) (hs : Pat.pepParseable q = true)
    (hv : Pat.vok v q = true) :
    ∃ ver, pepOfRecord q v = some ver ∧ parsePep (Pat.render v q) = some ver ∧ wfPep ver = true :=
  pp_derived_parses q v hn hs hv

/-- the derived tree of every README pattern has the parseable shape -/
theorem C15_readme_derived_parseable :
    readmeConversions.all (fun pq => match tokenize pq.1.toList with
      | some p => p.toPep.pepParseable
      | none => false) = true := by
  rw [List.all_eq_true]
  intro pq h
  obtain ⟨p, l⟩ := readmeConversions_line pq h
  rw [l.tree]
  exact (pepShaped_derived p l.shaped).2.1

/-- … SPELLED OUT in terms of the record ("same release numbers, same pre/post/dev segment and number"): the parsed
    version has epoch 0 and no local part; its release is the number of the first component followed by the FIELD
    VALUES (`partNum`: `major`, `minor`, `patch`, `month`, … ; BLD: the number of the build id) of the rendered
    release parts; its pre / post / dev segment is the one of `pytag` with the number `num` when the tag is rendered
    (`pepSegOf`: a, b, rc -> pre; post -> post; dev -> dev), and absent otherwise -/
theorem C15_derived_content (q : Pat) (v : VInfo) (hn : Pat.pepNormal q = true) (hs : Pat.pepParseable q = true)
    (hv : Pat.vok v q = true) :
    ∃ ver, parsePep (Pat.render v q) = some ver ∧ ver.epoch = 0 ∧ ver.loc = none ∧
      ver.release = strToNat (Pat.render v q.headComp) :: (Pat.relNames v q.afterHead).map (partNum v) ∧
      (if q.afterHead.tagShown v = true then pepSegOf v.pytag v.num = some (ver.pre, ver.post, ver.dev)
       else ver.pre = none ∧ ver.post = none ∧ ver.dev = none) :=
  pp_derived_content q v hn hs hv

/-- … from hypotheses on the ORIGINAL pattern and record (`C15_vok_transfer`), plus the static checks of the derived
    tree that `C15_readme_derived_normal` / `C15_readme_derived_parseable` evaluate -/
theorem C15_derived_parses_of_original (p : Pat) (v : VInfo) (hv : Pat.vok v p = true) (hready : pepReady v = true)
    (hg : Pat.tagGuarded p = true) (hn : Pat.pepNormal p.toPep = true) (hs : Pat.pepParseable p.toPep = true) :
    ∃ ver, pepOfRecord p.toPep v = some ver ∧ parsePep (Pat.render v p.toPep) = some ver ∧ wfPep ver = true :=
  pp_derived_parses p.toPep v hn hs (C15_vok_transfer p v hv hready hg)

/-! ## … and equals the version string as a PEP 440 version

  `pepOfVersion p v`: the version the record denotes under the VERSION pattern `p` — a leading literal `v` does not
  count, zero padding inside a component does not count (`2024.03`), the tag in its long or short form with or
  without `-`, a release number that is not rendered is 0.  `Pat.pepShaped p` (Model/PepOfRecord.lean) is the static
  relation between `p` and its derived tree: both have the parseable shape, every TAG sits in a group of tag /
  number parts, the first component has the same parts up to a substitution of the FIRST one, and the release
  skeleton (parts and optional groups, without literals and without the top-level tag groups) is the same up to
  substituted part names.  `pepCoherent p v`: what the version string does not show has its default value (no tag
  part: final; no NUM part: release number 0) — every record read from a version string satisfies it. -/

/-- the ORIGINAL version string parses (vendored PEP 440 parser) to `pepOfVersion p v`: the `v` prefix, zero padding
    (`2024.03`), the `-` separator, the long tag names `alpha` / `beta` and a missing release number (implicit 0)
    are all normalised by the parser -/
theorem C15_version_parses (p : Pat) (v : VInfo) (hs : Pat.pepParseable p.dropV = true) (hg : Pat.tagGuarded p = true)
    (hv : Pat.vok v p = true) (hr : pepReady v = true) :
    ∃ ver, pepOfVersion p v = some ver ∧ parsePep (Pat.render v p) = some ver ∧ wfPep ver = true :=
  pp_version_parses p v hs hg hv hr

/-- "… IS A VALID PEP 440 VERSION EQUAL TO IT": the version string and the text written for `{pep440_version}` parse to
    THE SAME version (all fields equal, not only the sort key), which is the one the record denotes -/
theorem C15_version_parses_equal (p : Pat) (v : VInfo) (hs : Pat.pepShaped p = true) (hv : Pat.vok v p = true)
    (hr : pepReady v = true) (hc : pepCoherent p v = true) :
    ∃ ver, pepOfRecord p.toPep v = some ver ∧ parsePep (Pat.render v p.toPep) = some ver ∧
      parsePep (Pat.render v p) = some ver ∧ wfPep ver = true :=
  pp_version_parses_equal p v hs hv hr hc

/-- … in the form "equal as PEP 440 versions": equal comparison keys (the two parsed versions are even the same) -/
theorem C15_version_key_equal (p : Pat) (v : VInfo) (hs : Pat.pepShaped p = true) (hv : Pat.vok v p = true)
    (hr : pepReady v = true) (hc : pepCoherent p v = true) :
    ∃ ver ver', parsePep (Pat.render v p.toPep) = some ver ∧ parsePep (Pat.render v p) = some ver' ∧
      pepKey ver' = pepKey ver := by
  obtain ⟨ver, _, h2, h3, _⟩ := C15_version_parses_equal p v hs hv hr hc
  exact ⟨ver, ver, h2, h3, rfl⟩

/-- "… AND EQUALS THE `PEP440` VALUE PRINTED BY `test` / `show` UP TO PEP 440 NORMALISATION": the printed value is
    `str(parse_version(version_string))` = `verStr (parseVersion …)`; it is the canonical text of the version that
    the written `{pep440_version}` text parses to, and parses to that version itself -/
theorem C15_equals_printed_pep440 (p : Pat) (v : VInfo) (hs : Pat.pepShaped p = true) (hv : Pat.vok v p = true)
    (hr : pepReady v = true) (hc : pepCoherent p v = true) :
    ∃ ver, parsePep (Pat.render v p.toPep) = some ver ∧
      verStr (parseVersion (Pat.render v p)) = pepStr ver ∧ parsePep (pepStr ver) = some ver := by
  obtain ⟨ver, _, h2, h3, h4⟩ := pp_version_parses_equal p v hs hv hr hc
  exact ⟨ver, h2, by simp only [parseVersion, h3, verStr], parsePep_pepStr ver h4⟩

/-- every README pattern is `pepShaped` -/
theorem C15_readme_shaped :
    readmeConversions.all (fun pq => match tokenize pq.1.toList with
      | some p => p.pepShaped
      | none => false) = true := by
  rw [List.all_eq_true]
  intro pq h
  obtain ⟨p, l⟩ := readmeConversions_line pq h
  rw [l.tree]
  exact l.shaped

/-- WITNESSES (why `pepCoherent`): the record carries a release number / a tag that the version string does not show.
    (1) `YYYY.BUILD[-TAG]`, beta with release number 4: the version string is "2024.1001-beta" (= 2024.1001b0), the
    `{pep440_version}` text is "2024.1001b4";  (2) `YYYY.0M`, tag beta: "2024.03" against "2024.3b0".  Everything
    else holds (shape, domain, `pepReady`); the parsed versions have different keys. -/
theorem C15_coherent_witnesses :
    let v1 : VInfo := { cal := (calInfo 2024 3 9).toOpt, major := 0, minor := 0, patch := 0, bid := "1001".toList,
                        tag := "beta".toList, pytag := "b".toList, num := 4, inc0 := 0, inc1 := 1 }
    let v2 : VInfo := { v1 with num := 0 }
    (match tokenize "YYYY.BUILD[-TAG]".toList, tokenize "YYYY.0M".toList with
     | some p1, some p2 =>
       p1.pepShaped && p1.vok v1 && pepReady v1 && !pepCoherent p1 v1 &&
       (p1.render v1 == "2024.1001-beta".toList) && (p1.toPep.render v1 == "2024.1001b4".toList) &&
       ((parsePep (p1.render v1)).map pepKey != (parsePep (p1.toPep.render v1)).map pepKey) &&
       p2.pepShaped && p2.vok v2 && pepReady v2 && !pepCoherent p2 v2 &&
       (p2.render v2 == "2024.03".toList) && (p2.toPep.render v2 == "2024.3b0".toList) &&
       ((parsePep (p2.render v2)).map pepKey != (parsePep (p2.toPep.render v2)).map pepKey)
     | _, _ => false) = true := by
  decide +kernel

/-- WITNESS (why the release skeleton must be the same): `MAJOR.MINOR[.PATCH[-TAG]]` is not `pepShaped`.  The derived
    tree is `MAJOR.MINOR[.PATCH][PYTAGNUM]` (the tag group leaves the PATCH group), so for 1.2.0-beta the version
    string is "1.2.0-beta" (release 1.2.0) and the written text "1.2b0" (release 1.2): two DIFFERENT versions with
    EQUAL comparison keys (trailing zeros are stripped by `_cmpkey`). -/
theorem C15_skeleton_witness :
    let v : VInfo := { cal := (calInfo 2024 3 9).toOpt, major := 1, minor := 2, patch := 0, bid := "1001".toList,
                       tag := "beta".toList, pytag := "b".toList, num := 0, inc0 := 0, inc1 := 1 }
    (match tokenize "MAJOR.MINOR[.PATCH[-TAG]]".toList with
     | some p =>
       !p.pepShaped && p.vok v && pepReady v && pepCoherent p v && p.toPep.vok v &&
       (p.render v == "1.2.0-beta".toList) && (p.toPep.render v == "1.2b0".toList) &&
       (parsePep (p.render v) != parsePep (p.toPep.render v)) &&
       ((parsePep (p.render v)).map pepKey == (parsePep (p.toPep.render v)).map pepKey)
     | none => false) = true := by
  decide +kernel

set_option maxRecDepth 100000 in
/-- NON-VACUITY: 2024-03-09, BUILD 0013, beta (release number 0) under `vYYYY0M.BUILD[-TAG]` satisfies every hypothesis
    of `C15_version_parses_equal`; the version string "v202403.0013-beta" and the written text "202403.13b0" both
    parse to release 202403.13, pre-release b0 — the value of `pepOfRecord` -/
example :
    let v : VInfo := { cal := (calInfo 2024 3 9).toOpt, major := 0, minor := 0, patch := 0, bid := "0013".toList,
                       tag := "beta".toList, pytag := "b".toList, num := 0, inc0 := 0, inc1 := 1 }
    let ver : PepVersion := { epoch := 0, release := [202403, 13], pre := some ("b".toList, 0), post := none,
                              dev := none, loc := none }
    (match tokenize "vYYYY0M.BUILD[-TAG]".toList with
     | some p => p.pepShaped && p.vok v && pepReady v && pepCoherent p v &&
                 (p.render v == "v202403.0013-beta".toList) && (p.toPep.render v == "202403.13b0".toList) &&
                 (pepOfRecord p.toPep v == some ver) && (pepOfVersion p v == some ver) &&
                 (parsePep (p.render v) == some ver) && (parsePep (p.toPep.render v) == some ver)
     | none => false) = true := by
  decide +kernel

/-- WITNESS ("up to PEP 440 normalisation" is needed): for post and dev releases the written text is NOT the canonical
    text that `test` / `show` print — bumpver writes "1.2.3post0", the printed `PEP440` value is "1.2.3.post0"; both
    parse to the same version.  (For a / b / rc and final releases of this pattern the two texts coincide.) -/
theorem C15_post_spelling_witness :
    let v : VInfo := { cal := (calInfo 2024 3 9).toOpt, major := 1, minor := 2, patch := 3, bid := "1001".toList,
                       tag := "post".toList, pytag := "post".toList, num := 0, inc0 := 0, inc1 := 1 }
    (match tokenize "MAJOR.MINOR.PATCH[PYTAGNUM]".toList with
     | some p => p.pepShaped && p.vok v && pepReady v && pepCoherent p v &&
                 (p.toPep.render v == "1.2.3post0".toList) &&
                 (verStr (parseVersion (p.render v)) == "1.2.3.post0".toList) &&
                 (parsePep (p.toPep.render v) == parsePep "1.2.3.post0".toList)
     | none => false) = true := by
  decide +kernel

end BV
