/-
  Props/C02Code.lean — property C02 ON THE CODE'S OWN FUNCTIONS, in the form of the definitions GENERATED from the
  Python source:

    GenF.formatVersion     ⟸ AST of `v2version.format_version`      (Gen/F_formatVersion.lean, harness/translate_format.py)
    GenF.parseVersionInfo  ⟸ AST of `v2version.parse_version_info`  (Gen/F_parseVersionInfo.lean, harness/translate_parse.py)
    GenF.isValid           ⟸ AST of `v2version.is_valid`            (Gen/F_isValid.lean)

  "For every supported pattern and every version state reachable by bumping, the text bumpver renders is accepted in
   full by the recogniser compiled from that same pattern, reads back as the same version (every part equal), and
   rendering what was read back reproduces the text byte for byte.  Hence the version announced by one run is always a
   legal current version for `show` and for the next run."

  HEADLINE `C02_code`: for every pattern tree `p` and every version record `v` with

    tokSafe p                     the tree ↔ string-surgery side condition (Model/PatText.lean; decidable on the pattern),
    noPlaceholder (Pat.text p)    the pattern text has no `{version}` / `{pep440_version}` (then normalize_pattern is the
                                  identity; `noPlaceholder_of_noBrace`: a tree without a literal `{` has none),
    Pat.wfTop p                   "uniquely readable" (Model/PatWf.lean; decidable on the pattern),
    Pat.vok v p                   `v` lies in the domain of every part that is rendered (decidable),
    tagCoh v                      an empty `pytag` belongs to the tag `final` (invariant of every record read or bumped),
    CalReadsBack p v today        the calendar fields of the pattern read back (discharged in `C02_code_of_date` for
                                  every record whose calendar is `cal_info(date)` — what a bump produces),
    today.2.1 ≠ 0                 the month of `version.TODAY` is not 0 (true of every `datetime.date`; needed by
                                  `tie_parseCinfo`: Python tests `if month:`),

  there are a text `s` and a record `v'` such that — all about the TRANSLATED PYTHON FUNCTIONS, with the pattern given
  as the TEXT `Pat.text p` (a `Str` = list of characters; the version record is the model's `VInfo`, which is the
  record type of the generated definitions too; `today` = `version.TODAY` as (year, month, day)):

    GenF.formatVersion v (Pat.text p)              = .ok s          format_version renders s
    s                                              = Pat.render v p   (the structural rendering)
    GenF.parseVersionInfo s (Pat.text p) today     = .ok v'         parse_version_info accepts s IN FULL, reads v'
    Pat.agree v v' p                                                every part equal, omitted groups omitted again
    GenF.formatVersion v' (Pat.text p)             = .ok s          rendering what was read back reproduces s
    GenF.isValid s (Pat.text p) today              = .ok true       s is a legal current version
    tagCoh v'

  Composition: `C02_roundtrip_ast` (tree level, Props/C02.lean) ∘ `compile_tie` / `format_tie` (tree = string surgery,
  Props/C02Tie.lean) ∘ `tie_formatVersion` / `tie_parseVersionInfo` / `tie_isValid` (generated definition = hand model,
  Proofs/Tie_*.lean) — the group-name hypothesis of the latter two is discharged by `validGroupNames_compile`
  (Proofs/TieN_Groups.lean).

  THE OPEN END of `C02_roundtrip_code` ("rendering what was read back", stated there on the tree only) is closed by
  `valok_of_agree` + `formatVersion_valok` (Proofs/TieN_Format.lean): `format_version` needs of the record only that the
  rendered parts have non-empty values without upper-case letters, and that is a property of the part TEXTS, on which
  `v'` agrees with `v`.  `Pat.vok v' p` itself (domain membership of what was read) is NOT a consequence:
  `vok_readback_needs_condition` below (a two-digit ISO year next to a full date) — it holds when the calendar
  FIELDS of the pattern read back to their values (`C02_readback_vok` below, `CalFieldsReadBack` in Proofs/TieN_ReadBack.lean:
  true of every record whose calendar is `cal_info(date)`, and of every pattern without a two-digit-year part).
-/
import BumpverVerif.Props.C02Tie
import BumpverVerif.Proofs.TieN_Groups
import BumpverVerif.Proofs.TieN_Format
import BumpverVerif.Proofs.TieN_ReadBack
import BumpverVerif.Proofs.Tie_formatVersion
namespace BV
open TieN

/-- THE FULL ROUND TRIP on the hand model of the code's functions: `C02_roundtrip_code` with its open end closed —
    `format_version` of the record that was read back IS the text (not only `Pat.render` of it) -/
theorem C02_roundtrip_code_full (p : Pat) (v : VInfo) (today : Nat × Nat × Nat) (hs : tokSafe p = true)
    (hp : noPlaceholder (Pat.text p) = true)
    (hwf : Pat.wfTop p = true) (hv : Pat.vok v p = true) (htc : tagCoh v = true) (hc : CalReadsBack p v today) :
    ∃ s v', formatVersion v (Pat.text p) = .ok s ∧ s = Pat.render v p ∧
      parseVersionInfo s (Pat.text p) today = .ok v' ∧
      Pat.agree v v' p = true ∧ formatVersion v' (Pat.text p) = .ok s ∧ tagCoh v' = true := by
  obtain ⟨h1, h2⟩ := (noPlaceholder_iff _).mp hp
  obtain ⟨s, v', a, b, c, d⟩ := C02_roundtrip_code p v today hs h1 h2 hwf hv htc hc
  have hs' : s = Pat.render v p := by
    rw [format_tie p v hs hv htc] at a
    exact (Except.ok.inj a).symm
  have htc' := parseVersionInfo_tagCoh s _ today v' b
  refine ⟨s, v', a, hs', b, c, ?_, htc'⟩
  rw [formatVersion_valok p v' hs (valok_of_agree v v' p c (valok_of_vok v p hv)) htc', d]

/-- **C02 on the translated Python functions** (see the head of this file) -/
theorem C02_code (p : Pat) (v : VInfo) (today : PDate) (hT : today.2.1 ≠ 0) (hs : tokSafe p = true)
    (hp : noPlaceholder (Pat.text p) = true)
    (hwf : Pat.wfTop p = true) (hv : Pat.vok v p = true) (htc : tagCoh v = true) (hc : CalReadsBack p v today) :
    ∃ s v', GenF.formatVersion v (Pat.text p) = .ok s ∧ s = Pat.render v p ∧
      GenF.parseVersionInfo s (Pat.text p) today = .ok v' ∧
      Pat.agree v v' p = true ∧
      GenF.formatVersion v' (Pat.text p) = .ok s ∧
      GenF.isValid s (Pat.text p) today = .ok true ∧ tagCoh v' = true := by
  obtain ⟨s, v', a, e, b, c, d, t⟩ := C02_roundtrip_code_full p v today hs hp hwf hv htc hc
  refine ⟨s, v', (tie_formatVersion_ok v _ s).mpr a, e, ?_, c, (tie_formatVersion_ok v' _ s).mpr d, ?_, t⟩
  · rw [tie_parseVersionInfo_text p s today hT hs hp, b]
  · rw [tie_isValid_text p s today hT hs hp]
    unfold isValid
    rw [b]

/-- WHAT WAS READ BACK LIES IN THE DOMAIN AGAIN (model functions): whenever `format_version` rendered `s` and
    `parse_version_info` read `v'` from it, `v'` is in the domain of every rendered part — provided the calendar
    fields of the pattern read back to their VALUES (`CalFieldsReadBack`, Proofs/TieN_ReadBack.lean; without it:
    `vok_readback_needs_condition`) -/
theorem C02_readback_vok (p : Pat) (v : VInfo) (today : Nat × Nat × Nat) (hs : tokSafe p = true)
    (hp : noPlaceholder (Pat.text p) = true)
    (hwf : Pat.wfTop p = true) (hv : Pat.vok v p = true) (htc : tagCoh v = true)
    (hc : CalFieldsReadBack p v today) (s : Str) (v' : VInfo)
    (hf : formatVersion v (Pat.text p) = .ok s) (hpv : parseVersionInfo s (Pat.text p) today = .ok v') :
    Pat.vok v' p = true := by
  obtain ⟨h1, h2⟩ := (noPlaceholder_iff _).mp hp
  obtain ⟨r, -, hr⟩ := compile_tie_some p hs
  rw [format_tie p v hs hv htc] at hf
  cases Except.ok.inj hf
  rw [parseVersionInfo_tie p _ today r hs h1 h2 hr] at hpv
  exact readback_vok p v today hwf hv htc hc v' (parseWithRe_render p v r today v' hwf hv hr hpv)

/-- … the same about the translated Python functions -/
theorem C02_code_readback_vok (p : Pat) (v : VInfo) (today : PDate) (hT : today.2.1 ≠ 0) (hs : tokSafe p = true)
    (hp : noPlaceholder (Pat.text p) = true)
    (hwf : Pat.wfTop p = true) (hv : Pat.vok v p = true) (htc : tagCoh v = true)
    (hc : CalFieldsReadBack p v today) (s : Str) (v' : VInfo)
    (hf : GenF.formatVersion v (Pat.text p) = .ok s) (hpv : GenF.parseVersionInfo s (Pat.text p) today = .ok v') :
    Pat.vok v' p = true := by
  rw [tie_parseVersionInfo_text p s today hT hs hp] at hpv
  exact C02_readback_vok p v today hs hp hwf hv htc hc s v' ((tie_formatVersion_ok v _ s).mp hf) hpv

/-- **C02 for "every version state reachable by bumping"**: the calendar of a bumped record is `cal_info` of the bump
    date (`calAnchored` excludes patterns whose only calendar parts are WW / UU / Q, see `C02_roundtrip_of_date`).
    Here the record that was read back is in the domain again (`Pat.vok v' p`) and coherent (`tagCoh v'`): it
    satisfies the record hypotheses of this theorem except the calendar one. -/
theorem C02_code_of_date (p : Pat) (v : VInfo) (today : PDate) (y m d : Nat) (hT : today.2.1 ≠ 0)
    (hd : validDate y m d = true) (hcal : v.cal = (calInfo y m d).toOpt)
    (hs : tokSafe p = true) (hp : noPlaceholder (Pat.text p) = true)
    (hwf : Pat.wfTop p = true) (hv : Pat.vok v p = true) (htc : tagCoh v = true) (ha : Pat.calAnchored p = true) :
    ∃ s v', GenF.formatVersion v (Pat.text p) = .ok s ∧ s = Pat.render v p ∧
      GenF.parseVersionInfo s (Pat.text p) today = .ok v' ∧
      Pat.agree v v' p = true ∧
      GenF.formatVersion v' (Pat.text p) = .ok s ∧
      GenF.isValid s (Pat.text p) today = .ok true ∧ tagCoh v' = true ∧ Pat.vok v' p = true := by
  have hcf := calFieldsReadBack_of_date p v today y m d hd hcal hwf hv ha
  obtain ⟨s, v', a, e, b, c, d2, f, g⟩ :=
    C02_code p v today hT hs hp hwf hv htc (calReadsBack_of_fields p v today hcf)
  exact ⟨s, v', a, e, b, c, d2, f, g, C02_code_readback_vok p v today hT hs hp hwf hv htc hcf s v' a b⟩

/-- … for pattern TEXT: every hypothesis on the pattern is decidable on the text `pat` (tokenise, then check) -/
theorem C02_code_str (pat : Str) (p : Pat) (v : VInfo) (today : PDate) (y m d : Nat) (hT : today.2.1 ≠ 0)
    (ht : tokenize pat = some p) (hpt : Pat.text p = pat)
    (hd : validDate y m d = true) (hcal : v.cal = (calInfo y m d).toOpt)
    (hs : tokSafe p = true) (hp : noPlaceholder pat = true)
    (hwf : Pat.wfTop p = true) (hv : Pat.vok v p = true) (htc : tagCoh v = true) (ha : Pat.calAnchored p = true) :
    ∃ s v', GenF.formatVersion v pat = .ok s ∧
      GenF.parseVersionInfo s pat today = .ok v' ∧
      Pat.agree v v' p = true ∧
      GenF.formatVersion v' pat = .ok s ∧
      GenF.isValid s pat today = .ok true ∧ tagCoh v' = true ∧ Pat.vok v' p = true := by
  have _ := ht
  subst hpt
  obtain ⟨s, v', a, -, b, c, d2, e, f, g⟩ := C02_code_of_date p v today y m d hT hd hcal hs hp hwf hv htc ha
  exact ⟨s, v', a, b, c, d2, e, f, g⟩

/-! ### non-vacuity: the README's example patterns -/

theorem C02Code_readme_noPlaceholder : readmePatterns.all (fun s => noPlaceholder s.toList) = true := by
  -- the kernel decodes a string literal slowly, and the search does so at every position: spell the patterns out first
  unfold readmePatterns
  simp only [List.all_cons, List.all_nil, Bool.and_true]
  repeat rw [String.toList_ofList]
  decide +kernel

/-- every README example pattern is inside the headline theorem: for every record in the domain whose calendar is
    `cal_info` of a valid date, the translated `format_version` / `parse_version_info` / `is_valid` round-trip -/
theorem C02_code_readme (pat : String) (hpat : pat ∈ readmePatterns) :
    ∃ p, tokenize pat.toList = some p ∧
      ∀ (v : VInfo) (today : PDate) (y m d : Nat), today.2.1 ≠ 0 → validDate y m d = true →
        v.cal = (calInfo y m d).toOpt → Pat.vok v p = true → tagCoh v = true →
        ∃ s v', GenF.formatVersion v pat.toList = .ok s ∧
          GenF.parseVersionInfo s pat.toList today = .ok v' ∧
          Pat.agree v v' p = true ∧
          GenF.formatVersion v' pat.toList = .ok s ∧
          GenF.isValid s pat.toList today = .ok true ∧ tagCoh v' = true ∧ Pat.vok v' p = true := by
  obtain ⟨p, ht, hsafe, htext, hwf, hcal, -⟩ := readme_tree pat hpat
  have hnp := List.all_eq_true.mp C02Code_readme_noPlaceholder pat hpat
  exact ⟨p, ht, fun v today y m d hT hd hcal' hv htc =>
    C02_code_str pat.toList p v today y m d hT ht htext hd hcal' hsafe hnp hwf hv htc hcal⟩

/-! ### `Pat.vok` of the record read back needs a condition -/

/-- `GG.YYYY.MM.DD`: a two-digit ISO year next to a full date -/
def vokNeedsPat : Pat :=
  .part "GG".toList (.lit '.' (.part "YYYY".toList (.lit '.' (.part "MM".toList (.lit '.' (.part "DD".toList .done))))))

/-- the date 1923-06-01 with the (inconsistent) ISO year 2023: every part is in its domain -/
def vokNeedsRec : VInfo :=
  { cal := { (calInfo 1923 6 1).toOpt with yearG := some 2023 }, major := 0, minor := 0, patch := 0,
    bid := "1000".toList, tag := "final".toList, pytag := [], num := 0, inc0 := 0, inc1 := 1 }

set_option maxRecDepth 100000 in
/-- WITNESS: all hypotheses of `C02_code` hold (the text `23.1923.6.1` is rendered, accepted, read back and rendered
    again to the same text), but the record read back has `year_g = 1923` (`parse_field_values_to_cinfo` re-derives
    every calendar field from the date 1923-06-01), outside the domain 2001..2099 of `GG`: `Pat.vok v' p` fails, and
    `CalFieldsReadBack` fails with it.  (Real code: `format_version` → "23.1923.6.1", `parse_version_info` →
    year_g 1923, `format_version` again → "23.1923.6.1".) -/
theorem vok_readback_needs_condition :
    Pat.text vokNeedsPat = "GG.YYYY.MM.DD".toList ∧ tokSafe vokNeedsPat = true ∧
    noPlaceholder (Pat.text vokNeedsPat) = true ∧ Pat.wfTop vokNeedsPat = true ∧
    Pat.vok vokNeedsRec vokNeedsPat = true ∧ tagCoh vokNeedsRec = true ∧
    CalReadsBack vokNeedsPat vokNeedsRec (2024, 5, 17) ∧
    Pat.render vokNeedsRec vokNeedsPat = "23.1923.6.1".toList ∧
    (match parseVinfo (Pat.fv vokNeedsRec vokNeedsPat) (2024, 5, 17) with
     | .ok v' => Pat.agree vokNeedsRec v' vokNeedsPat && (Pat.render v' vokNeedsPat == "23.1923.6.1".toList) &&
                 (v'.cal.yearG == some 1923) && !Pat.vok v' vokNeedsPat
     | .error _ => false) = true := by
  refine ⟨by decide +kernel, by decide +kernel, by decide +kernel, by decide +kernel, by decide +kernel,
    by decide +kernel, ⟨(calInfo 1923 6 1).toOpt, by decide +kernel, by decide +kernel⟩, by decide +kernel,
    by decide +kernel⟩

end BV
