/-
  Props/C13.lean — property C13: --dry changes nothing and shows exactly what a real run would do.

  "`update --dry` leaves every file byte-identical and issues no mutating VCS command. When it
   exits 0, applying the unified diff it prints to the current files yields exactly the files
   that a real run with the same arguments produces, and that real run also exits 0."

  Model: Model/Diff.lean (`diffFile`/`diffFiles` = the dry path of v2rewrite.diff, and the
  strict unified-diff applier `applyHunks`), Model/Rewrite.lean (the write path), Model/Plan.lean.
  PARTIAL: `difflib.unified_diff` is not modelled — the check validates it per instance with the
  applier below (proved strict: C13_apply_sound), comparing with the files of a real run.
-/
import BumpverVerif.Model.Diff
import BumpverVerif.Props.C10
import BumpverVerif.Proofs.RewriteGeneric
import BumpverVerif.Proofs.DiffLemmas
namespace BV

/-- --dry is pure: no file is written, no hook runs, no mutating VCS command is issued
    (for every configuration, flag set and environment: C10's plan model) -/
theorem C13_dry_pure (c : PlanCfg) (a : PlanCli) (e : PlanEnv) (hd : a.dry = true) :
    ∀ ev ∈ (plan c a e).1, ev ≠ .rewrite ∧ ev.mutating = false ∧ ev.isHook = false := by
  intro ev hev
  obtain ⟨h1, h2, h3⟩ := C10_dry c a e hd ev hev
  exact ⟨h3, h1, h2⟩

/-- the diff path and the write path compute the SAME new lines for a file -/
theorem C13_same_new_lines (fs : FS) (old new : VInfo) (path : Str) (pats : List CPat)
    (ol nl : List Str) (h : diffFile fs old new path pats = .ok (ol, nl)) :
    ∃ content, lookup path fs = some content ∧ ol = splitOn (detectLineSep content) content ∧
      rewriteContent pats new content = .ok (join (detectLineSep content) nl) := by
  exact diffFile_rewriteContent h

/-- a dry run that reports no error ⇒ the real run's rewrite phase succeeds too -/
theorem C13_dry_ok_real_ok (fs : FS) (old new : VInfo) (fps : List (Str × List CPat))
    (rs : List (Str × List Str × List Str)) (h : diffFiles fs old new fps = .ok rs) :
    (rewriteFiles fs fps new).2 = .ok () := by
  obtain ⟨ws, hws, -⟩ := planWrites_of_diffFiles fs old new fps rs h
  unfold rewriteFiles
  simp only [hws]

/-- … and the real run writes, for every configured file, exactly the new lines the dry run diffed -/
theorem C13_dry_shows_real (fs : FS) (old new : VInfo) (fps : List (Str × List CPat))
    (hnd : (fps.map (·.1)).Nodup)
    (rs : List (Str × List Str × List Str)) (h : diffFiles fs old new fps = .ok rs) :
    ∀ r ∈ rs, ∃ content, lookup r.1 fs = some content ∧
      lookup r.1 (rewriteFiles fs fps new).1 = some (join (detectLineSep content) r.2.2) := by
  obtain ⟨ws, hws, hall⟩ := planWrites_of_diffFiles fs old new fps rs h
  have hp := v2Engine.planWrites_paths fs new fps ws ((v2Engine_planWrites _ _ _).trans hws)
  intro r hr
  obtain ⟨content, hc, hm⟩ := hall r hr
  refine ⟨content, hc, ?_⟩
  unfold rewriteFiles
  simp only [hws]
  exact lookup_foldl_write_mem ws fs _ _ (hp ▸ hnd) hm

/-- what it means for a hunk list to describe the change from `old` to `new`, starting after
    `pos` consumed old lines: each hunk's old side sits verbatim at its stated position and is
    replaced by its new side; everything between and after the hunks is unchanged -/
def Describes : List Hunk → Nat → List Str → List Str → Prop
  | [], _, old, new => new = old
  | h :: hs, pos, old, new =>
    pos ≤ h.oldPos ∧ h.oldSide.length = h.oldLen ∧ h.newSide.length = h.newLen ∧
    ∃ rest new', old = old.take (h.oldPos - pos) ++ h.oldSide ++ rest ∧
      new = old.take (h.oldPos - pos) ++ h.newSide ++ new' ∧
      (old.take (h.oldPos - pos)).length = h.oldPos - pos ∧
      Describes hs (h.oldPos + h.oldLen) rest new'

/-- THE APPLIER IS STRICT: whenever it returns a result, the hunks really describe the change —
    every context and deletion line was found verbatim at the exact position -/
theorem C13_apply_sound (hs : List Hunk) (pos : Nat) (old new : List Str)
    (h : applyHunks hs pos old = some new) : Describes hs pos old new := by
  induction hs generalizing pos old new with
  | nil =>
    simp only [applyHunks, Option.some.injEq] at h
    exact h.symm
  | cons hk hs ih =>
    obtain ⟨h1, h2, h3, -, h5, h6, rest, hr, hn⟩ := (applyHunks_cons_some hk hs pos old new).1 h
    refine ⟨h1, h2, h3, old.drop ((hk.oldPos - pos) + hk.oldLen), rest, ?_, hn, ?_, ih _ _ _ hr⟩
    · rw [← h6, List.append_assoc, ← List.drop_drop, List.take_append_drop, List.take_append_drop]
    · rw [List.length_take]; omega

/-- and it is complete for descriptions: a described change is reproduced -/
theorem C13_apply_complete (hs : List Hunk) (pos : Nat) (old new : List Str)
    (hz : ∀ h ∈ hs, h.oldLen = 0 ∨ h.oldStart ≠ 0)
    (h : Describes hs pos old new) : applyHunks hs pos old = some new := by
  induction hs generalizing pos old new with
  | nil => exact congrArg some h.symm
  | cons hk hs ih =>
    obtain ⟨h1, h2, h3, rest, new', ho, hn, hl, hd⟩ := h
    obtain ⟨f1, f2, f3, -⟩ := split_facts old _ _ rest _ _ ho hl h2
    refine (applyHunks_cons_some hk hs pos old new).2
      ⟨h1, h2, h3, hz hk List.mem_cons_self, f3, f1, new', ?_, hn⟩
    rw [f2]
    exact ih _ _ _ (fun x hx => hz x (List.mem_cons_of_mem _ hx)) hd

/-- the hunk body reader consumes exactly the announced numbers of old-side and new-side lines -/
theorem C13_hunk_counts (lines : List Str) (o n : Nat) (ls : List DLine) (rest : List Str)
    (h : readHunkBody lines o n = some (ls, rest)) :
    (ls.filter (fun l => match l with | .add _ => false | _ => true)).length = o ∧
    (ls.filter (fun l => match l with | .del _ => false | _ => true)).length = n ∧
    lines.length = ls.length + rest.length := by
  obtain ⟨h1, h2, h3⟩ := readHunkBody_counts lines o n ls rest h
  have e1 : (fun l : DLine => match l with | .add _ => false | _ => true) = DLine.isOld := by
    funext l; cases l <;> rfl
  have e2 : (fun l : DLine => match l with | .del _ => false | _ => true) = DLine.isNew := by
    funext l; cases l <;> rfl
  rw [e1, e2]
  exact ⟨h1, h2, h3⟩

/-! tests of the parser/applier on a concrete diff (labelled as tests) -/
example : applyUnifiedText ["--- f".toList, "+++ f".toList, "@@ -1,3 +1,3 @@".toList, " a".toList, "-b".toList, "+B".toList, " c".toList]
    [("f".toList, ["a".toList, "b".toList, "c".toList])] = some [("f".toList, ["a".toList, "B".toList, "c".toList])] := by decide +kernel
example : applyUnifiedText ["--- f".toList, "+++ f".toList, "@@ -1,3 +1,3 @@".toList, " a".toList, "-X".toList, "+B".toList, " c".toList]
    [("f".toList, ["a".toList, "b".toList, "c".toList])] = none := by decide +kernel

end BV
