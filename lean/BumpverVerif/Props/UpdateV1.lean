/-
  Props/UpdateV1.lean — the end-to-end theorems of Props/Update.lean for the composed model of
  `bumpver update` with a LEGACY (`{…}`) configuration (Model/UpdateV1.lean): the whole-command clauses of
  C01, C06, C10, C11 and C13 hold of the composition of the LEGACY version decision (`v1StartVersion`,
  `dispatchIncr` / `legacyNormalizeSetVersion`, `v1Gate`, `v1ParseVersionTags`), the dirty check, the LEGACY
  rewrite phase (`v1PlanWrites` / `v1RewriteFiles`, `--dry`: `v1DiffAll`) and the VCS plan — for every
  configuration, command line, tag listing, status listing, file system and failure position.  The
  plan-level theorems (Props/C01, C06, C10, C13) are engine independent and enter through the lemmas about the
  skeleton `composed` of Props/Update.lean; the legacy pieces come from Props/C20 (`C20_gate_greater`) and
  Props/V1Rewrite (`V1_C06_*`, `V1_C13_*`).
-/
import BumpverVerif.Model.UpdateV1
import BumpverVerif.Props.Update
import BumpverVerif.Props.C20
import BumpverVerif.Props.V1Rewrite
namespace BV

theorem updateFullV1_eq (u : UpdInV1) :
    updateFullV1 u = composed (!validReleaseTag u.fl.tag || (u.dateGiven && u.fl.pinDate)) u.fs
      (match u.decide.newV with
        | some v => (v1RewriteFiles u.fs u.cpats v).1
        | none => u.fs) (plan u.c0 u.a u.env) := rfl

/-- unfolding of `updateFullV1` when the argument validation passes -/
theorem updateFullV1_valid (u : UpdInV1) (hv : (!validReleaseTag u.fl.tag || (u.dateGiven && u.fl.pinDate)) = false) :
    updateFullV1 u =
      ((if (plan u.c0 u.a u.env).1.contains .rewrite then
          match u.decide.newV with
          | some v => (v1RewriteFiles u.fs u.cpats v).1
          | none => u.fs
        else u.fs), (plan u.c0 u.a u.env).1, (plan u.c0 u.a u.env).2) := by
  rw [updateFullV1_eq, hv]
  rfl

theorem updateFullV1_invalid (u : UpdInV1) (hv : (!validReleaseTag u.fl.tag || (u.dateGiven && u.fl.pinDate)) = true) :
    updateFullV1 u = (u.fs, [], 1) := by
  rw [updateFullV1_eq, hv]
  rfl

/-- the events of the command are those of the plan for the derived environment (or none) -/
theorem updateFullV1_events (u : UpdInV1) :
    (updateFullV1 u).2.1 = [] ∨ (updateFullV1 u).2.1 = (plan u.c0 u.a u.env).1 :=
  updateFullV1_eq u ▸ composed_events

/-- FILES CHANGE ONLY THROUGH THE REWRITE STEP: if the trace has no `rewrite` event, every file is as before -/
theorem UpdateV1_untouched_without_rewrite (u : UpdInV1) (h : Ev.rewrite ∉ (updateFullV1 u).2.1) :
    (updateFullV1 u).1 = u.fs := by
  rw [updateFullV1_eq] at h ⊢
  exact composed_untouched h

/-- what has to be true for the rewrite step to be reached at all -/
theorem UpdateV1_rewrite_needs (u : UpdInV1) (h : Ev.rewrite ∈ (updateFullV1 u).2.1) :
    u.a.dry = false ∧ u.decide.gateOk = true ∧ u.rewriteOk u.decide = true ∧
    (!validReleaseTag u.fl.tag || (u.dateGiven && u.fl.pinDate)) = false := by
  rw [updateFullV1_eq] at h
  obtain ⟨hd, hg, hr, hv, -⟩ := composed_rewrite_needs h
  exact ⟨hd, hg, hr, hv⟩

/-- C01 (last clause) / C06, legacy configuration: when no acceptable new version exists, or the rewrite
    phase cannot complete (a configured file is missing, a pattern has no match, `format_version` raises), the
    command exits non-zero, EVERY FILE KEEPS ITS CONTENT, no hook runs and nothing is committed, tagged or pushed -/
theorem UpdateV1_failed_leaves_untouched (u : UpdInV1)
    (h : u.decide.gateOk = false ∨ u.rewriteOk u.decide = false) :
    (updateFullV1 u).2.2 = 1 ∧ (updateFullV1 u).1 = u.fs ∧
    ∀ ev ∈ (updateFullV1 u).2.1, ev ≠ .rewrite ∧ ev.mutating = false ∧ ev.isHook = false := by
  have key : (plan u.c0 u.a u.env).2 = 1 ∧
      ∀ ev ∈ (plan u.c0 u.a u.env).1, ev ≠ .rewrite ∧ ev.mutating = false ∧ ev.isHook = false := by
    rcases h with hg | hr
    · exact C01_rejected_no_rewrite u.c0 u.a u.env hg
    · exact C06_no_vcs_after_failure u.c0 u.a u.env hr
  rw [updateFullV1_eq]
  exact ⟨composed_failed key.1, composed_pure key.2⟩

/-- C13, legacy configuration: `--dry` leaves every file as it is, runs no hook and issues no mutating VCS command -/
theorem UpdateV1_dry_pure (u : UpdInV1) (hd : u.a.dry = true) :
    (updateFullV1 u).1 = u.fs ∧
    ∀ ev ∈ (updateFullV1 u).2.1, ev ≠ .rewrite ∧ ev.mutating = false ∧ ev.isHook = false := by
  rw [updateFullV1_eq]
  exact composed_pure (C13_dry_pure u.c0 u.a u.env hd)

/-- C01 / C20, legacy configuration: whenever files are written, the version written is a candidate that the
    LEGACY pattern reads IN FULL (`v1version.parse_version_info` succeeds: `v1ParseVersionInfo` demands that the
    match consumes the whole text) and that is STRICTLY GREATER (PEP 440) than the version the update started
    from (config value or newest tag in scope) -/
theorem UpdateV1_written_version_sound (u : UpdInV1) (h : Ev.rewrite ∈ (updateFullV1 u).2.1) :
    ∃ new, u.decide.new = some new ∧ (∃ v, v1ParseVersionInfo new u.pat = .ok v) ∧
      pepLt u.decide.start new = true := by
  obtain ⟨-, hg, -, -⟩ := UpdateV1_rewrite_needs u h
  unfold UpdInV1.decide at hg ⊢
  cases hc : u.cand with
  | none => rw [hc] at hg; cases hg
  | some new =>
    rw [hc] at hg
    refine ⟨new, rfl, ?_⟩
    simp only [decideCandV1] at hg ⊢
    split at hg
    · rename_i hacc
      exact C20_gate_greater _ _ _ _ _ hacc
    · cases hg

/-- the record that is written is the candidate read back through the legacy pattern -/
theorem UpdateV1_newV_readback (u : UpdInV1) (v : V1Info) (h : u.decide.newV = some v) :
    ∃ new, u.decide.new = some new ∧ v1ParseVersionInfo new u.pat = .ok v := by
  unfold UpdInV1.decide at h ⊢
  cases hc : u.cand with
  | none => rw [hc] at h; cases h
  | some new =>
    rw [hc] at h
    refine ⟨new, rfl, ?_⟩
    simp only [decideCandV1] at h
    split at h
    · rename_i v' hp
      cases h
      exact hp
    · cases h

/-- C03/C06, legacy configuration: when files are written, EVERY configured file existed, every one of its
    (legacy-compiled) patterns matched, and the files afterwards are the validated new contents of
    `v1rewrite.rewrite_files` (nothing else is written) -/
theorem UpdateV1_writes_all (u : UpdInV1) (h : Ev.rewrite ∈ (updateFullV1 u).2.1) :
    ∃ v, u.decide.newV = some v ∧ (v1RewriteFiles u.fs u.cpats v).2 = .ok () ∧
      (updateFullV1 u).1 = (v1RewriteFiles u.fs u.cpats v).1 ∧
      ∀ fp ∈ u.cpats, ∃ c, lookup fp.1 u.fs = some c ∧ ∃ c', v1RewriteContent fp.2 v c = .ok c' := by
  rw [updateFullV1_eq] at h ⊢
  obtain ⟨hdry, -, hr, -, hfs⟩ := composed_rewrite_needs h
  change u.rewriteOk u.decide = true at hr
  unfold UpdInV1.rewriteOk at hr
  split at hr
  · cases hr
  · rename_i v hnv
    rw [hdry] at hr
    simp only [Bool.false_eq_true, if_false] at hr
    have hok : (v1RewriteFiles u.fs u.cpats v).2 = .ok () := by
      unfold v1RewriteFiles RwEngine.rewriteFiles
      unfold v1PlanWrites at hr
      split at hr
      · rename_i ws hws; rw [hws]
      · cases hr
    exact ⟨v, hnv, hok, by rw [hfs, hnv], V1_C06_success_writes _ _ _ hok⟩

/-- C06 on the composite, stated on the files: files that are not configured keep their content whatever
    happens (`V1_C04_other_files`) -/
theorem UpdateV1_other_files (u : UpdInV1) (p : Str) (hp : p ∉ u.paths) :
    lookup p (updateFullV1 u).1 = lookup p u.fs := by
  by_cases h : Ev.rewrite ∈ (updateFullV1 u).2.1
  · obtain ⟨v, -, -, hfs, -⟩ := UpdateV1_writes_all u h
    rw [hfs]
    apply V1_C04_other_files
    intro fp hfp hpe
    apply hp
    unfold UpdInV1.cpats at hfp
    obtain ⟨fp0, hfp0, rfl⟩ := List.mem_map.1 hfp
    exact hpe ▸ List.mem_map.2 ⟨fp0, hfp0, rfl⟩
  · rw [UpdateV1_untouched_without_rewrite u h]

/-- C10 on the composite: hooks see the version the update STARTED from and the version it writes -/
theorem UpdateV1_hook_env (u : UpdInV1) (ev : Ev) (h : ev ∈ (updateFullV1 u).2.1) :
    (∀ o n, ev = .preHook o n → o = u.decide.start ∧ n = u.decide.new.getD []) ∧
    (∀ o n, ev = .postHook o n → o = u.decide.start ∧ n = u.decide.new.getD []) :=
  composed_hook_env (updateFullV1_eq u ▸ h)

/-- a dirty tree blocks the run before anything is written (C11 through the composite) -/
theorem UpdateV1_dirty_blocks (u : UpdInV1) (hd : u.dirtyAbort = true)
    (hs : Ev.cmd "status" ∈ (updateFullV1 u).2.1) :
    (updateFullV1 u).2.2 = 1 ∧ (updateFullV1 u).1 = u.fs := by
  rw [updateFullV1_eq] at hs ⊢
  exact composed_dirty_blocks (e := u.env) hd hs

/-- C13 on the composite: if the `--dry` criterion (`v1rewrite.diff` reports no error) holds for a decision,
    the criterion of the real run (`list(iter_rewritten(…))` completes) holds for it too: a clean dry run
    predicts a rewrite phase that succeeds (`V1_C13_dry_ok_real_ok_sorted`) -/
theorem UpdateV1_dry_ok_real_ok (u u' : UpdInV1) (d : UpdDecisionV1)
    (hsame : u'.fs = u.fs ∧ u'.filePatterns = u.filePatterns ∧ u'.pat = u.pat)
    (hd : u.a.dry = true) (hd' : u'.a.dry = false) (h : u.rewriteOk d = true) : u'.rewriteOk d = true := by
  obtain ⟨hfs, hfp, hpat⟩ := hsame
  have hcp : u'.cpats = u.cpats := by unfold UpdInV1.cpats; rw [hfp]
  unfold UpdInV1.rewriteOk at h ⊢
  split at h
  · cases h
  · rename_i v hnv
    rw [hd] at h
    rw [hd', hfs, hcp]
    simp only [if_true] at h
    simp only [Bool.false_eq_true, if_false]
    split at h
    · cases h
    · rename_i ov _
      split at h
      · rename_i rs hrs
        have := V1_C13_dry_ok_real_ok_sorted _ _ _ _ rs hrs
        unfold v1RewriteFiles RwEngine.rewriteFiles at this
        unfold v1PlanWrites
        split at this
        · cases this
        · rename_i ws hws
          rw [hws]
      · cases h

/-! ### non-vacuity: a concrete legacy project (`{semver}`), kernel-evaluated -/

/-- `version_pattern = "{semver}"`, `current_version = "1.2.3"`, commit + tag + a pre-commit hook, tags `1.3.0` and `junk`
    listed, one configured file with two legacy patterns on one line (CRLF, no final newline), one file that is not configured -/
def updV1Witness : UpdInV1 :=
  { c0 := { commit := true, tag := true, push := false, preHook := true, postHook := false, scopeBranch := false, tagMsgEmpty := false },
    a := { commit := none, tagCommit := none, push := none, preHook := false, postHook := false, scopeBranch := none,
           dry := false, fetch := false, ignoreVcsTag := false, setVersion := false },
    scope0 := .default, cliScope := none, kind := .git, vcsPresent := true, failAt := none,
    branchRemote := false, urlRemote := false, preOk := true, postOk := true,
    pat := "{semver}".toList, cfgVersion := "1.2.3".toList,
    fl := { patch := true },
    dateGiven := false, date := (2026, 9, 30), today := (2026, 9, 30), setVersion := none,
    scopeTags := ["1.3.0".toList, "junk".toList], globalTags := ["1.3.0".toList, "junk".toList], statusLines := [], allowDirty := false,
    fs := [("a".toList, "v 1.2.3 (1.2.3)\r\nx".toList), ("other".toList, "1.2.3".toList)],
    filePatterns := [("a".toList, [("{semver}".toList, "v {version}".toList), ("{semver}".toList, "({semver})".toList)])] }

/-- the three runs stated below, in ONE evaluation: most of the kernel's work is converting the string
    literals of the legacy pattern tables, which it does once per declaration -/
theorem updV1Witness_runs :
    updateFullV1 updV1Witness =
      ([("a".toList, "v 1.3.1 (1.3.1)\r\nx".toList), ("other".toList, "1.2.3".toList)],
       [.cmd "is_usable", .cmd "ls_tags", .cmd "is_usable", .cmd "status", .rewrite,
        .preHook "1.3.0".toList "1.3.1".toList, .add "a".toList, .cmd "commit", .cmd "tag"], 0) ∧
    updateFullV1 { updV1Witness with filePatterns := updV1Witness.filePatterns ++
        [("gone".toList, [("{semver}".toList, "{version}".toList)])] } =
      (updV1Witness.fs, [.cmd "is_usable", .cmd "ls_tags", .cmd "is_usable", .cmd "status"], 1) ∧
    updateFullV1 { updV1Witness with a := { updV1Witness.a with dry := true } } =
      (updV1Witness.fs, [.cmd "is_usable", .cmd "ls_tags"], 0) := by
  decide +kernel

/-- the run `--patch`: starts from the tag 1.3.0, writes 1.3.1 to every occurrence, hook sees (1.3.0, 1.3.1), commits and tags -/
theorem UpdateV1_rewrite_witness : updateFullV1 updV1Witness =
    ([("a".toList, "v 1.3.1 (1.3.1)\r\nx".toList), ("other".toList, "1.2.3".toList)],
     [.cmd "is_usable", .cmd "ls_tags", .cmd "is_usable", .cmd "status", .rewrite,
      .preHook "1.3.0".toList "1.3.1".toList, .add "a".toList, .cmd "commit", .cmd "tag"], 0) :=
  updV1Witness_runs.1

/-- the hypothesis of `UpdateV1_written_version_sound` / `UpdateV1_writes_all` is satisfiable -/
example : Ev.rewrite ∈ (updateFullV1 updV1Witness).2.1 := by
  rw [UpdateV1_rewrite_witness]; decide

/-- a configured file that does not exist: exit 1, nothing written, nothing committed -/
example : updateFullV1 { updV1Witness with filePatterns := updV1Witness.filePatterns ++ [("gone".toList, [("{semver}".toList, "{version}".toList)])] } =
    (updV1Witness.fs, [.cmd "is_usable", .cmd "ls_tags", .cmd "is_usable", .cmd "status"], 1) :=
  updV1Witness_runs.2.1

/-- `--dry`: the diff path succeeds, exit 0, nothing written -/
example : updateFullV1 { updV1Witness with a := { updV1Witness.a with dry := true } } =
    (updV1Witness.fs, [.cmd "is_usable", .cmd "ls_tags"], 0) :=
  updV1Witness_runs.2.2

end BV
