/-
  Props/C05.lean — property C05: bump semantics follow the documented part rules.

  "For every pattern and current version, the bumped version's parts are exactly those the
   README prescribes: the selected MAJOR/MINOR/PATCH part +1; every resettable part (MAJOR,
   MINOR, PATCH, NUM, INC0 to 0, INC1 to 1) to the right of any changed part reset;
   INC0/INC1 +1 unless pinned or reset; BUILD strictly increased and TAG carried over unless
   --tag is given; NUM +1 with --tag-num; calendar parts taken from the given date unless
   pinned (then unchanged) and never moved backwards. Optional groups are omitted exactly when
   all their parts are zero, and parts not addressed by a flag or rule are unchanged."

  Model: Model/V2Version.lean (`incrNumeric`, `resetRolloverFields`, `verToCalInfo`,
  `isCalGt`, `formatSegs`) over the GENERATED tables.  The theorems are stated on the
  version record (`VInfo`) for ALL field lists (= all patterns), all values and all flag
  sets; how the record is rendered and read back is C02.  Helper lemmas: Proofs/V2Lemmas.lean.
-/
import BumpverVerif.Model.V2Version
import BumpverVerif.Proofs.V2Lemmas
import BumpverVerif.Proofs.Digits
import BumpverVerif.Props.C17
-- imported for the build only: this module builds only if the ties (generated-from-source definition = hand model) of these functions are proved
import BumpverVerif.Proofs.Tie_isCalGt
import BumpverVerif.Proofs.Tie_verToCalInfo
namespace BV

private def S (s : String) : Str := s.toList

/-- the resettable fields and their initial values, as the README states them -/
def initialOf (f : Str) : Option Nat :=
  if f = S "major" ∨ f = S "minor" ∨ f = S "patch" ∨ f = S "num" ∨ f = S "inc0" then some 0
  else if f = S "inc1" then some 1 else none

/-- the generated `V2_FIELD_INITIAL_VALUES` table says exactly that -/
theorem C05_initial_table (f : Str) :
    (lookup f Gen.fieldInitialValues).map strToNat = initialOf f := by
  unfold initialOf S
  simp only [Gen.fieldInitialValues, lookup]
  by_cases h1 : f = "major".toList
  · subst h1; rfl
  by_cases h2 : f = "minor".toList
  · subst h2; rfl
  by_cases h3 : f = "patch".toList
  · subst h3; rfl
  by_cases h4 : f = "num".toList
  · subst h4; rfl
  by_cases h5 : f = "inc0".toList
  · subst h5; rfl
  by_cases h6 : f = "inc1".toList
  · subst h6; rfl
  simp only [h1, h2, h3, h4, h5, h6, ↓reduceIte, or_self, Option.map_none]

/-- "some field strictly to the left of position `i` changed" -/
def changedLeft (fs : List Str) (old cur : VInfo) (i : Nat) : Bool :=
  (fs.take i).any (fun f => old.get f != cur.get f)

/-- THE RESET RULE, for every field list (every pattern): a resettable part is reset to its
    initial value iff some part to its left changed; everything else is left as it was.
    (`fs` lists distinct fields: a field occurs at most once in a supported pattern.) -/
theorem C05_reset_rule (fs : List Str) (hnd : fs.Nodup) (old cur : VInfo) (i : Nat) (f : Str)
    (hf : fs[i]? = some f) :
    (resetRolloverFields fs old cur).get f =
      (match initialOf f with
       | some init => if changedLeft fs old cur i then FV.nat init else cur.get f
       | none => cur.get f) := by
  rw [resetRolloverFields_eq,
    applyItems_get f _ cur (fun fi h => (resetItemsGo_mem old cur fs false fi h).1)]
  have htab := C05_initial_table f
  cases hl : lookup f Gen.fieldInitialValues with
  | none =>
    rw [hl] at htab
    rw [← htab]
    rfl
  | some init =>
    rw [hl] at htab
    rw [← htab, resetItemsGo_any old cur fs false i f init hnd hf hl]
    rfl

/-- fields that are not in the pattern, and all non-resettable fields, are never touched by the reset -/
theorem C05_reset_untouched (fs : List Str) (old cur : VInfo) (f : Str)
    (h : f ∉ fs ∨ initialOf f = none) :
    (resetRolloverFields fs old cur).get f = cur.get f := by
  rw [resetRolloverFields_eq,
    applyItems_get f _ cur (fun fi h => (resetItemsGo_mem old cur fs false fi h).1)]
  have htab := C05_initial_table f
  cases hl : lookup f Gen.fieldInitialValues with
  | none => rfl
  | some init =>
    rw [hl] at htab
    rcases h with h | h
    · simp only [resetItemsGo_any_not_mem old cur fs false f h, Bool.false_eq_true, ↓reduceIte]
    · rw [h] at htab; cases htab

/-- the value of every numeric field BEFORE the reset scan: selected part +1, INC0/INC1 +1
    unless pinned, NUM: 0 if the tag changes or the result is final, else +1 with --tag-num -/
def preReset (cur : VInfo) (fl : IncrFlags) (newTag : Str) : VInfo :=
  { cur with
    major := cur.major + (if fl.major then 1 else 0),
    minor := cur.minor + (if fl.minor then 1 else 0),
    patch := cur.patch + (if fl.patch then 1 else 0),
    num := if newTag ≠ cur.tag ∨ newTag = S "final" then 0 else cur.num + (if fl.tagNum then 1 else 0),
    inc0 := cur.inc0 + (if fl.pinIncrements then 0 else 1),
    inc1 := cur.inc1 + (if fl.pinIncrements then 0 else 1),
    tag := newTag }

/-- the tag after the bump: the given tag, else carried over -/
def newTagOf (cur : VInfo) (fl : IncrFlags) : Str :=
  match fl.tag with
  | some t => if t.isEmpty then cur.tag else t
  | none => cur.tag

/-- THE INCREMENT RULES: `incrNumeric` is "apply the flag rules, take the BUILD successor,
    then apply the reset rule" — for all versions, flags and field lists -/
theorem C05_incr_numeric (fs : List Str) (old cur : VInfo) (fl : IncrFlags) (new : VInfo)
    (htag : ∀ t, fl.tag = some t → t ∈ Gen.validReleaseTagValues)
    (h : incrNumeric fs old cur fl = .ok new) :
    ∃ b pt, bumpBid cur.bid = some b ∧
      new = resetRolloverFields fs old
              { preReset cur fl (newTagOf cur fl) with bid := b, pytag := pt } ∧
      (newTagOf cur fl = cur.tag → fl.tag = none ∨ fl.tag = some [] → pt = cur.pytag) ∧
      (∀ t, fl.tag = some t → t ≠ [] → lookup t Gen.pep440TagByTag = some pt) := by
  have _ := htag   -- not needed: an unknown tag makes `incrNumeric` fail with KeyError
  obtain ⟨b, tg, pt, hb, hcase, hnew⟩ := incrNumeric_ok fs old cur fl new h
  rcases hcase with ⟨hno, htg, hpt⟩ | ⟨hsome, hne, hl⟩
  · have hnt : newTagOf cur fl = cur.tag := by
      unfold newTagOf; rcases hno with e | e <;> rw [e] <;> rfl
    refine ⟨b, pt, hb, ?_, fun _ _ => hpt, ?_⟩
    · rw [hnew, hnt, htg]; rfl
    · intro t ht hne
      rcases hno with e | e <;> rw [e] at ht <;> cases ht
      exact absurd rfl hne
  · have hnt : newTagOf cur fl = tg := by
      unfold newTagOf; rw [hsome]
      cases tg with
      | nil => exact absurd rfl hne
      | cons => rfl
    refine ⟨b, pt, hb, ?_, ?_, ?_⟩
    · rw [hnew, hnt]; rfl
    · intro _ hor
      rcases hor with e | e <;> rw [hsome] at e <;> cases e
      exact absurd rfl hne
    · intro t ht _
      rw [hsome] at ht; cases ht; exact hl

/-- BUILD strictly increases (as an integer), TAG is carried over unless --tag is given -/
theorem C05_build_strict_tag_carried (fs : List Str) (old cur : VInfo) (fl : IncrFlags) (new : VInfo)
    (hb : isDigitStr cur.bid = true)
    (htag : ∀ t, fl.tag = some t → t ∈ Gen.validReleaseTagValues)
    (h : incrNumeric fs old cur fl = .ok new) :
    strToNat cur.bid < strToNat new.bid ∧ new.tag = newTagOf cur fl := by
  obtain ⟨b, pt, hbump, hnew, _, _⟩ := C05_incr_numeric fs old cur fl new htag h
  have h1 := C05_reset_untouched fs old
    { preReset cur fl (newTagOf cur fl) with bid := b, pytag := pt } (S "bid") (.inr (by decide))
  have h2 := C05_reset_untouched fs old
    { preReset cur fl (newTagOf cur fl) with bid := b, pytag := pt } (S "tag") (.inr (by decide))
  rw [← hnew] at h1 h2
  have hbid : new.bid = b := FV.str.inj h1
  have htg : new.tag = newTagOf cur fl := FV.str.inj h2
  exact ⟨hbid ▸ C17_int_strict cur.bid b hb hbump, htg⟩

/-- a final release never carries a release number (the repaired D4 defect) -/
theorem C05_final_has_no_num (fs : List Str) (old cur : VInfo) (fl : IncrFlags) (new : VInfo)
    (htag : ∀ t, fl.tag = some t → t ∈ Gen.validReleaseTagValues)
    (h : incrNumeric fs old cur fl = .ok new) (hfin : new.tag = S "final") : new.num = 0 := by
  obtain ⟨b, pt, _, hnew, _, _⟩ := C05_incr_numeric fs old cur fl new htag h
  have h2 := C05_reset_untouched fs old
    { preReset cur fl (newTagOf cur fl) with bid := b, pytag := pt } (S "tag") (.inr (by decide))
  rw [← hnew] at h2
  have htg : new.tag = newTagOf cur fl := FV.str.inj h2
  have hpre : (preReset cur fl (newTagOf cur fl)).num = 0 := by
    rw [← htg, hfin]; unfold preReset; simp
  rcases resetRolloverFields_get_cases fs old
    { preReset cur fl (newTagOf cur fl) with bid := b, pytag := pt } (S "num") with h3 | ⟨init, hl, h3⟩
  · rw [← hnew] at h3
    have : new.num = (preReset cur fl (newTagOf cur fl)).num := FV.nat.inj h3
    rw [this, hpre]
  · rw [← hnew] at h3
    have hi : init = "0".toList := by
      have : lookup (S "num") Gen.fieldInitialValues = some "0".toList := by decide
      rw [this] at hl; exact (Option.some.inj hl).symm
    subst hi
    exact FV.nat.inj h3

/-- --pin-date keeps every calendar part that the version shows — including parts whose value
    is 0 such as week 0 (the repaired D3 defect) -/
theorem C05_pin_date_keeps (v : VInfo) (dflt : CalInfo) :
    let c := verToCalInfo v dflt
    (∀ x, v.cal.yearY = some x → c.yearY = some x) ∧ (∀ x, v.cal.yearG = some x → c.yearG = some x) ∧
    (∀ x, v.cal.quarter = some x → c.quarter = some x) ∧ (∀ x, v.cal.month = some x → c.month = some x) ∧
    (∀ x, v.cal.dom = some x → c.dom = some x) ∧ (∀ x, v.cal.doy = some x → c.doy = some x) ∧
    (∀ x, v.cal.weekW = some x → c.weekW = some x) ∧ (∀ x, v.cal.weekU = some x → c.weekU = some x) ∧
    (∀ x, v.cal.weekV = some x → c.weekV = some x) := by
  simp only [verToCalInfo]
  refine ⟨?_, ?_, ?_, ?_, ?_, ?_, ?_, ?_, ?_⟩ <;> (intro x hx; rw [hx])

/-- pinned calendar parts never trigger the "version from the future" guard: the old version's calendar is not
    greater than `verToCalInfo old today` (its own values where present, the default's elsewhere) -/
theorem C05_pin_date_not_future (v : VInfo) (dflt : CalInfo) :
    isCalGt v.cal (verToCalInfo v dflt) = false :=
  isCalGt_verToCalInfo v dflt

/-- the calendar rule of `incr`: the calendar parts of the working record are the date's, unless
    the old version is lexicographically greater on the shared parts — then nothing moves -/
def calAfter (old : VInfo) (dateCal : CalOpt) : CalOpt :=
  if isCalGt old.cal dateCal then old.cal else dateCal

theorem C05_calendar_never_backwards (old : VInfo) (dateCal : CalOpt) :
    isCalGt old.cal (calAfter old dateCal) = false := by
  unfold calAfter
  by_cases h : isCalGt old.cal dateCal = true
  · rw [if_pos h]; exact isCalGt_self old.cal
  · rw [if_neg h]; simpa using h

/-! ### optional groups are omitted exactly when all their parts are zero -/

/-- all parts occurring in a segment list (searched as the code does: by substring) -/
def segParts (pvs : List (Str × Str)) : List Seg → List (Str × Str)
  | [] => []
  | .lit s :: rest => pvs.filter (fun pv => isInfix pv.1 s) ++ segParts pvs rest
  | .grp items :: rest => segParts pvs items ++ segParts pvs rest

private theorem segParts_cons (pvs : List (Str × Str)) (s : Seg) (rest : List Seg) :
    segParts pvs (s :: rest) = segParts pvs [s] ++ segParts pvs rest := by
  cases s <;> simp [segParts]

mutual
  /-- one item: its contribution to the `is_zero` flag of the enclosing loop -/
  private theorem formatSeg_zero (pvs : List (Str × Str)) : (s : Seg) → (z : Bool) →
      (((if (formatSeg pvs s).isLiteral then z else ((formatSeg pvs s).isZero && z)) = true) ↔
        ((∀ pv ∈ segParts pvs [s], isZeroVal pv.1 pv.2 = true) ∧ z = true))
    | .lit str, z => by
      simp only [formatSeg, segParts, List.append_nil]
      exact formatSegment_flags str pvs z
    | .grp items, z => by
      have ih := formatSegs_zero pvs items
      simp only [formatSeg, segParts, List.append_nil, Bool.false_eq_true, ↓reduceIte,
        Bool.and_eq_true, ih]
  private theorem formatSegs_zero (pvs : List (Str × Str)) : (items : List Seg) →
      ((formatSegs pvs items).1 = true ↔ ∀ pv ∈ segParts pvs items, isZeroVal pv.1 pv.2 = true)
    | [] => by simp [formatSegs, segParts]
    | s :: rest => by
      have ih1 := formatSeg_zero pvs s (formatSegs pvs rest).1
      have ih2 := formatSegs_zero pvs rest
      rw [segParts_cons]
      simp only [formatSegs]
      rw [ih1, ih2]
      simp only [List.mem_append]
      constructor
      · rintro ⟨h1, h2⟩ pv (h | h)
        · exact h1 pv h
        · exact h2 pv h
      · intro h
        exact ⟨fun pv hp => h pv (.inl hp), fun pv hp => h pv (.inr hp)⟩
end

/-- a group is rendered empty iff every part inside it (at any depth) has its zero value —
    for ALL segment trees (all nestings) and all part values -/
theorem C05_optional_omission (pvs : List (Str × Str)) (items : List Seg) :
    (formatSegs pvs items).1 = true ↔ ∀ pv ∈ segParts pvs items, isZeroVal pv.1 pv.2 = true :=
  formatSegs_zero pvs items

/-- WHAT "zero" MEANS in the regenerated table (`version.PART_ZERO_VALUES`): exactly the parts the README lets
    vanish — MAJOR MINOR PATCH NUM INC0 at the number 0, TAG at `final`, PYTAG at the empty string — and nothing
    else: INC1 (which starts at 1), BUILD and the calendar parts never count as zero, so a group holding one of
    them is never omitted.  An edited table (an entry added, a value changed, an entry dropped) breaks this. -/
theorem C05_zero_values :
    Gen.partZeroValues.all (fun pz =>
      (["MAJOR", "MINOR", "PATCH", "NUM", "INC0"].map String.toList).contains pz.1 && pz.2 == "0".toList ||
      pz.1 == "TAG".toList && pz.2 == "final".toList || pz.1 == "PYTAG".toList && pz.2 == []) = true ∧
    (["MAJOR", "MINOR", "PATCH", "NUM", "INC0", "TAG", "PYTAG"].map String.toList).all
      (fun n => (lookup n Gen.partZeroValues).isSome) = true ∧
    isZeroVal "INC1".toList "1".toList = false ∧ isZeroVal "INC1".toList "0".toList = false ∧
    isZeroVal "BUILD".toList "0".toList = false ∧ isZeroVal "BLD".toList "0".toList = false := by
  refine ⟨?_, ?_, ?_, ?_, ?_, ?_⟩ <;> decide

theorem C05_omitted_renders_empty (pvs : List (Str × Str)) (items : List Seg)
    (h : (formatSegs pvs items).1 = true) : (formatSeg pvs (.grp items)).result = [] := by
  simp only [formatSeg, h, ↓reduceIte]

end BV
