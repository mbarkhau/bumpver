/-
  Props/C18.lean — property C18: the same configuration means the same thing in every
  config format.

  "A configuration written in setup.cfg ([bumpver] / [bumpver:file_patterns]),
   pyproject.toml ([tool.bumpver]), bumpver.toml or .bumpver.toml ([bumpver]) or the legacy
   [pycalver] sections is read to the same effective settings: same versions, pattern,
   messages, tag scope, hooks and commit/tag/push booleans (tag and push requiring commit),
   and the same set of (file, search pattern) pairs, always including the config file's own
   current_version line."

  Model (Model/Config.lean): `parseCfgPost` / `parseTomlPost` = `_parse_cfg` / `_parse_toml`
  after the third-party parser, `addSelfPattern` = the self-pattern step of
  `_parse_raw_config`, `parseConfig` = `_parse_config`.  `configparser` and `toml` are not
  modelled: `iniRaw` / `tomlRaw` say what they hand over for the two renderings of an abstract
  configuration `AbsCfg` (checked against the real parsers on every generated configuration).
  Version validation, pattern compilation, path existence and glob results are the
  parameter `env`, the same on both sides.

  Helper lemmas are in Proofs/ConfigLemmas.lean.
-/
import BumpverVerif.Proofs.ConfigLemmas
namespace BV

/-- "expressible in both syntaxes": no quoted booleans, booleans in a conventional INI
    spelling, one-line strings (bare ones without blanks at the ends), file names an INI option
    name can carry (no `=`/`:`, no leading `#`/`;`/`[`, no blanks at the ends), patterns a
    continuation line can carry (non-empty, one line, no leading `#`/`;`, no blanks at the
    ends), distinct file names.  An explicit decidable predicate (`AbsCfg.expressible`). -/
def Expressible (c : AbsCfg) : Prop := c.expressible = true

instance (c : AbsCfg) : Decidable (Expressible c) := by unfold Expressible; infer_instance

/-- the INI reader on the INI rendering, then `_parse_config` -/
def effectiveIni (env : CfgEnv) (legacy : Bool) (c : AbsCfg) : Except CfgErr EffectiveConfig :=
  parseCfgPost (iniRaw legacy c) >>= parseConfig env

/-- the TOML reader on the TOML rendering, then `_parse_config` -/
def effectiveToml (env : CfgEnv) (place : TomlPlace) (c : AbsCfg) : Except CfgErr EffectiveConfig :=
  parseTomlPost (tomlRaw place c) >>= parseConfig env

theorem expressible_parts (c : AbsCfg) (h : Expressible c) :
    optOk AbsBool.ok c.commit = true ∧ optOk AbsBool.ok c.tag = true ∧ optOk AbsBool.ok c.push = true ∧
    ∀ f ∈ c.files, f.patterns.all patternOk = true := by
  unfold Expressible AbsCfg.expressible at h
  simp only [Bool.and_eq_true, List.all_eq_true] at h
  obtain ⟨⟨⟨⟨⟨_, hc⟩, ht⟩, hp⟩, hf⟩, _⟩ := h
  exact ⟨hc, ht, hp, fun f hf' => by simpa [List.all_eq_true] using (hf f hf').2⟩

/-- "is read to the same effective settings": same versions, pattern, messages, tag scope,
    hooks, booleans and (file, pattern) pairs — or the same rejection — in setup.cfg (either
    section name) and in a toml file (any of the three tables), for all configurations
    expressible in both syntaxes and all answers of the environment. -/
theorem C18_equiv (env : CfgEnv) (legacy : Bool) (place : TomlPlace) (c : AbsCfg) (h : Expressible c) :
    effectiveIni env legacy c = effectiveToml env place c := by
  obtain ⟨hc, ht, hp, hf⟩ := expressible_parts c h
  rw [effectiveIni, effectiveToml, parseCfgPost_iniRaw legacy c hf, parseTomlPost_tomlRaw place c, ok_bind, ok_bind]
  exact parseConfig_dicts env c c.filePatterns hc ht hp

/-- the legacy `[pycalver]` sections and `[tool.bumpver]` mean the same as `[bumpver]` -/
theorem C18_sections (env : CfgEnv) (c : AbsCfg) (h : Expressible c) :
    effectiveIni env true c = effectiveIni env false c ∧
    effectiveToml env .tool c = effectiveToml env .plain c ∧
    effectiveToml env .legacy c = effectiveToml env .plain c ∧
    effectiveIni env true c = effectiveToml env .legacy c := by
  have e := fun l p => C18_equiv env l p c h
  exact ⟨(e true .plain).trans (e false .plain).symm, (e false .tool).symm.trans (e false .plain),
    (e false .legacy).symm.trans (e false .plain), e true .legacy⟩

/-- "(tag and push requiring commit)": whatever the raw data, an accepted configuration never
    has tag or push without commit -/
theorem C18_requires_commit (env : CfgEnv) (raw : RawCfg) (e : EffectiveConfig)
    (h : parseConfig env raw = .ok e) :
    (e.tag = true → e.commit = true) ∧ (e.push = true → e.commit = true) := by
  obtain ⟨-, commit, tag, push, hc, ht, hp, hflags⟩ := parseConfig_ok env raw e h
  rw [hc, ht, hp]
  exact checkFlags_ok env commit tag push _ _ hflags

/-- … in every format -/
theorem C18_requires_commit_formats (env : CfgEnv) (c : AbsCfg) (e : EffectiveConfig) :
    (∀ legacy, effectiveIni env legacy c = .ok e → (e.tag = true → e.commit = true) ∧ (e.push = true → e.commit = true)) ∧
    (∀ place, effectiveToml env place c = .ok e → (e.tag = true → e.commit = true) ∧ (e.push = true → e.commit = true)) := by
  constructor
  · intro legacy h
    obtain ⟨raw, -, h⟩ := bind_ok _ _ _ h
    exact C18_requires_commit env raw e h
  · intro place h
    obtain ⟨raw, -, h⟩ := bind_ok _ _ _ h
    exact C18_requires_commit env raw e h

/-- the effective file patterns are the glob-expanded raw ones merged by path: the settings read
    from `raw` list the file `f` with at least the patterns `ps` -/
def Lists (e : EffectiveConfig) (f : Str) (ps : List Str) : Prop := hasPats f ps e.filePatterns

/-- "always including the config file's own current_version line": after the self-pattern step
    the config file is among the raw files; when it was not listed explicitly its one pattern is
    its own `current_version` line with the (raw) version replaced by the (raw) pattern; and an
    accepted configuration lists the config file with those patterns (the config file exists,
    so globbing its name yields itself — or nothing, then the name is kept). -/
theorem C18_self_pattern (env : CfgEnv) (rel text : Str) (raw raw' : RawCfg)
    (h1 : addSelfPattern rel text raw = .ok raw') :
    (∃ ps, lookup rel raw'.filePatterns = some ps) ∧
    (cfgHasKey rel raw.filePatterns = false →
      ∃ line cv vp, curVersionLine text = some line ∧
        rawStr "current_version".toList raw.opts = .ok cv ∧ rawStr "version_pattern".toList raw.opts = .ok vp ∧
        lookup rel raw'.filePatterns = some [pyReplace (stripQuotes cv) (stripQuotes vp) line]) ∧
    (∀ e ps, parseConfig env raw' = .ok e → lookup rel raw'.filePatterns = some ps →
      (env.glob rel = [] ∨ rel ∈ env.glob rel) → Lists e rel ps) := by
  obtain ⟨-, hno⟩ := addSelfPattern_ok rel text raw raw' h1
  refine ⟨addSelfPattern_listed rel text raw raw' h1, fun hk => ?_, ?_⟩
  · obtain ⟨line, cv, vp, hl, hcv, hvp, hfp⟩ := hno hk
    exact ⟨line, cv, vp, hl, hcv, hvp, hfp ▸ lookup_append_new rel _ _ hk⟩
  · intro e ps h2 hl hg
    show hasPats rel ps e.filePatterns
    have hfp := (parseConfig_ok env raw' e h2).1
    rw [compileFilePatterns_ok env _ _ _ _ hfp]
    exact foldl_mergeInto _ _ _ _ (Or.inl (mem_iterGlobExpanded _ _ _ _ (lookup_mem hl) hg))

/-- "every accepted boolean spelling": the INI reader reads a spelling as True exactly when its
    lower-case form is one of the generated true spellings (`yes`, `true`, `1`, `on`) — in any
    mix of upper and lower case — and everything else as False -/
theorem C18_bool_spellings (s : Str) :
    (lowerAscii s ∈ Gen.trueSpellings → iniBoolConv (.str s) = .bool true) ∧
    (lowerAscii s ∉ Gen.trueSpellings → iniBoolConv (.str s) = .bool false) := by
  constructor
  · intro h
    simp only [iniBoolConv, List.contains_iff_mem.mpr h]
  · intro h
    have : Gen.trueSpellings.contains (lowerAscii s) = false := by
      cases hc : Gen.trueSpellings.contains (lowerAscii s)
      · rfl
      · exact absurd (List.contains_iff_mem.mp hc) h
    simp only [iniBoolConv, this]

/-- the generated true spellings themselves, all upper case, and capitalised, are True; the
    conventional false spellings are False; so is a quoted `"true"` -/
theorem C18_bool_spellings_table :
    (∀ t ∈ Gen.trueSpellings, iniBoolConv (.str t) = .bool true ∧
      iniBoolConv (.str (t.map Char.toUpper)) = .bool true ∧
      iniBoolConv (.str ((t.take 1).map Char.toUpper ++ t.drop 1)) = .bool true) ∧
    (∀ t ∈ falseSpellings, iniBoolConv (.str t) = .bool false ∧ iniBoolConv (.str (t.map Char.toUpper)) = .bool false) ∧
    iniBoolConv (.str "\"true\"".toList) = .bool false := by
  decide

/-! ### the negative witnesses (known findings F-C18-quoted-bool, F-C18-self-pattern-quotes) -/

/-- an environment in which everything validates, compiles and exists -/
def envAll : CfgEnv := {
  validVersion := fun _ _ _ => true, compileOk := fun _ _ _ => true,
  pathExists := fun _ => true, glob := fun _ => [] }

/-- `commit = "true"` (a quoted boolean) next to a valid version and pattern -/
def quotedBoolCfg : AbsCfg := {
  currentVersion := { s := "1.2.3".toList, q := .dq },
  versionPattern := { s := "MAJOR.MINOR.PATCH".toList, q := .dq },
  commitMessage := none, tagMessage := none, tagScope := none, preHook := none, postHook := none,
  commit := some { b := true, spelling := "true".toList, quoted := true },
  tag := none, push := none, files := [] }

/-- a quoted boolean is outside the expressible configurations, and there the two readers
    really differ: the INI reader gives commit = False, the TOML reader a truthy value -/
theorem C18_quoted_bool_witness :
    ¬ Expressible quotedBoolCfg ∧
    (effectiveIni envAll false quotedBoolCfg).map (·.commit) = .ok false ∧
    (effectiveToml envAll .plain quotedBoolCfg).map (·.commit) = .ok true := by
  decide +kernel

/-- the self-pattern of a setup.cfg whose version is bare and whose pattern is quoted carries the
    pattern's quotes and so differs from the file's own line shape; in the TOML reading (raw
    values without quotes) it keeps the line's own quoting -/
theorem C18_self_pattern_mixed_quotes_witness :
    parseCurrentVersionDefaultPattern "1.2.3".toList "\"MAJOR.MINOR.PATCH\"".toList
      "[bumpver]\ncurrent_version = 1.2.3\nversion_pattern = \"MAJOR.MINOR.PATCH\"\n".toList
      = .ok "current_version = MAJOR.MINOR.PATCH".toList ∧
    parseCurrentVersionDefaultPattern "'1.2.3'".toList "\"MAJOR.MINOR.PATCH\"".toList
      "[bumpver]\ncurrent_version = '1.2.3'\nversion_pattern = \"MAJOR.MINOR.PATCH\"\n".toList
      = .ok "current_version = 'MAJOR.MINOR.PATCH'".toList := by
  -- the kernel decodes a string literal slowly: evaluate on the character lists
  repeat rw [String.toList_ofList]
  decide +kernel

/-! ### non-vacuity -/

/-- a configuration with every kind of setting, expressible, accepted, read identically -/
def sampleCfg : AbsCfg := {
  currentVersion := { s := "v202001.1001-beta".toList, q := .bare },
  versionPattern := { s := "vYYYY0M.BUILD[-TAG]".toList, q := .dq },
  commitMessage := some { s := "bump {old_version} -> {new_version} # ; = %".toList, q := .sq },
  tagMessage := none,
  tagScope := some { s := "branch".toList, q := .dq },
  preHook := some { s := "hook.sh".toList, q := .bare }, postHook := none,
  commit := some { b := true, spelling := "YES".toList, quoted := false },
  tag := some { b := true, spelling := "On".toList, quoted := false },
  push := some { b := false, spelling := "off".toList, quoted := false },
  files := [{ name := "README.md".toList, patterns := ["{version}".toList, "{pep440_version}".toList], inline := false },
            { name := "src/*.py".toList, patterns := ["__version__ = \"{version}\"".toList], inline := true }] }

example : Expressible sampleCfg := by
  unfold sampleCfg
  repeat rw [String.toList_ofList]
  decide +kernel

example : (effectiveIni envAll true sampleCfg).map (fun e => (e.commit, e.tag, e.push, e.tagScope, e.commitMessage)) =
    .ok (true, true, false, "branch".toList, "bump {old_version} -> {new_version} # ; = %".toList) := by
  unfold sampleCfg
  repeat rw [String.toList_ofList]
  decide +kernel

example : (effectiveToml envAll .tool sampleCfg).map (fun e => e.filePatterns) =
    .ok [("README.md".toList, ["{version}".toList, "{pep440_version}".toList]),
         ("src/*.py".toList, ["__version__ = \"{version}\"".toList])] := by
  unfold sampleCfg
  repeat rw [String.toList_ofList]
  decide +kernel

/-- tag without commit is rejected, identically -/
example : effectiveIni envAll false { sampleCfg with commit := none } = .error .tagRequiresCommit ∧
    effectiveToml envAll .plain { sampleCfg with commit := none } = .error .tagRequiresCommit := by
  unfold sampleCfg
  repeat rw [String.toList_ofList]
  decide +kernel

end BV
