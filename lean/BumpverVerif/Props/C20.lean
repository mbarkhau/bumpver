/-
  Props/C20.lean — property C20: legacy {...} patterns render, read back and increase consistently.

  "For the legacy brace-style version patterns ({pycalver}, {semver} and combinations of the
   {year}/{month}/{dom}/{doy}/{quarter}/{build_no}/{release}/{MAJOR}/{MINOR}/{PATCH} style parts,
   with {pep440_pycalver}/{pep440_version} as derived search patterns) rendered versions are
   accepted by their pattern and read back with the same parts, and `test`/`update` results are
   strictly greater than their input (for {pycalver} also as plain strings). A pattern is handled
   by the legacy engine consistently by `test`, `update` and the config loader."
  Quantifier: "all combinations of legacy parts in the documented composites and every date
   2000..2099, build id and tag value; chains of 1,000 bumps".

  The legacy engine has THREE hand-written tables (`PART_PATTERNS`, mutated at import time by
  `_init_composite_patterns`; `FULL_PART_FORMATS`; `PATTERN_PART_FIELDS`) that nothing in the test
  suite ties together.  They are GENERATED into Gen/V1Tables.lean on every run (from the imported
  module, i.e. AFTER the run-time mutation).  This file proves

   * C20_composite_init      — the mutated table is what `_init_composite_patterns` makes of the
                               base parts and `COMPOSITE_PART_PATTERNS`
   * C20_finite_parts, C20_tag_parts, C20_unbounded_shapes, C20_nat_part, C20_build_no_part,
     C20_bid_part            — "rendered versions are accepted by their pattern and read back with
                               the same parts", part by part, over the whole domain of each part
   * C20_rough_edge_witnesses — the known findings F-C20-dom-short / -doy-short / -padded-bid
   * C20_dispatch, C20_dispatch_foo_witness — "handled by the legacy engine consistently"
   * C20_pycalver_strict, C20_pycalver_release_tuple, C20_pycalver_string, C20_pycalver_chain —
                               "strictly greater than their input (for {pycalver} also as plain strings)"
   * C20_gate_greater, C20_test_greater — "`test`/`update` results are strictly greater"
   * C20_bid_agrees_C17, C20_bid_below_1000_example — how the legacy id step relates to C17's
   * C20_pycalver_rec_example, C20_pycalver_text_example, C20_bump_example, C20_dispatch_example —
                               non-vacuity: closed instances through the whole model pipeline

  THE COMPOSITION of parts over a whole pattern (literal separators, composites, the first-match +
  full-length reading of `parse_version_info`, `_parse_pattern_groups`, `_parse_field_values`) is proved on
  the legacy pattern TREE of Model/V1Tree.lean (last section of this file):

   * C20_tree_accepted_in_full — for every well-formed tree and every record in the domain of its parts,
                               `re.match` of the compiled regex on the rendered text consumes all of it and
                               captures exactly the rendered part texts
   * C20_tree_roundtrip, C20_tree_roundtrip_of_date — the record read back agrees on EVERY part of the
                               pattern and renders to the same text
   * C20_tree_doc_patterns, C20_roundtrip_documented, C20_is_valid_documented — the same THROUGH THE MODEL'S
                               STRING PIPELINE (`v1ParseVersionInfo`, `v1IsValid`) for the documented
                               composites and combinations, whose tree compiles (kernel-evaluated) to exactly
                               the regex `compile_pattern` builds
   * C20_tree_tie, C20_composites_tie, C20_tree_render_tie — tree vs string surgery, compile and render
   * C20_calOk_needed_witness — why the calendar hypothesis is there ({year}.{doy} on day 366 of 2023)

  PARTIAL: that `str.replace` over FULL_PART_FORMATS + `str.format` render a pattern as the tree does is
  kernel-evaluated on the documented patterns and sample records (C20_tree_render_tie) and otherwise
  validated by the correspondence ops v1_compile_str/v1_parse/v1_format/v1_incr and the
  render→read→re-render oracle of harness/props/c20.py; the rough-edge parts ({dom_short}, {doy_short},
  {BB}…, {iso_week}, {us_week}) and the pep440 search patterns lie outside the tree's `wf`.
-/
import BumpverVerif.Model.V1
import BumpverVerif.Model.V1Tree
import BumpverVerif.Proofs.CliLemmas
import BumpverVerif.Proofs.V1Lemmas
import BumpverVerif.Proofs.V1Compose
namespace BV

/-! ### the check of one (part, value) pair -/

/-- the compiled recogniser of a part, from the generated table -/
def v1PartRe (name : String) : Option Re := (lookup name.toList Gen.v1PartPatterns).bind parseRe

/-- length of the first match at the start of `s` -/
def v1MatchLen (r : Re) (s : Str) : Option Nat := (reMatch r s).map (·.stop)

/-- a record with no calendar field, as `_parse_field_values` builds it from no groups -/
def v1RecBase : V1Info :=
  { year := none, quarter := none, month := none, dom := none, doy := none, isoWeek := none,
    usWeek := none, major := 0, minor := 0, patch := 0, bid := "0001".toList, tag := "final".toList }

/-- one (part, value) check: `format_version(v, "{part}")` (through FULL_PART_FORMATS, the
    kwargs and `str.format`) is consumed in full by the part's own regex when alone, when followed
    by a non-digit, and (fixed-width parts) when followed by a digit; and reads back as the value -/
def v1PartOK (name : String) (v : V1Info) (x : Nat) (back : Str → Nat) (fixedWidth : Bool) : Bool :=
  match v1PartRe name, v1FormatVersion v ('{' :: name.toList ++ ['}']) with
  | some r, .ok t =>
    v1MatchLen r t == some t.length && v1MatchLen r (t ++ ['.', 'x']) == some t.length &&
    (!fixedWidth || v1MatchLen r (t ++ ['7']) == some t.length) && back t == x
  | _, _ => false

def v1Range (lo hi : Nat) : List Nat := (List.range (hi + 1 - lo)).map (· + lo)

/-! ### the documented patterns, further combinations, two sample records -/

/-- the documented composites ({pycalver}, {semver}, the four spelled-out forms of
    `_normalized_pattern`) and combinations of the {year}/{month}/{dom}/{doy}/{quarter}/{build_no}/
    {release}/{MAJOR}/{MINOR}/{PATCH} style parts -/
def c20DocPatterns : List String := [
  "{pycalver}", "{semver}", "v{year}{month}{build}{release}", "{year}{month}{build}{release}",
  "v{year}{build}{release}", "{year}{build}{release}", "{calver}{build}{release}",
  "v{year}{month}.{build_no}{release}", "{year}.{month}.{dom}", "{year}{month}{dom}", "{year}.{doy}",
  "{yyyy}q{quarter}.{build_no}", "{yy}.{month_short}.{PATCH}", "{MAJOR}.{MINOR}.{PATCH}",
  "{MAJOR}.{MINOR}.{PATCH}-{tag}", "{semver}{release}", "{year}.{month}.{MINOR}{release}", "{year}.{BID}"]

/-- more combinations, among them the rough-edge parts and the pep440 search patterns (outside `wf`, but
    the tree still compiles as the string surgery does), regex metacharacters as literal text, and a
    pattern `re.compile` rejects (a group name twice) -/
def c20TiePatterns : List String := [
  "{dom_short}.{doy_short}.{BBB}", "{iso_week}{us_week}{yy}", "{release_tag}{MM}.{PPP}",
  "a-b.c+d*e?f[g]h(i)j|k\\l {year}", "{pycalver}{release}", "{year}.{month_short}.{dom}-{BID}"]

/-- sample records: a December date with a `beta` tag and a short id, a leap day with the `final` tag
    and a long id -/
def c20SampleA : V1Info :=
  { year := some 2017, quarter := some 4, month := some 12, dom := some 5, doy := some 339, isoWeek := some 49,
    usWeek := some 48, major := 1, minor := 2, patch := 3, bid := "0033".toList, tag := "beta".toList }
def c20SampleB : V1Info :=
  { year := some 2024, quarter := some 1, month := some 2, dom := some 29, doy := some 60, isoWeek := some 9,
    usWeek := some 8, major := 0, minor := 10, patch := 123456, bid := "123456".toList, tag := "final".toList }

/-- the parts of the generated table that are not composites: the literal `PART_PATTERNS` -/
def v1BaseParts : List (Str × Str) :=
  Gen.v1PartPatterns.filter (fun p => !v1HasKey p.1 Gen.v1CompositePartPatterns)

/-! ### one evaluation over the regenerated tables -/

set_option maxRecDepth 100000 in
/-- The facts obtained by running the model on the generated tables, the documented patterns and the sample
    records, as one conjunction, so that the kernel decodes the table literals once; the theorems that
    project from it say what each component means. -/
theorem C20_evaluated :
    v1InitComposites v1BaseParts Gen.v1CompositePartPatterns = Gen.v1PartPatterns ∧
    v1ParseVersionInfo "v201712.0033-beta".toList "{pycalver}".toList =
      .ok { v1RecBase with year := some 2017, month := some 12, quarter := some 4,
                           bid := "0033".toList, tag := "beta".toList } ∧
    c20DocPatterns.all (fun s => match V1Pat.tokenize s.toList with
      | some p => p.wfTop && decide (v1c_exceptOk (v1CompilePattern s.toList s.toList) = p.compile) &&
                  p.compile.isSome
      | none => false) = true ∧
    c20TiePatterns.all (fun s => v1c_compileTie s.toList) = true ∧
    v1c_composites.all (fun nb => match nb.2.compile, v1c_partRe nb.1 with
      | some a, some b => Re.beq a b
      | _, _ => false) = true ∧
    c20DocPatterns.all (fun s => v1c_renderTie s.toList c20SampleA && v1c_renderTie s.toList c20SampleB) = true ∧
    (match V1Pat.tokenize "{pycalver}".toList with
     | some p => p.wfTop && V1Pat.vok c20SampleA p && V1Pat.calOk c20SampleA p &&
                 (V1Pat.render c20SampleA p == "v201712.0033-beta".toList)
     | none => false) = true ∧
    ((match V1Pat.tokenize "{year}.{doy}".toList with
     | some p =>
       let v : V1Info := { v1RecBase with year := some 2023, doy := some 366 }
       p.wfTop && V1Pat.vok v p && !V1Pat.calOk v p && (V1Pat.render v p == "2023.366".toList)
     | none => false) = true ∧
    (v1ParseVersionInfo "2023.366".toList "{year}.{doy}".toList).toOption.map (fun v => (v.year, v.month, v.dom, v.doy))
      = some (some 2023, some 1, some 1, some 1)) := by
  decide +kernel

/-! ### the run-time table mutation -/

/-- `_init_composite_patterns()` applied to the literal table gives exactly the table the
    running program uses (the translator reads it from the imported module) -/
theorem C20_composite_init :
    v1InitComposites v1BaseParts Gen.v1CompositePartPatterns = Gen.v1PartPatterns :=
  C20_evaluated.1

/-! ### part by part: render, recognise in full, read back -/

theorem v1MatchLen_of_headConsumes (r : Re) (t k : Str) (h : HeadConsumes r t k) :
    v1MatchLen r (t ++ k) = some t.length := by
  obtain ⟨st0, h0, hr, _⟩ := h { rest := t ++ k, start := true, caps := [] } rfl
  simp [v1MatchLen, reMatch, h0, hr]

/-- the check of `v1PartOK` with the rendering reduced to the one field of the template and the two matches before a
    continuation replaced by `v1ConsumesCheck` -/
def v1PartOKField (name : String) (v : V1Info) (x : Nat) (back : Str → Nat) (fw : Bool) : Bool :=
  let tpl := v1FullPattern Gen.v1FullPartFormats ('{' :: name.toList ++ ['}'])
  let fld := (tpl.drop 1).dropLast
  tpl == '{' :: fld ++ ['}'] && !fld.isEmpty && fld.all (fun c => c != '{' && c != '}') &&
  Gen.v1IdFieldsByPart.all (fun pf => pf.1 != fld.takeWhile (· != ':')) &&
  match v1PartRe name, v1RenderField (fmtPre v ([], []) ++ fmtBase v) fld with
  | some r, .ok t => v1ConsumesCheck r t fw && back t == x
  | _, _ => false

theorem v1PartOK_of_field (name : String) (v : V1Info) (x : Nat) (back : Str → Nat) (fw : Bool)
    (hbid : isDigitStr v.bid = true) (hh : fmtHead v = .ok ([], []))
    (h : v1PartOKField name v x back fw = true) : v1PartOK name v x back fw = true := by
  simp only [v1PartOKField, Bool.and_eq_true, beq_iff_eq, Bool.not_eq_true', List.isEmpty_eq_false_iff] at h
  obtain ⟨⟨⟨⟨htpl, hne⟩, hbr⟩, hk⟩, h⟩ := h
  unfold v1PartOK
  rw [v1FormatVersion_single v _ _ _ hbid hh htpl hne hbr hk]
  cases hr : v1PartRe name with
  | none => rw [hr] at h; cases h
  | some r =>
    rw [hr] at h
    cases ht : v1RenderField (fmtPre v ([], []) ++ fmtBase v)
        ((v1FullPattern Gen.v1FullPartFormats ('{' :: name.toList ++ ['}'])).drop 1).dropLast with
    | error e => rw [ht] at h; cases h
    | ok t =>
      rw [ht] at h
      simp only [Bool.and_eq_true, beq_iff_eq] at h ⊢
      have hc := v1ConsumesCheck_headConsumes r t fw h.1
      have h0 := v1MatchLen_of_headConsumes r t [] (hc [] (.inr (fun c hc => by cases hc)))
      rw [List.append_nil] at h0
      refine ⟨⟨⟨h0, v1MatchLen_of_headConsumes r t _ (hc _ (.inr (fun c hc => by cases hc; rfl)))⟩, ?_⟩, h.2⟩
      cases fw with
      | false => rfl
      | true => simpa using v1MatchLen_of_headConsumes r t ['7'] (hc _ (.inl rfl))

theorem v1PartOK_all {l : List Nat} {name : String} {mk : Nat → V1Info} {back : Str → Nat} {fw : Bool}
    (h : l.all (fun x => v1PartOKField name (mk x) x back fw) = true)
    (hrec : ∀ x, (mk x).bid = v1RecBase.bid ∧ (mk x).tag = v1RecBase.tag := by exact fun _ => ⟨rfl, rfl⟩) :
    l.all (fun x => v1PartOK name (mk x) x back fw) = true := by
  refine List.all_eq_true.mpr fun x hx => v1PartOK_of_field _ _ _ _ _ ?_ ?_ (List.all_eq_true.mp h x hx)
  · rw [(hrec x).1]; decide
  · unfold fmtHead
    rw [(hrec x).2]
    rfl

/-- THE FINITE PARTS over their whole domains (kernel-evaluated on the regenerated tables):
    years 2000..2099, months 1..12, days 1..31, days of year 1..366, quarters 1..4, the week
    parts 0..53; {month_short} 1..12 and {yy} (read back with the +2000 rule) as well -/
theorem C20_finite_parts :
    (v1Range 2000 2099).all (fun x => v1PartOK "year" { v1RecBase with year := some x } x strToNat true) = true ∧
    (v1Range 1 12).all (fun x => v1PartOK "month" { v1RecBase with month := some x } x strToNat true) = true ∧
    (v1Range 1 31).all (fun x => v1PartOK "dom" { v1RecBase with dom := some x } x strToNat true) = true ∧
    (v1Range 1 366).all (fun x => v1PartOK "doy" { v1RecBase with doy := some x } x strToNat true) = true ∧
    (v1Range 1 4).all (fun x => v1PartOK "quarter" { v1RecBase with quarter := some x } x strToNat true) = true ∧
    (v1Range 0 53).all (fun x => v1PartOK "iso_week" { v1RecBase with isoWeek := some x } x strToNat true &&
                                v1PartOK "us_week" { v1RecBase with usWeek := some x } x strToNat true) = true ∧
    (v1Range 1 12).all (fun x => v1PartOK "month_short" { v1RecBase with month := some x } x strToNat false) = true ∧
    (v1Range 2000 2099).all (fun x => v1PartOK "yy" { v1RecBase with year := some x } x (fun s => strToNat s + 2000) true &&
                                     v1PartOK "yyyy" { v1RecBase with year := some x } x strToNat true) = true := by
  have hfield :
      (v1Range 2000 2099).all (fun x => v1PartOKField "year" { v1RecBase with year := some x } x strToNat true) = true ∧
      (v1Range 1 12).all (fun x => v1PartOKField "month" { v1RecBase with month := some x } x strToNat true) = true ∧
      (v1Range 1 31).all (fun x => v1PartOKField "dom" { v1RecBase with dom := some x } x strToNat true) = true ∧
      (v1Range 1 366).all (fun x => v1PartOKField "doy" { v1RecBase with doy := some x } x strToNat true) = true ∧
      (v1Range 1 4).all (fun x => v1PartOKField "quarter" { v1RecBase with quarter := some x } x strToNat true) = true ∧
      (v1Range 0 53).all (fun x => v1PartOKField "iso_week" { v1RecBase with isoWeek := some x } x strToNat true) = true ∧
      (v1Range 0 53).all (fun x => v1PartOKField "us_week" { v1RecBase with usWeek := some x } x strToNat true) = true ∧
      (v1Range 1 12).all (fun x => v1PartOKField "month_short" { v1RecBase with month := some x } x strToNat false) = true ∧
      (v1Range 2000 2099).all (fun x =>
        v1PartOKField "yy" { v1RecBase with year := some x } x (fun s => strToNat s + 2000) true) = true ∧
      (v1Range 2000 2099).all (fun x => v1PartOKField "yyyy" { v1RecBase with year := some x } x strToNat true) = true := by
    decide +kernel
  obtain ⟨h1, h2, h3, h4, h5, h6, h6', h7, h8, h8'⟩ := hfield
  exact ⟨v1PartOK_all h1, v1PartOK_all h2, v1PartOK_all h3, v1PartOK_all h4, v1PartOK_all h5,
    all_and_eq_true _ _ _ (v1PartOK_all h6) (v1PartOK_all h6'), v1PartOK_all h7,
    all_and_eq_true _ _ _ (v1PartOK_all h8) (v1PartOK_all h8')⟩

def v1Tags : List Str := ["alpha", "beta", "dev", "rc", "post", "final"].map String.toList

/-- tags: every tag value is recognised in full by {tag} (also before a digit or a separator);
    {release} renders "-tag" (nothing for final) and recognises it, also before other text;
    {pep440_tag} renders a0/b0/dev0/rc0/post0 (nothing for final) and recognises it in full -/
theorem C20_tag_parts :
    v1Tags.all (fun t =>
      match v1PartRe "tag", v1FormatVersion { v1RecBase with tag := t } "{tag}".toList with
      | some r, .ok s => s == t && v1MatchLen r s == some s.length && v1MatchLen r (s ++ ['1']) == some s.length &&
                         v1MatchLen r (s ++ ['.']) == some s.length
      | _, _ => false) = true ∧
    v1Tags.all (fun t =>
      match v1PartRe "release", v1FormatVersion { v1RecBase with tag := t } "{release}".toList with
      | some r, .ok s => s == (if t == "final".toList then [] else '-' :: t) &&
                         v1MatchLen r s == some s.length && v1MatchLen r (s ++ [' ', 'x']) == some s.length
      | _, _ => false) = true ∧
    v1Tags.all (fun t =>
      match v1PartRe "pep440_tag", v1FormatVersion { v1RecBase with tag := t } "{pep440_tag}".toList with
      | some r, .ok s => v1MatchLen r s == some s.length && v1MatchLen r (s ++ [' ']) == some s.length
      | _, _ => false) = true := by
  decide +kernel

/-- `\d+`, `\d{4,}`, `[1-9]\d*` as `parseRe` builds them -/
def reDPlus : Re := .rep dCls 1 none
def reD4Plus : Re := .rep dCls 4 none
def reDPosInt : Re := .seq posDigitCls (.rep dCls 0 none)

/-- the regenerated tables have exactly these shapes for the unbounded parts (a table edit that
    changes one breaks this obligation), and their format template is the bare `{field}` -/
theorem C20_unbounded_shapes :
    v1PartRe "MAJOR" = some reDPlus ∧ v1PartRe "MINOR" = some reDPlus ∧ v1PartRe "PATCH" = some reDPlus ∧
    v1PartRe "build_no" = some reD4Plus ∧ v1PartRe "bid" = some reD4Plus ∧ v1PartRe "BID" = some reDPosInt ∧
    v1FullPattern Gen.v1FullPartFormats "{MAJOR}.{MINOR}.{PATCH}".toList = "{MAJOR}.{MINOR}.{PATCH}".toList ∧
    v1FullPattern Gen.v1FullPartFormats "{build_no}".toList = "{bid}".toList ∧
    v1FullPattern Gen.v1FullPartFormats "{semver}".toList = "{MAJOR}.{MINOR}.{PATCH}".toList ∧
    v1FullPattern Gen.v1FullPartFormats "{build}".toList = ".{bid}".toList := by
  decide +kernel

/-- "what follows is not a digit" -/
def v1NoDigitAhead (rest : Str) : Prop := ∀ c, rest.head? = some c → isDigit c = false

/-- `{MAJOR}` / `{MINOR}` / `{PATCH}`: the replacement field renders `str(n)`, the recogniser
    consumes it in full before any non-digit continuation, and it reads back as `n` -/
theorem C20_nat_part (n : Nat) (rest : Str) (hr : v1NoDigitAhead rest) :
    v1RenderField [("MAJOR".toList, .nat n)] "MAJOR".toList = .ok (natToStr n) ∧
    v1MatchLen reDPlus (natToStr n ++ rest) = some (natToStr n).length ∧
    strToNat (natToStr n) = n := by
  refine ⟨rfl, ?_, strToNat_natToStr n⟩
  exact v1MatchLen_of_headConsumes _ _ _
    (v1c_hc_dRun 1 (natToStr n) rest (natToStr_length_pos n) (allDigits_natToStr n) hr)

/-- `{build_no}` / `{bid}` (`\d{4,}`): every id of four or more digits (leading zeros included)
    is carried verbatim, consumed in full and kept as a string -/
theorem C20_build_no_part (b : Str) (hb : allDigits b = true) (h4 : 4 ≤ b.length) (rest : Str)
    (hr : v1NoDigitAhead rest) :
    v1RenderField [("bid".toList, .str b)] "bid".toList = .ok b ∧
    v1MatchLen reD4Plus (b ++ rest) = some b.length :=
  ⟨rfl, v1MatchLen_of_headConsumes _ _ _ (v1c_hc_dRun 4 b rest h4 hb hr)⟩

/-- `{BID}` (`[1-9]\d*`, rendered `int(bid)`): every id whose value is not zero -/
theorem C20_bid_part (n : Nat) (hn : 1 ≤ n) (rest : Str) (hr : v1NoDigitAhead rest) :
    v1RenderField [("BID".toList, .nat n)] "BID".toList = .ok (natToStr n) ∧
    v1MatchLen reDPosInt (natToStr n ++ rest) = some (natToStr n).length ∧ strToNat (natToStr n) = n := by
  exact ⟨rfl, v1MatchLen_of_headConsumes _ _ _ (v1c_hc_posNat n hn rest hr), strToNat_natToStr n⟩

/-- Known findings, as facts about the tables: {dom_short} reads `10` as `1` when nothing forces
    backtracking (F-C20-dom-short); {doy_short} renders `5` but only recognises three digits
    (F-C20-doy-short); {BBB} renders the id `0033` as `0033`, which `[1-9]\d{2,}` rejects
    (F-C20-padded-bid).  Days 1..9 of {dom_short} are fine. -/
theorem C20_rough_edge_witnesses :
    v1PartOK "dom_short" { v1RecBase with dom := some 10 } 10 strToNat false = false ∧
    (v1Range 1 9).all (fun x => v1PartOK "dom_short" { v1RecBase with dom := some x } x strToNat false) = true ∧
    v1PartOK "doy_short" { v1RecBase with doy := some 5 } 5 strToNat false = false ∧
    v1FormatVersion { v1RecBase with bid := "0033".toList } "{BBB}".toList = .ok "0033".toList ∧
    (v1PartRe "BBB").map (fun r => v1MatchLen r "0033".toList) = some none := by
  decide +kernel

/-! ### one engine per pattern -/

/-- "A pattern is handled by the legacy engine consistently by `test`, `update` and the config
    loader": `incr_dispatch` (test, update) asks `hasV1Part`, the gate `_is_valid_version` and
    `config._parse_config` ask `isNewPattern`.  For every pattern spelled with documented legacy
    parts and brace-free literal text the two tests agree. -/
theorem C20_dispatch (ts : List LTok) (hdoc : ∀ t ∈ ts, t.documented = true) :
    hasV1Part (renderToks ts) = true ↔ isNewPattern (renderToks ts) = false := by
  constructor
  · exact not_new_of_hasV1Part _
  · intro hnew
    -- some token is a part: otherwise the text is brace-free
    have hex : ∃ n, LTok.part n ∈ ts := by
      apply Classical.byContradiction
      intro hno
      have hno' : ∀ n, LTok.part n ∉ ts := fun n hn => hno ⟨n, hn⟩
      rw [new_of_no_parts ts hdoc hno'] at hnew
      cases hnew
    obtain ⟨n, hn⟩ := hex
    have hd : docParts.contains n = true := hdoc _ hn
    have hmem : n ∈ docParts := by simpa using hd
    exact hasV1Part_of_infix n _ hmem (renderToks_infix ts _ hn)

/-- the direction that needs no assumption: a pattern `incr_dispatch` sends to the legacy engine
    is legacy for the gate and the loader too -/
theorem C20_dispatch_legacy_everywhere (p : Str) (h : hasV1Part p = true) : isNewPattern p = false :=
  not_new_of_hasV1Part p h

/-- Known finding F-C20-dispatch: braces without a legacy part.  `{foo}` is new-style for
    `incr_dispatch` but legacy for the gate and the config loader. -/
theorem C20_dispatch_foo_witness :
    hasV1Part "{foo}".toList = false ∧ isNewPattern "{foo}".toList = false := by
  decide +kernel

/-! ### {pycalver} strictly increases -/

/-- One bump of a `{pycalver}` record (year and month shown, nothing else of the calendar):
    the YYYYMM number never moves back — whatever the date, `--pin-date` or not — and the build
    id is `lexid.next_id` of the old one: greater as a number AND as a plain string. -/
theorem C20_pycalver_strict (old new : V1Info) (fl : V1Flags) (date : Nat × Nat × Nat) (y m : Nat)
    (hrec : PycalverRec old y m) (hm : 1 ≤ m ∧ m ≤ 12) (hdate : validDate date.1 date.2.1 date.2.2 = true)
    (h : v1Bump old fl date = .ok new) :
    ∃ y' m', new.year = some y' ∧ new.month = some m' ∧ 1 ≤ m' ∧ m' ≤ 12 ∧ (y' = y ∨ y' = date.1) ∧
      y * 100 + m ≤ y' * 100 + m' ∧
      isDigitStr new.bid = true ∧ strToNat old.bid < strToNat new.bid ∧ strLt old.bid new.bid = true := by
  have hd : 1 ≤ date.2.1 ∧ date.2.1 ≤ 12 := by
    simp only [validDate, Bool.and_eq_true, decide_eq_true_eq] at hdate
    omega
  obtain ⟨hbd, hnext, hy, hmo⟩ := v1Bump_ok old new fl date h
  obtain ⟨y', m', hy', hm', hle, h1, h12, hyy⟩ := v1BumpCal_pycalver old fl date y m hrec hm hd
  obtain ⟨hnd, hint⟩ := nextId_int_strict old.bid new.bid hbd hnext
  exact ⟨y', m', by rw [hy, hy'], by rw [hmo, hm'], h1, h12, hyy, hle, hnd, hint,
    nextId_lex_strict old.bid new.bid hbd hnext⟩

/-- … hence strictly greater as PEP 440 release tuples `(YYYYMM, build)` (Python tuple order) -/
theorem C20_pycalver_release_tuple (k k' b b' : Nat) (hk : k ≤ k') (hb : b < b') :
    lexLt [k, b] [k', b'] = true := by
  simp only [lexLt, Bool.or_eq_true, Bool.and_eq_true, decide_eq_true_eq, beq_iff_eq]
  omega

/-- the text `format_version` writes for `{pycalver}`: "v" YYYY MM "." id release -/
def pycalverText (y m : Nat) (bid rel : Str) : Str := 'v' :: (yyyymmText y m ++ ('.' :: (bid ++ rel)))

/-- … and — because YYYYMM is fixed-width and `next_id` never produces a proper prefix — as
    plain strings, whatever release suffix either side carries -/
theorem C20_pycalver_string (y m y' m' : Nat) (b b' rel rel' : Str)
    (hy : 1000 ≤ y ∧ y ≤ 9999) (hy' : 1000 ≤ y' ∧ y' ≤ 9999) (hm : m ≤ 12) (hm' : m' ≤ 12)
    (hle : y * 100 + m ≤ y' * 100 + m') (hb : isDigitStr b = true) (hn : nextId b = some b') :
    strLt (pycalverText y m b rel) (pycalverText y' m' b' rel') = true := by
  unfold pycalverText
  rw [strLt_cons_self]
  rcases Nat.lt_or_ge (y * 100 + m) (y' * 100 + m') with hlt | hge
  · exact yyyymmText_lt y m y' m' _ _ hy.1 hy.2 (by omega) hy'.1 hy'.2 (by omega) hlt
  · have hym : y = y' ∧ m = m' := by omega
    obtain ⟨rfl, rfl⟩ := hym
    apply strLt_prefix
    rw [strLt_cons_self]
    exact nextId_lex_strict_append b b' rel rel' hb hn

/-- `pycalverText` is what the model renders (closed instance through the whole
    FULL_PART_FORMATS / kwargs / `str.format` path) -/
theorem C20_pycalver_text_example :
    v1FormatVersion { v1RecBase with year := some 2017, month := some 12, quarter := some 4,
                                     bid := "0033".toList, tag := "beta".toList } "{pycalver}".toList
      = .ok (pycalverText 2017 12 "0033".toList "-beta".toList) := by
  decide +kernel

/-- n successive bumps of the record (any flags, any dates) -/
def v1BumpChain : V1Info → List (V1Flags × (Nat × Nat × Nat)) → Except V1Err V1Info
  | v, [] => .ok v
  | v, (fl, d) :: rest =>
    match v1Bump v fl d with
    | .ok v' => v1BumpChain v' rest
    | .error e => .error e

/-- the `PycalverRec` shape is NOT preserved by a bump that takes the date (dom, doy, weeks get
    filled in), but what a bump needs is only that year/month/quarter are read from a version
    text: each link of a chain starts from a re-read record.  For chains on the record we state
    the id part, which needs nothing else: chains of ANY length (1,000 included) strictly
    increase the id as a number and as a plain string. -/
theorem C20_pycalver_chain (steps : List (V1Flags × (Nat × Nat × Nat))) :
    ∀ (v w : V1Info), isDigitStr v.bid = true → steps ≠ [] → v1BumpChain v steps = .ok w →
      isDigitStr w.bid = true ∧ strToNat v.bid < strToNat w.bid ∧ strLt v.bid w.bid = true := by
  induction steps with
  | nil => intro _ _ _ hne; exact absurd rfl hne
  | cons s rest ih =>
    intro v w hv _ h
    obtain ⟨fl, d⟩ := s
    simp only [v1BumpChain] at h
    cases hb : v1Bump v fl d with
    | error e => rw [hb] at h; cases h
    | ok v' =>
      rw [hb] at h
      obtain ⟨hbd, hnext, _, _⟩ := v1Bump_ok v v' fl d hb
      obtain ⟨hd', hint⟩ := nextId_int_strict v.bid v'.bid hbd hnext
      have hlex := nextId_lex_strict v.bid v'.bid hbd hnext
      cases rest with
      | nil =>
        simp only [v1BumpChain] at h
        cases h
        exact ⟨hd', hint, hlex⟩
      | cons s' rest' =>
        obtain ⟨hw, hint', hlex'⟩ := ih v' w hd' (by simp) h
        exact ⟨hw, by omega, strLt_trans _ _ _ hlex hlex'⟩

/-- the legacy engine calls `lexid.next_id` WITHOUT the new-style `< 1000 → + 1000` padding: from
    1000 on the two coincide (so `C17_int_strict` / `C17_lex_strict` of Props/C17.lean apply
    verbatim); below, a legacy id such as `0033` simply counts on -/
theorem C20_bid_agrees_C17 (b : Str) (h : 1000 ≤ strToNat b) : bumpBid b = nextId b := by
  unfold bumpBid
  rw [padBid_of_ge b h]

theorem C20_bid_below_1000_example :
    nextId "0033".toList = some "0034".toList ∧ bumpBid "0033".toList = some "1034".toList ∧
    nextId "0999".toList = some "11000".toList := by
  decide +kernel

/-! ### non-vacuity -/

/-- reading a `{pycalver}` version gives a `PycalverRec` (closed instance through the compiled
    regex, `_parse_pattern_groups` and `_parse_field_values`) -/
theorem C20_pycalver_rec_example :
    ∃ v, v1ParseVersionInfo "v201712.0033-beta".toList "{pycalver}".toList = .ok v ∧ PycalverRec v 2017 12 := by
  exact ⟨_, C20_evaluated.2.1, rfl, rfl, by decide, rfl, rfl, rfl, rfl, by decide⟩

/-- a bump of that record on 2018-01-05: calendar fields of the date, next id, tag kept -/
theorem C20_bump_example :
    v1Bump { v1RecBase with year := some 2017, month := some 12, quarter := some 4,
                            bid := "0033".toList, tag := "beta".toList } {} (2018, 1, 5)
      = .ok { v1RecBase with year := some 2018, quarter := some 1, month := some 1, dom := some 5,
                             doy := some 5, isoWeek := some 1, usWeek := some 0,
                             bid := "0034".toList, tag := "beta".toList } := by
  decide +kernel

/-- the documented composite `v{year}{month}{build}{release}` is a token list of documented
    parts; it is legacy for all three tests -/
theorem C20_dispatch_example :
    renderToks [.lit "v".toList, .part "year".toList, .part "month".toList, .part "build".toList,
                .part "release".toList] = "v{year}{month}{build}{release}".toList ∧
    ([LTok.lit "v".toList, .part "year".toList, .part "month".toList, .part "build".toList,
      .part "release".toList].all LTok.documented) = true ∧
    hasV1Part "v{year}{month}{build}{release}".toList = true ∧
    isNewPattern "v{year}{month}{build}{release}".toList = false ∧
    hasV1Part "{pycalver}".toList = true ∧ hasV1Part "vYYYY.BUILD".toList = false ∧
    isNewPattern "vYYYY.BUILD".toList = true := by
  decide +kernel

/-! ### through the gate -/

/-- "`test`/`update` results are strictly greater than their input": the legacy branch of
    `_is_valid_version` accepts a new version only if it is read by the pattern in full and is
    strictly greater under the PEP 440 order (C16's `pepLt`) -/
theorem C20_gate_greater (pat old new : Str) (unique : Bool) (tags : List Str)
    (h : v1Gate pat old new unique tags = .ok .accept) :
    (∃ v, v1ParseVersionInfo new pat = .ok v) ∧ pepLt old new = true := by
  unfold v1Gate at h
  cases hp : v1ParseVersionInfo new pat with
  | error e =>
    rw [hp] at h
    cases e <;> simp at h
  | ok v =>
    rw [hp] at h
    simp only at h
    cases hle : pepLe new old with
    | true => simp [hle] at h
    | false => exact ⟨⟨v, rfl⟩, pepLt_of_not_le hle⟩

/-- `bumpver test` with ANY pattern (either engine, either gate): an announced version is
    strictly greater than the old one -/
theorem C20_test_greater (old pat : Str) (fl : IncrFlags) (dg : Bool) (date today : Nat × Nat × Nat)
    (sv : Option Str) (new pep : Str)
    (h : dispatchCliTest old pat fl dg date today sv = .announce new pep) :
    pepLt old new = true := by
  unfold dispatchCliTest at h
  -- the three argument checks end in `exit1`; of the outcomes of the bump only `.new n` can announce,
  -- and then only if the gate says `.new`: both gates accept only a strictly greater version
  split at h
  · cases h
  · split at h
    · cases h
    · split at h
      · cases h
      · dsimp only at h
        split at h
        · cases h
        · cases h
        · cases h
        · next n hr =>
          split at h
          · next n' hg =>
            have hn : n = new := by
              simp only [TestOutcome.announce.injEq] at h
              exact h.1
            subst hn
            unfold dispatchGate at hg
            split at hg
            · split at hg
              · next hacc => exact pepLt_of_not_le (gate_accept hacc).2.1
              all_goals cases hg
            · split at hg
              · next hacc => exact (C20_gate_greater pat old n false [] hacc).2
              all_goals cases hg
          all_goals cases h

/-! ## The composition over whole legacy patterns (pattern tree, Model/V1Tree.lean) -/

/-- ACCEPTED IN FULL: for every well-formed legacy pattern tree (`V1Pat.wf`: supported parts only, every
    variable-width numeric part — {MAJOR}…, {MM}…, {build_no}, {bid}, {BID}, {month_short} — followed by a
    non-digit, nothing that starts with `-` after the optional `-tag` of {release} / {pycalver}) and every
    record inside the domain of its parts (`V1Pat.vok`), `re.match` of the compiled regex on the rendered
    text consumes ALL of it and its named groups are exactly the rendered part texts (a composite's group
    holds the text of the whole composite). -/
theorem C20_tree_accepted_in_full (p : V1Pat) (v : V1Info) (r : Re) (hwf : V1Pat.wf p FSet.endOnly = true)
    (hv : V1Pat.vok v p = true) (hr : V1Pat.compile p = some r) :
    reMatch r (V1Pat.render v p) =
      some { start := 0, stop := (V1Pat.render v p).length, caps := (V1Pat.caps v p).reverse } :=
  v1_compose_match v p r hwf hv hr

/-- … also in the middle of other text: the FIRST success of the compiled regex on the rendered text
    followed by any continuation the pattern admits stops exactly at the end of the rendered text -/
theorem C20_tree_accepted_before (p : V1Pat) (v : V1Info) (F : FSet) (r : Re) (k : Str) (st : MSt)
    (hwf : V1Pat.wf p F = true) (hv : V1Pat.vok v p = true) (hr : V1Pat.compile p = some r)
    (hk : F.has k = true) (hst : st.rest = V1Pat.render v p ++ k) :
    ∃ st', (r.m st).head? = some st' ∧ st'.rest = k ∧ st'.caps = (V1Pat.caps v p).reverse ++ st.caps :=
  v1_compose_head v p F r k st hwf hv hr hk hst

/-- THE ROUND TRIP: the rendered text is read (`parse_version_info` after compilation: first match, full
    length, `groupdict`, `_parse_pattern_groups`, `_parse_field_values`) as a record `v'` that agrees with
    `v` on EVERY part of the pattern (`V1Pat.agree`: same part texts), and rendering `v'` reproduces the
    text.  `wfTop` adds what `re.compile` and `_parse_pattern_groups` demand (no group twice, no field
    twice); `calOk` (decidable) says the calendar fields the pattern shows are consistent — `_parse_field_values`
    REPLACES month and day by `date_from_doy(year, doy)` and recomputes the day of year from year/month/day
    (`C20_calOk_needed_witness`); it holds for every record whose calendar is that of a date
    (`C20_tree_roundtrip_of_date`). -/
theorem C20_tree_roundtrip (p : V1Pat) (v : V1Info) (r : Re) (hwf : V1Pat.wfTop p = true)
    (hv : V1Pat.vok v p = true) (hc : V1Pat.calOk v p = true) (hr : V1Pat.compile p = some r) :
    ∃ v', v1c_parseWithRe r (V1Pat.render v p) = .ok v' ∧ V1Pat.agree v v' p = true ∧
      V1Pat.render v' p = V1Pat.render v p :=
  v1_roundtrip p v r hwf hv hc hr

/-- the round trip for "every date": a record whose year / month / day / day-of-year are those of a
    valid date (what `cal_info(date)` produces, hence what every bump produces) -/
theorem C20_tree_roundtrip_of_date (p : V1Pat) (v : V1Info) (r : Re) (y m d : Nat)
    (hd : validDate y m d = true) (hy : v.year = some y) (hm : v.month = some m) (hdm : v.dom = some d)
    (hj : v.doy = some (dayOfYear y m d)) (hwf : V1Pat.wfTop p = true) (hv : V1Pat.vok v p = true)
    (hr : V1Pat.compile p = some r) :
    ∃ v', v1c_parseWithRe r (V1Pat.render v p) = .ok v' ∧ V1Pat.agree v v' p = true ∧
      V1Pat.render v' p = V1Pat.render v p :=
  v1_roundtrip p v r hwf hv (v1c_calOk_of_date p v y m d hd hy hm hdm hj) hr

/-- `v1c_parseWithRe` IS the model's `parse_version_info` after `compile_pattern` -/
theorem C20_parse_is_parseWithRe (s raw : Str) (r : Re) (h : v1CompilePattern raw raw = .ok r) :
    v1ParseVersionInfo s raw = v1c_parseWithRe r s :=
  v1c_parseVersionInfo_of s raw r h

/-- NON-VACUITY, scope AND THE TIE for `c20DocPatterns` (kernel-evaluated on the regenerated tables): each
    tokenises to a tree that is `wfTop` and compiles to EXACTLY the regex `compile_pattern(raw, raw)` —
    `_normalized_pattern`, the escape loop, `_replace_pattern_parts`, `re.compile` — produces -/
theorem C20_tree_doc_patterns :
    c20DocPatterns.all (fun s => match V1Pat.tokenize s.toList with
      | some p => p.wfTop && decide (v1c_exceptOk (v1CompilePattern s.toList s.toList) = p.compile) &&
                  p.compile.isSome
      | none => false) = true :=
  C20_evaluated.2.2.1

/-- THE ROUND TRIP THROUGH THE MODEL'S STRING PIPELINE for the documented patterns: for every record in
    the domain, the text the tree renders is read by `parse_version_info(text, raw_pattern)` as a record
    that agrees on every part and renders to the same text -/
theorem C20_roundtrip_documented (s : String) (hs : s ∈ c20DocPatterns) (p : V1Pat)
    (hp : V1Pat.tokenize s.toList = some p) (v : V1Info) (hv : V1Pat.vok v p = true)
    (hc : V1Pat.calOk v p = true) :
    ∃ v', v1ParseVersionInfo (V1Pat.render v p) s.toList = .ok v' ∧ V1Pat.agree v v' p = true ∧
      V1Pat.render v' p = V1Pat.render v p := by
  have h := C20_tree_doc_patterns
  rw [List.all_eq_true] at h
  have h := h s hs
  rw [hp] at h
  simp only [Bool.and_eq_true, decide_eq_true_eq] at h
  obtain ⟨⟨hwf, heq⟩, hsome⟩ := h
  cases hr : V1Pat.compile p with
  | none => rw [hr] at hsome; cases hsome
  | some r =>
    rw [hr] at heq
    have hcp : v1CompilePattern s.toList s.toList = .ok r := by
      cases hx : v1CompilePattern s.toList s.toList with
      | error e => rw [hx] at heq; cases heq
      | ok r' =>
        rw [hx] at heq
        simp only [v1c_exceptOk, Option.some.injEq] at heq
        rw [heq]
    obtain ⟨v', h1, h2, h3⟩ := v1_roundtrip p v r hwf hv hc hr
    refine ⟨v', ?_, h2, h3⟩
    rw [v1c_parseVersionInfo_of _ _ r hcp]
    exact h1

/-- "rendered versions are accepted by their pattern": `is_valid` says yes -/
theorem C20_is_valid_documented (s : String) (hs : s ∈ c20DocPatterns) (p : V1Pat)
    (hp : V1Pat.tokenize s.toList = some p) (v : V1Info) (hv : V1Pat.vok v p = true)
    (hc : V1Pat.calOk v p = true) : v1IsValid (V1Pat.render v p) s.toList = .ok true := by
  obtain ⟨v', h, _, _⟩ := C20_roundtrip_documented s hs p hp v hv hc
  unfold v1IsValid
  rw [h]

/-- THE TIE (compile side, Boolean form of the driver op) on `c20TiePatterns` -/
theorem C20_tree_tie : c20TiePatterns.all (fun s => v1c_compileTie s.toList) = true :=
  C20_evaluated.2.2.2.1

/-- the composite trees of Model/V1Tree.lean are what `_init_composite_patterns` stored in
    `PART_PATTERNS` (compared as compiled regexes) -/
theorem C20_composites_tie :
    v1c_composites.all (fun nb => match nb.2.compile, v1c_partRe nb.1 with
      | some a, some b => Re.beq a b
      | _, _ => false) = true :=
  C20_evaluated.2.2.2.2.1

/-- THE TIE (render side): on every documented pattern and both sample records the tree renders EXACTLY
    what `format_version` (FULL_PART_FORMATS, the kwargs, `str.format`) writes -/
theorem C20_tree_render_tie :
    c20DocPatterns.all (fun s => v1c_renderTie s.toList c20SampleA && v1c_renderTie s.toList c20SampleB) = true :=
  C20_evaluated.2.2.2.2.2.1

/-- a concrete record in the domain: v201712.0033-beta under {pycalver} (hypotheses satisfiable) -/
theorem C20_tree_example :
    (match V1Pat.tokenize "{pycalver}".toList with
     | some p => p.wfTop && V1Pat.vok c20SampleA p && V1Pat.calOk c20SampleA p &&
                 (V1Pat.render c20SampleA p == "v201712.0033-beta".toList)
     | none => false) = true :=
  C20_evaluated.2.2.2.2.2.2.1

/-- WHY `calOk` IS THERE: `{year}.{doy}` is `wfTop`, the record (2023, day 366) lies in the domain of both
    parts ({doy} recognises 001..366 whatever the year), but 2023 has 365 days: `date_from_doy` runs into
    2024-01-01, month and day are taken from it while the YEAR IS KEPT, and the day of year is recomputed —
    "2023.366" reads back as day 1 of 2023 and renders as "2023.001". -/
theorem C20_calOk_needed_witness :
    (match V1Pat.tokenize "{year}.{doy}".toList with
     | some p =>
       let v : V1Info := { v1RecBase with year := some 2023, doy := some 366 }
       p.wfTop && V1Pat.vok v p && !V1Pat.calOk v p && (V1Pat.render v p == "2023.366".toList)
     | none => false) = true ∧
    (v1ParseVersionInfo "2023.366".toList "{year}.{doy}".toList).toOption.map (fun v => (v.year, v.month, v.dom, v.doy))
      = some (some 2023, some 1, some 1, some 1) :=
  C20_evaluated.2.2.2.2.2.2.2

end BV
