/-
  Props/C03.lean — property C03: after an update no configured occurrence is left stale.

  "After a successful `update`, every place where a configured file pattern matched shows the
   new version rendered through that pattern - `{version}` occurrences equal the announced
   version, `{pep440_version}` occurrences its PEP 440 form, partial patterns (such as a
   copyright year) the corresponding parts - including when several different patterns match
   on the same line. The config file's current_version equals the announced version."

  Model: `iterMatches`, `rewriteLines` (Model/Rewrite.lean, after the D2 repair: the matches of a
  line are applied right to left onto the current line).  For ALL line lists and pattern lists.
  The theorems are those of Props/RewriteEngine.lean (every engine) at `v2Engine`.
-/
import BumpverVerif.Props.RewriteEngine
import BumpverVerif.Props.RewriteWitnesses
-- the functions this property's mechanism lives in are TRANSLATED from the Python source on every run (Gen/F_*.lean) and proved equal to the hand model:
import BumpverVerif.Proofs.Tie_hasOverlap
namespace BV

/-- the surviving matches never overlap or touch one another -/
theorem C03_matches_disjoint (lines : List Str) (pats : List CPat) (ms : List PMatch)
    (h : iterMatches lines pats = some ms) :
    ms.Pairwise (fun a b => a.lineno ≠ b.lineno ∨ a.stop < b.start ∨ b.stop < a.start) :=
  v2Engine.C03_matches_disjoint lines pats ms ((v2Engine_iterMatches _ _).trans h)

/-- every surviving match lies inside its line -/
theorem C03_matches_in_bounds (lines : List Str) (pats : List CPat) (ms : List PMatch)
    (h : iterMatches lines pats = some ms) :
    ∀ m ∈ ms, ∃ line, lines[m.lineno]? = some line ∧ m.start < m.stop ∧ m.stop ≤ line.length :=
  v2Engine.C03_matches_in_bounds lines pats ms ((v2Engine_iterMatches _ _).trans h)

/-- success means every configured pattern was found somewhere in the file -/
theorem C03_all_patterns_found (pats : List CPat) (v : VInfo) (old new : List Str) (ms : List PMatch)
    (hm : iterMatches old pats = some ms) (h : rewriteLines pats v old = .ok new) :
    ∀ p ∈ pats, ∃ m ∈ ms, m.pat = p :=
  v2Engine.C03_all_patterns_found pats v old new ms ((v2Engine_iterMatches _ _).trans hm)
    ((v2Engine_rewriteLines _ _ _).trans h)

/-- the text a match is replaced with -/
def replOf (v : VInfo) (m : PMatch) : Str :=
  match formatVersion v (normalizePattern m.pat.vp m.pat.raw) with
  | .ok s => s
  | .error _ => []

/-- offset of a match's replacement in the NEW line: its old start, shifted by the growth of
    the replacements to its left on the same line -/
def shiftedStart (v : VInfo) (ms : List PMatch) (m : PMatch) : Int :=
  (m.start : Int) + ((ms.filter (fun m' => m'.lineno == m.lineno && m'.stop < m.start)).map
      (fun m' => ((replOf v m').length : Int) - ((m'.stop : Int) - (m'.start : Int)))).sum

attribute [local irreducible] formatVersion normalizePattern in
/-- EVERY OCCURRENCE IS REPLACED, also several on one line: after a successful rewrite each
    surviving match shows the new version rendered through its own pattern, at its (shifted)
    position in the new line -/
theorem C03_every_occurrence (pats : List CPat) (v : VInfo) (old new : List Str) (ms : List PMatch)
    (hm : iterMatches old pats = some ms) (h : rewriteLines pats v old = .ok new)
    (m : PMatch) (hmem : m ∈ ms) :
    ∃ newLine, new[m.lineno]? = some newLine ∧
      (newLine.drop (shiftedStart v ms m).toNat).take (replOf v m).length = replOf v m := by
  -- `replOf`, `shiftedStart` are `v2Engine.replOf`, `v2Engine.shiftedStart` written out (the renderer is
  -- kept folded while Lean checks that)
  exact (v2Engine.C03_every_occurrence pats v old new ms ((v2Engine_iterMatches _ _).trans hm)
    ((v2Engine_rewriteLines _ _ _).trans h) m hmem).2

/-- `{version}` denotes the version pattern itself: such an occurrence is rendered as the
    announced version (normalize_pattern with raw = "{version}") -/
theorem C03_version_placeholder (vp : Str) :
    normalizePattern vp "{version}".toList =
      (if isInfix "{pep440_version}".toList vp
       then replaceAll "{pep440_version}".toList (convertToPep440 vp) vp else vp) := by
  unfold normalizePattern
  have h1 : isInfix "{version}".toList "{version}".toList = true := by decide
  simp only [h1, if_true]
  rw [replaceAll_self _ _ (by decide)]

/-- the defect that was repaired (DESIGN.md D2): two patterns on one line.  With the repaired
    right-to-left application both occurrences are replaced. -/
theorem C03_shared_line_witness :
    let v : VInfo := { cal := ⟨none, none, none, none, none, none, none, none, none⟩, major := 1, minor := 2,
                       patch := 4, bid := "1000".toList, tag := "final".toList, pytag := [], num := 0, inc0 := 0, inc1 := 1 }
    let vp := "MAJOR.MINOR.PATCH".toList
    rewriteLines [{ vp := vp, raw := "a=MAJOR.MINOR.PATCH".toList }, { vp := vp, raw := "b=MAJOR.MINOR.PATCH".toList }] v
        ["a=1.2.3 b=1.2.3".toList] = .ok ["a=1.2.4 b=1.2.4".toList] :=
  rewrite_witnesses.1

end BV
