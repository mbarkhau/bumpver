/-
  Props/C06.lean — property C06: a failed update leaves the project untouched.

  "If `update` cannot complete its rewrite phase - a configured pattern has no match in its
   file, a configured file is missing, or the new version is rejected - it exits non-zero and
   every project file keeps exactly its prior bytes; nothing is committed, tagged or pushed.
   Whenever `--dry` reports such an error, the corresponding real run changes nothing either."

  Model: `rewriteFiles` over an abstract file system (Model/Rewrite.lean, after the D5 repair:
  every file is read and validated before the first one is written) and `plan`
  (Model/Plan.lean) for the VCS side.  For ALL file systems, file lists (any order, any
  number of files and patterns) and versions.  The theorems about `rewriteFiles` are those of
  Props/RewriteEngine.lean (every engine) at `v2Engine`.
-/
import BumpverVerif.Model.Plan
import BumpverVerif.Props.RewriteEngine
import BumpverVerif.Props.RewriteWitnesses
import BumpverVerif.Props.C10
namespace BV

/-- ALL OR NOTHING: an error in the rewrite phase — missing file, pattern without match,
    anything — leaves every file exactly as it was -/
theorem C06_all_or_nothing (fs : FS) (fps : List (Str × List CPat)) (v : VInfo) (e : RwErr)
    (h : (rewriteFiles fs fps v).2 = .error e) : (rewriteFiles fs fps v).1 = fs := by
  rw [← v2Engine_rewriteFiles] at h ⊢
  exact v2Engine.C06_all_or_nothing fs fps v e h

/-- the rewrite phase fails iff some configured file is missing or some file fails to validate,
    and the first such file (in configuration order) decides the error -/
theorem C06_error_iff (fs : FS) (fps : List (Str × List CPat)) (v : VInfo) :
    (∃ e, (rewriteFiles fs fps v).2 = .error e) ↔
      ∃ fp ∈ fps, lookup fp.1 fs = none ∨ ∃ c e, lookup fp.1 fs = some c ∧ rewriteContent fp.2 v c = .error e := by
  simp only [← v2Engine_rewriteFiles, ← v2Engine_rewriteContent]
  exact v2Engine.C06_error_iff fs fps v

/-- success writes exactly the validated contents, and only to configured paths -/
theorem C06_success_writes (fs : FS) (fps : List (Str × List CPat)) (v : VInfo)
    (h : (rewriteFiles fs fps v).2 = .ok ()) :
    ∀ fp ∈ fps, ∃ c, lookup fp.1 fs = some c ∧ ∃ c', rewriteContent fp.2 v c = .ok c' := by
  rw [← v2Engine_rewriteFiles] at h
  simp only [← v2Engine_rewriteContent]
  exact v2Engine.C06_success_writes fs fps v h

/-- a missing pattern is an error of the file: if some configured pattern of a file has no
    surviving match, `rewriteLines` fails (so the whole phase fails by `C06_error_iff`) -/
theorem C06_missing_pattern_fails (pats : List CPat) (v : VInfo) (lines : List Str) (ms : List PMatch)
    (hm : iterMatches lines pats = some ms) (p : CPat) (hp : p ∈ pats) (hno : ∀ m ∈ ms, m.pat ≠ p) :
    ∃ e, rewriteLines pats v lines = .error e :=
  v2Engine_rewriteLines pats v lines ▸
    v2Engine.C06_missing_pattern_fails pats v lines ms ((v2Engine_iterMatches _ _).trans hm) p hp hno

/-- nothing is committed, tagged or pushed after a failed rewrite phase (Model/Plan.lean: the
    run stops before the `rewrite` event and the exit code is non-zero) -/
theorem C06_no_vcs_after_failure (c : PlanCfg) (a : PlanCli) (e : PlanEnv)
    (hr : e.rewriteOk = false) :
    (plan c a e).2 = 1 ∧ ∀ ev ∈ (plan c a e).1, ev ≠ .rewrite ∧ ev.mutating = false ∧ ev.isHook = false := by
  obtain ⟨hcode, hall⟩ := plan_rewrite_fail c a e hr
  refine ⟨hcode, fun ev hev => ?_⟩
  rcases hall ev hev with (rfl | rfl | rfl | ⟨-, rfl | rfl | rfl⟩) | rfl <;>
    simp [Ev.mutating, Ev.isHook]

/-- the defect that was repaired (DESIGN.md D5): the lazy loop wrote the files before the failing
    one.  Witness on the model of the old loop: two files, the second one missing. -/
theorem C06_lazy_partial_write_witness :
    let v : VInfo := { cal := ⟨none, none, none, none, none, none, none, none, none⟩, major := 1, minor := 2,
                       patch := 4, bid := "1000".toList, tag := "final".toList, pytag := [], num := 0, inc0 := 0, inc1 := 1 }
    let p : CPat := { vp := "MAJOR.MINOR.PATCH".toList, raw := "MAJOR.MINOR.PATCH".toList }
    let fs : FS := [("a".toList, "v 1.2.3".toList)]
    let fps := [("a".toList, [p]), ("b".toList, [p])]
    (rewriteFilesLazy v fs fps).1 = [("a".toList, "v 1.2.4".toList)] ∧
    (rewriteFilesLazy v fs fps).2 = .error .missingFile ∧
    (rewriteFiles fs fps v).1 = fs :=
  rewrite_witnesses.2

end BV
