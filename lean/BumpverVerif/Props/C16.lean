/-
  Props/C16.lean — property C16: version comparison is a total order that agrees with PEP 440.

  "The comparison used to pick the newest tag and to gate new versions is a total preorder on
   all strings (reflexive, transitive, total, with equality exactly when keys are equal),
   orders every pair of PEP 440-valid strings exactly as PEP 440 prescribes and prints them in
   PEP 440 canonical form, and places every non-PEP 440 string below every PEP 440 one."

  Model: Model/Pep440.lean (`parseVersion` = `setuptools_v65_version.parse`, `verStr` = `str`,
  `keyOf`/`cmpKey` = comparison of the `_key` tuples, `verLe`/`verLt`/`verEqKey` = `<=`/`<`/`==`),
  tied to the code by ops `pep_parse`, `pep_str`, `pep_cmp`.
  Helper lemmas: Proofs/Pep440Lemmas.lean. This file holds the independent specification
  `Pep440Spec` (written from the text of PEP 440), the property theorems, and the few bridge
  lemmas that mention the specification (they cannot live in Proofs/, which this file imports).
-/
import BumpverVerif.Model.Pep440
import BumpverVerif.Proofs.Pep440Lemmas
-- built with this property: `_parse_letter_version` as generated from the Python source is what `letterSeg` reads
import BumpverVerif.Proofs.Tie_parseLetterVersion
namespace BV

/-! ## (a) "a total preorder on all strings (reflexive, transitive, total, with equality
        exactly when keys are equal)"

The laws hold for `cmpKey` on ALL keys, hence for every parsed value, hence for the
parse of every string; they do not depend on the parser. -/

/-- antisymmetry of the three-way comparison: `a < b` exactly when `b > a` -/
theorem C16_cmp_antisymm (k k' : Key) : cmpKey k k' = .lt ↔ cmpKey k' k = .gt :=
  lawful_cmpKey.lt_iff_gt k k'

/-- the three-way comparison answers `.eq` exactly on equal keys -/
theorem C16_cmp_eq_iff (k k' : Key) : cmpKey k k' = .eq ↔ k = k' := lawful_cmpKey.eq_iff k k'

/-- "reflexive" -/
theorem C16_refl (a : Parsed) : verLe a a = true := by
  simp [verLe, lawful_cmpKey.refl]

/-- "transitive" -/
theorem C16_trans (a b c : Parsed) (hab : verLe a b = true) (hbc : verLe b c = true) :
    verLe a c = true := by
  simp only [verLe, bne_iff_ne, ne_eq] at *
  exact lawful_cmpKey.le_trans _ _ _ hab hbc

/-- "total" -/
theorem C16_total (a b : Parsed) : verLe a b = true ∨ verLe b a = true := by
  simp only [verLe, bne_iff_ne, ne_eq]
  exact lawful_cmpKey.le_total _ _

/-- `<` is the strict part of `<=` -/
theorem C16_lt_iff (a b : Parsed) : verLt a b = true ↔ (verLe a b = true ∧ ¬ verLe b a = true) := by
  simp only [verLt, verLe, bne_iff_ne, ne_eq, beq_iff_eq, Decidable.not_not]
  rw [lawful_cmpKey.swap (keyOf a) (keyOf b)]
  cases cmpKey (keyOf a) (keyOf b) <;> simp [Ordering.swap]

/-- "with equality exactly when keys are equal" -/
theorem C16_eq_iff_key_eq (a b : Parsed) :
    (verLe a b = true ∧ verLe b a = true) ↔ keyOf a = keyOf b := by
  simp only [verLe, bne_iff_ne, ne_eq]
  rw [← lawful_cmpKey.eq_iff, lawful_cmpKey.swap (keyOf a) (keyOf b)]
  cases cmpKey (keyOf a) (keyOf b) <;> simp [Ordering.swap]

/-- `==` is equality of keys -/
theorem C16_eqKey_iff (a b : Parsed) : verEqKey a b = true ↔ keyOf a = keyOf b := by
  simp only [verEqKey, beq_iff_eq]
  exact lawful_cmpKey.eq_iff _ _

/-- the laws on strings, through `parse` -/
theorem C16_strings (s t u : Str) :
    verLe (parseVersion s) (parseVersion s) = true ∧
    (verLe (parseVersion s) (parseVersion t) = true → verLe (parseVersion t) (parseVersion u) = true →
      verLe (parseVersion s) (parseVersion u) = true) ∧
    (verLe (parseVersion s) (parseVersion t) = true ∨ verLe (parseVersion t) (parseVersion s) = true) :=
  ⟨C16_refl _, C16_trans _ _ _, C16_total _ _⟩

/-! ## (b) "orders every pair of PEP 440-valid strings exactly as PEP 440 prescribes"

`Pep440Spec` is an independent statement of the PEP 440 order, written from the text of the PEP
and deliberately shaped differently from the implementation: release segments are padded with
zeros (the code strips trailing zeros), the suffixes are ordered by explicit phases and nested
rules (the code uses `±Infinity` sentinels in a flat tuple), local versions by "first differing
segment or proper prefix" (the code wraps segments into pairs with a sentinel). -/

namespace Pep440Spec

/-- component `i` of a release segment; PEP 440: "the shorter segment is padded out with
    additional zeros as necessary" -/
def comp (r : List Nat) (i : Nat) : Nat := r.getD i 0

/-- equal release segments (after padding) -/
def relEq (r s : List Nat) : Prop := ∀ i, comp r i = comp s i

/-- release segments compare as tuples: the first differing component decides -/
def relLt (r s : List Nat) : Prop := ∃ i, (∀ j, j < i → comp r j = comp s j) ∧ comp r i < comp s i

/-- PEP 440: "Within a numeric release (1.0, 2.7.3), the following suffixes are permitted and
    MUST be ordered as shown: .devN, aN, bN, rcN, <no suffix>, .postN" -/
inductive Phase where
  | dev | a | b | rc | final | post
  deriving DecidableEq, Repr

def Phase.rank : Phase → Nat
  | .dev => 0 | .a => 1 | .b => 2 | .rc => 3 | .final => 4 | .post => 5

/-- the main suffix of a version: its pre-release letter if it has one; otherwise `.postN` if it
    has one; otherwise `.devN` if it has one; otherwise none (a final release) -/
def phase (v : PepVersion) : Phase :=
  match v.pre, v.post, v.dev with
  | some (l, _), _, _ => if l = ['a'] then .a else if l = ['b'] then .b else .rc
  | none, some _, _ => .post
  | none, none, some _ => .dev
  | none, none, none => .final

/-- the number of a segment ("ordering MUST be by the value of the numeric component") -/
def num : Option Nat → Nat
  | some n => n
  | none => 0

def preNum (v : PepVersion) : Nat :=
  match v.pre with
  | some (_, n) => n
  | none => 0

/-- PEP 440: "Within a post-release (1.0.post1), the following suffixes are permitted and MUST be
    ordered as shown: .devN, <no suffix>" -/
def devLt : Option Nat → Option Nat → Prop
  | some n, some m => n < m
  | some _, none => True
  | none, _ => False

/-- PEP 440: "Within an alpha (1.0a1), beta (1.0b1), or release candidate (1.0rc1, 1.0c1), the
    following suffixes are permitted and MUST be ordered as shown: .devN, <no suffix>, .postN";
    two post-releases of it are ordered by number, then as within a post-release.
    Arguments: post and dev of the left version, post and dev of the right one. -/
def tailLt : Option Nat → Option Nat → Option Nat → Option Nat → Prop
  | none, d, none, d' => devLt d d'
  | none, _, some _, _ => True
  | some _, _, none, _ => False
  | some p, d, some p', d' => p < p' ∨ (p = p' ∧ devLt d d')

/-- order of the suffixes of two versions with equal epoch and release -/
def suffixLt (v w : PepVersion) : Prop :=
  (phase v).rank < (phase w).rank ∨
  (phase v = phase w ∧
    match phase v with
    | .dev => num v.dev < num w.dev
    | .final => False
    | .post => num v.post < num w.post ∨ (num v.post = num w.post ∧ devLt v.dev w.dev)
    | _ => preNum v < preNum w ∨ (preNum v = preNum w ∧ tailLt v.post v.dev w.post w.dev))

/-- the same public version apart from epoch and release -/
def suffixEq (v w : PepVersion) : Prop := v.pre = w.pre ∧ v.post = w.post ∧ v.dev = w.dev

/-- PEP 440 on local version segments: numeric segments compare as integers, other segments
    lexicographically, and "the numeric section always compares as greater than the
    lexicographic segment" -/
def segLt : LocalSeg → LocalSeg → Prop
  | .num n, .num m => n < m
  | .str s, .str t => strLt s t = true
  | .str _, .num _ => True
  | .num _, .str _ => False

/-- a version without local segment sorts before the same version with one; two local versions:
    first differing segment decides, and "a local version with a great number of segments will
    always compare as greater than a local version with fewer segments, as long as the shorter
    local version's segments match the beginning of the longer local version's segments exactly" -/
def localLt : Option (List LocalSeg) → Option (List LocalSeg) → Prop
  | none, none => False
  | none, some _ => True
  | some _, none => False
  | some a, some b =>
    (∃ p x y a' b', a = p ++ x :: a' ∧ b = p ++ y :: b' ∧ segLt x y) ∨ (∃ y t, b = a ++ y :: t)

/-- PEP 440 order of two (normalised) versions: epoch; release; suffixes; local segment -/
def lt (v w : PepVersion) : Prop :=
  v.epoch < w.epoch ∨ (v.epoch = w.epoch ∧
    (relLt v.release w.release ∨ (relEq v.release w.release ∧
      (suffixLt v w ∨ (suffixEq v w ∧ localLt v.loc w.loc)))))

end Pep440Spec

/-! ### bridge lemmas (they mention the specification, so they live here) -/

open Pep440Spec

theorem bridge_seg (x y : LocalSeg) : cmpSeg x y = .lt ↔ segLt x y := by
  cases x <;> cases y <;> simp [cmpSeg, segLt, cmpNat_lt, cmpStr_lt_iff_strLt]

theorem bridge_local (v w : PepVersion) :
    cmpExt (cmpList cmpSeg) (locKeyOf v) (locKeyOf w) = .lt ↔ localLt v.loc w.loc := by
  unfold locKeyOf
  cases hv : v.loc with
  | none => cases hw : w.loc <;> simp [cmpExt, localLt]
  | some a =>
    cases hw : w.loc with
    | none => simp [cmpExt, localLt]
    | some b =>
      simp only [cmpExt, localLt]
      rw [cmpList_lt_iff lawful_cmpSeg]
      simp only [bridge_seg]

theorem bridge_tail_lt (v w : PepVersion) :
    (cmpExt cmpNat (postKeyOf v) (postKeyOf w)).then (cmpExt cmpNat (devKeyOf v) (devKeyOf w)) = .lt
      ↔ tailLt v.post v.dev w.post w.dev := by
  obtain ⟨e, r, pre, p, d, loc⟩ := v
  obtain ⟨e', r', pre', p', d', loc'⟩ := w
  cases p <;> cases d <;> cases p' <;> cases d' <;>
    simp [postKeyOf, devKeyOf, cmpExt, tailLt, devLt, Ordering.then_eq_lt, cmpNat_lt, cmpNat_eq]

theorem bridge_tail_eq (v w : PepVersion) :
    (cmpExt cmpNat (postKeyOf v) (postKeyOf w)).then (cmpExt cmpNat (devKeyOf v) (devKeyOf w)) = .eq
      ↔ v.post = w.post ∧ v.dev = w.dev := by
  obtain ⟨e, r, pre, p, d, loc⟩ := v
  obtain ⟨e', r', pre', p', d', loc'⟩ := w
  cases p <;> cases d <;> cases p' <;> cases d' <;>
    simp [postKeyOf, devKeyOf, cmpExt, Ordering.then_eq_eq, cmpNat_eq]

set_option linter.unusedSimpArgs false in
/-- the three sentinel tricks of `_cmpkey` (`preKeyOf`, `postKeyOf`, `devKeyOf`, Model/Pep440.lean) against the explicit
    phases of the specification: without a pre-release the pre item is `-∞` for a dev-only release and `+∞` otherwise;
    a missing post item is `-∞`; a missing dev item is `+∞` -/
theorem bridge_suffix_lt (v w : PepVersion) (hv : WfPre v) (hw : WfPre w) :
    (cmpExt cmpLetNum (preKeyOf v) (preKeyOf w)).then
      ((cmpExt cmpNat (postKeyOf v) (postKeyOf w)).then (cmpExt cmpNat (devKeyOf v) (devKeyOf w))) = .lt
      ↔ suffixLt v w := by
  obtain ⟨e, r, pre, post, dev, loc⟩ := v
  obtain ⟨e', r', pre', post', dev', loc'⟩ := w
  simp only [WfPre] at hv hw
  have letters := bridge_letters
  cases pre with
  | none =>
    cases pre' with
    | none =>
      -- no pre-release on either side: the phases dev < final < post come out of the three sentinels alone
      cases post <;> cases dev <;> cases post' <;> cases dev' <;>
        simp [preKeyOf, postKeyOf, devKeyOf, cmpExt, suffixLt, phase, Phase.rank, num, devLt,
          Ordering.then_eq_lt, cmpNat_lt, cmpNat_eq]
    | some q =>
      -- only the right side has a pre-release: the left one is below it exactly when it is dev-only (`-∞`)
      obtain ⟨l', n'⟩ := q
      rcases hw l' n' rfl with rfl | rfl | rfl <;>
      cases post <;> cases dev <;>
        simp [preKeyOf, postKeyOf, devKeyOf, cmpExt, suffixLt, phase, Phase.rank, num, devLt,
          Ordering.then_eq_lt, cmpNat_lt, cmpNat_eq]
  | some q =>
    obtain ⟨l, n⟩ := q
    cases pre' with
    | none =>
      -- only the left side has a pre-release: it is below the right one unless that is dev-only
      rcases hv l n rfl with rfl | rfl | rfl <;>
      cases post' <;> cases dev' <;>
        simp [preKeyOf, postKeyOf, devKeyOf, cmpExt, suffixLt, phase, Phase.rank, num, devLt,
          Ordering.then_eq_lt, cmpNat_lt, cmpNat_eq]
    | some q' =>
      -- a pre-release on both sides: letters (`letters`: a < b < rc as strings), numbers, then `bridge_tail_lt`
      obtain ⟨l', n'⟩ := q'
      rw [Ordering.then_eq_lt, bridge_tail_lt]
      rcases hv l n rfl with rfl | rfl | rfl <;> rcases hw l' n' rfl with rfl | rfl | rfl <;>
        simp [preKeyOf, cmpExt, cmpLetNum, suffixLt, phase, Phase.rank, preNum, letters,
          Ordering.then_eq_lt, Ordering.then_eq_eq, cmpNat_lt, cmpNat_eq]

theorem bridge_suffix_eq (v w : PepVersion) (hv : WfPre v) (hw : WfPre w) :
    (cmpExt cmpLetNum (preKeyOf v) (preKeyOf w)).then
      ((cmpExt cmpNat (postKeyOf v) (postKeyOf w)).then (cmpExt cmpNat (devKeyOf v) (devKeyOf w))) = .eq
      ↔ suffixEq v w := by
  obtain ⟨e, r, pre, post, dev, loc⟩ := v
  obtain ⟨e', r', pre', post', dev', loc'⟩ := w
  rw [Ordering.then_eq_eq, bridge_tail_eq]
  simp only [suffixEq]
  have hk : preKeyOf ⟨e, r, pre, post, dev, loc⟩ = preKeyOf ⟨e', r', pre', post', dev', loc'⟩ →
      post = post' → dev = dev' → pre = pre' := by
    intro h hp hd
    subst hp hd
    cases pre <;> cases pre' <;> cases post <;> cases dev <;> simp_all [preKeyOf]
  constructor
  · rintro ⟨h1, h2, h3⟩
    have := ((lawful_cmpExt lawful_cmpLetNum).eq_iff _ _).mp h1
    exact ⟨hk this h2 h3, h2, h3⟩
  · rintro ⟨h1, h2, h3⟩
    subst h1 h2 h3
    exact ⟨(lawful_cmpExt lawful_cmpLetNum).refl _, rfl, rfl⟩

/-! ### the agreement theorem -/

/-- "orders every pair of PEP 440-valid strings exactly as PEP 440 prescribes": on well-formed
    versions (`wfPep`: what the parser produces, see `C16_parse_wf`) the key comparison answers
    `.lt` exactly when the specification says "smaller". Together with `C16_cmp_antisymm` and
    `C16_cmp_eq_iff` this fixes all three answers. -/
theorem C16_agrees (v w : PepVersion) (hv : wfPep v = true) (hw : wfPep w = true) :
    cmpKey (keyOf (.pep v)) (keyOf (.pep w)) = .lt ↔ Pep440Spec.lt v w := by
  have hv' := WfPre_of_wfPep v hv
  have hw' := WfPre_of_wfPep w hw
  simp only [keyOf, pepKey, cmpKey]
  rw [then_assoc4 (cmpExt cmpLetNum (preKeyOf v) (preKeyOf w)), Ordering.then_eq_lt, Ordering.then_eq_lt,
    Ordering.then_eq_lt, cmpNat_lt, cmpNat_eq,
    cmp_release_lt_iff, cmp_release_eq_iff, bridge_suffix_lt v w hv' hw', bridge_suffix_eq v w hv' hw',
    bridge_local]
  rfl

/-- every PEP 440-valid string parses to a well-formed version -/
theorem C16_parse_wf (s : Str) (v : PepVersion) (h : parseVersion s = .pep v) : wfPep v = true := by
  unfold parseVersion at h
  split at h
  · next v' hv =>
    injection h with h
    subst h
    exact parsePep_wf s v' hv
  · cases h

/-- the agreement on strings: for PEP 440-valid `s` and `t`, bumpver's `<` is the PEP 440 order -/
theorem C16_agrees_strings (s t : Str) (v w : PepVersion)
    (hs : parseVersion s = .pep v) (ht : parseVersion t = .pep w) :
    verLt (parseVersion s) (parseVersion t) = true ↔ Pep440Spec.lt v w := by
  rw [hs, ht]
  simp only [verLt, beq_iff_eq]
  exact C16_agrees v w (C16_parse_wf s v hs) (C16_parse_wf t w ht)

/-! ## (c) "and prints them in PEP 440 canonical form"

The printed text is a normal form: it parses back to the very same version (so printing is
injective on versions and loses nothing), and printing after parsing is idempotent on all
strings. (That this normal form is the one of PEP 440's appendix-B canonical regex is checked on
the implementation and on the model's output by harness/dev/pep440_difftest.py.) -/

/-- round trip, at full strength (local segment included): for every version the parser can
    produce, the printed text parses back to exactly that version -/
theorem C16_str_canonical (v : PepVersion) (h : wfPep v = true) :
    parseVersion (verStr (.pep v)) = .pep v := by
  simp only [verStr, parseVersion, parsePep_pepStr v h]

/-- … hence to the same key -/
theorem C16_str_canonical_key (v : PepVersion) (h : wfPep v = true) :
    keyOf (parseVersion (verStr (.pep v))) = keyOf (.pep v) := by
  rw [C16_str_canonical v h]

/-- printing is injective on well-formed versions -/
theorem C16_str_injective (v w : PepVersion) (hv : wfPep v = true) (hw : wfPep w = true)
    (h : verStr (.pep v) = verStr (.pep w)) : v = w := by
  have h1 := C16_str_canonical v hv
  rw [h, C16_str_canonical w hw] at h1
  injection h1 with h1
  exact h1.symm

/-- `str ∘ parse` is idempotent on ALL strings (valid or not), and keeps the parsed value -/
theorem C16_str_idempotent (s : Str) :
    parseVersion (verStr (parseVersion s)) = parseVersion s ∧
    verStr (parseVersion (verStr (parseVersion s))) = verStr (parseVersion s) := by
  have key : parseVersion (verStr (parseVersion s)) = parseVersion s := by
    cases hp : parseVersion s with
    | pep v => exact C16_str_canonical v (C16_parse_wf s v hp)
    | legacy orig parts =>
      have ho : orig = s := by
        unfold parseVersion at hp
        split at hp
        · cases hp
        · injection hp with h1 _; exact h1.symm
      subst ho
      simp only [verStr]
      exact hp
  exact ⟨key, by rw [key]⟩

/-! ## (d) "places every non-PEP 440 string below every PEP 440 one" -/

theorem C16_legacy_below (orig : Str) (parts : List Str) (v : PepVersion) :
    verLt (.legacy orig parts) (.pep v) = true ∧ verLe (.pep v) (.legacy orig parts) = false := by
  constructor <;> rfl

/-- on strings: a string that is not PEP 440-valid sorts strictly below every valid one -/
theorem C16_legacy_below_strings (s t : Str) (hs : parsePep s = none) (v : PepVersion)
    (ht : parsePep t = some v) : verLt (parseVersion s) (parseVersion t) = true := by
  simp only [parseVersion, hs, ht]
  rfl

/-! ## witnesses and non-vacuity -/

private def P (s : String) : Parsed := parseVersion s.toList

/-- 1.0.dev1 < 1.0a1 < 1.0 < 1.0.post1 -/
theorem C16_witness_chain :
    verLt (P "1.0.dev1") (P "1.0a1") = true ∧ verLt (P "1.0a1") (P "1.0") = true ∧
    verLt (P "1.0") (P "1.0.post1") = true := by decide +kernel

/-- "1.2" and "1.2.0" have equal keys (and are different versions as text) -/
theorem C16_witness_trailing_zero :
    keyOf (P "1.2") = keyOf (P "1.2.0") ∧ verStr (P "1.2") ≠ verStr (P "1.2.0") := by decide +kernel

/-- bumpver's "v201712.0033-beta" is PEP 440 "201712.33b0" -/
theorem C16_witness_bumpver :
    keyOf (P "v201712.0033-beta") = keyOf (P "201712.33b0") ∧
    verStr (P "v201712.0033-beta") = "201712.33b0".toList := by decide +kernel

/-- normalisation of spellings, case, separators, white space and leading zeros -/
theorem C16_witness_normalise :
    verStr (P " V01!1.00-Alpha_2.POST3-dev+Ab_01-x ") = "1!1.0a2.post3.dev0+ab.1.x".toList := by decide +kernel

/-- a legacy string: kept as text, below every PEP 440 version (even 0.dev0) -/
theorem C16_witness_legacy :
    verStr (P "v2017q1.54321") = "v2017q1.54321".toList ∧
    keyOf (P "v2017q1.54321") = .legacy ["*v".toList, "00002017".toList, "*q".toList,
      "00000001".toList, "00054321".toList, "*final".toList] ∧
    verLt (P "v2017q1.54321") (P "0.dev0") = true := by decide +kernel

/-! the hypotheses of `C16_agrees` are satisfiable, and the specification is neither empty nor
    everything: a derivation by hand, and one through the theorem -/

private def v10dev1 : PepVersion := ⟨0, [1, 0], none, none, some 1, none⟩
private def v1a1 : PepVersion := ⟨0, [1], some (['a'], 1), none, none, none⟩

example : parseVersion "1.0.dev1".toList = .pep v10dev1 ∧ parseVersion "1a1".toList = .pep v1a1 := by
  decide +kernel
example : wfPep v10dev1 = true ∧ wfPep v1a1 = true := by decide +kernel
/-- by hand from the specification: equal epoch, `1.0` = `1` after padding, phase `.devN` < `aN` -/
example : Pep440Spec.lt v10dev1 v1a1 :=
  Or.inr ⟨rfl, Or.inr ⟨fun i => by
    rcases i with _ | _ | i <;> simp [Pep440Spec.comp, v10dev1, v1a1],
    Or.inl (Or.inl (by decide))⟩⟩
/-- … and the implementation agrees -/
example : cmpKey (keyOf (.pep v10dev1)) (keyOf (.pep v1a1)) = .lt := by decide +kernel
/-- the specification is irreflexive here (through the theorem) -/
example : ¬ Pep440Spec.lt v1a1 v1a1 := by
  rw [← C16_agrees v1a1 v1a1 (by decide) (by decide)]; decide +kernel
/-- local versions: `1.0 < 1.0+abc < 1.0+abc.1 < 1.0+1` -/
example : verLt (P "1.0") (P "1.0+abc") = true ∧ verLt (P "1.0+abc") (P "1.0+abc.1") = true ∧
    verLt (P "1.0+abc.1") (P "1.0+1") = true := by decide +kernel
/-- post-release of a pre-release and dev of a post: `1.0a1.dev1 < 1.0a1 < 1.0a1.post1.dev1 < 1.0a1.post1 < 1.0a2` -/
example : verLt (P "1.0a1.dev1") (P "1.0a1") = true ∧ verLt (P "1.0a1") (P "1.0a1.post1.dev1") = true ∧
    verLt (P "1.0a1.post1.dev1") (P "1.0a1.post1") = true ∧ verLt (P "1.0a1.post1") (P "1.0a2") = true := by
  decide +kernel
/-- round trip hypothesis is satisfiable -/
example : wfPep ⟨1, [1, 0], some (['r', 'c'], 2), some 3, some 0, some [.str ['a', 'b'], .num 1]⟩ = true := by
  decide +kernel

end BV
