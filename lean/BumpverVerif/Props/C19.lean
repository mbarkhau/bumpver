/-
  Props/C19.lean — property C19: `init` always produces a configuration that bumpver itself
  can use.

  "In any project directory, `init` appends a configuration - leaving prior content of that
   file intact as a prefix - which `show` immediately reads back from the same file, reporting
   this year's initial version; `init --dry` writes nothing and a second `init` refuses and
   changes nothing. A file that already holds a bumpver section with a current_version is
   always preferred over files that do not."

  Model (Model/Config.lean): `pickConfigFile` = `_pick_config_filepath` over the GENERATED
  candidate order, `defaultConfigText` = `default_config` over the GENERATED templates,
  `writeContent` = `write_content`, `cliInit` = cli.py `init`.  A project directory is a function
  file name → content (`ProjFS`); a `World` is a function file name → {absent, empty, unrelated,
  hasSection}.  All theorems quantify over ALL such functions (not only the 2^3 × 4^5 = 8,192 worlds the
  harness enumerates).  Whether a file's configuration parses (`parses`) is a parameter: that the
  appended text does parse is what the harness observes with `bumpver show` on every world.

  Helper lemmas and the definitions `sectionHeader`,
  `patternsHeader`, `selfEntry`, `RestWellFormed` are in Proofs/ConfigLemmas.lean.
-/
import BumpverVerif.Proofs.ConfigLemmas
namespace BV

/-- "A file that already holds a bumpver section with a current_version is always preferred
    over files that do not": if any candidate holds a section, the picked file holds one. -/
theorem C19_prefers_section (w : World) (h : ∃ f ∈ Gen.configCandidates, w f = .hasSection) :
    w (pickConfigFile w) = .hasSection := by
  obtain ⟨f, hf, hs⟩ := h
  unfold pickConfigFile
  cases hfind : Gen.configCandidates.find? (fun f => w f == .hasSection) with
  | some g =>
    have := List.find?_some hfind
    simpa using this
  | none =>
    have := List.find?_eq_none.mp hfind f hf
    simp [hs] at this

/-- the candidate order and the fallback are the ones of `_pick_config_filepath` -/
theorem C19_candidates :
    Gen.configCandidates = ["pycalver.toml".toList, "bumpver.toml".toList, ".bumpver.toml".toList,
      "pyproject.toml".toList, "setup.cfg".toList] ∧ Gen.configFallback = "bumpver.toml".toList := by
  decide

/-- which file is picked: the FIRST candidate (in the generated order) holding a section; if
    there is none, the first existing candidate; if none exists, `bumpver.toml`. -/
theorem C19_pick_order (w : World) :
    (∀ f, Gen.configCandidates.find? (fun f => w f == .hasSection) = some f → pickConfigFile w = f) ∧
    (Gen.configCandidates.find? (fun f => w f == .hasSection) = none →
      ∀ f, Gen.configCandidates.find? (fun f => w.exists_ f) = some f → pickConfigFile w = f) ∧
    ((∀ f ∈ Gen.configCandidates, w.exists_ f = false) → pickConfigFile w = Gen.configFallback) := by
  refine ⟨?_, ?_, ?_⟩
  · intro f h
    unfold pickConfigFile
    rw [h]
  · intro h0 f h
    unfold pickConfigFile
    rw [h0, h]
  · intro h
    have h1 : Gen.configCandidates.find? (fun f => w f == .hasSection) = none := by
      apply List.find?_eq_none.mpr
      intro f hf
      have := h f hf
      simp only [World.exists_, bne_eq_false_iff_eq] at this
      simp [this]
    have h2 : Gen.configCandidates.find? (fun f => w.exists_ f) = none := by
      apply List.find?_eq_none.mpr
      intro f hf
      simp [h f hf]
    unfold pickConfigFile
    rw [h1, h2]

/-- `find?` returns the first match: every candidate before the picked one fails the test -/
theorem C19_pick_first (w : World) (f : Str)
    (h : Gen.configCandidates.find? (fun f => w f == .hasSection) = some f) :
    w f = .hasSection ∧ ∃ before after, Gen.configCandidates = before ++ f :: after ∧
      ∀ g ∈ before, w g ≠ .hasSection := by
  obtain ⟨hp, before, after, hsplit, hb⟩ := List.find?_eq_some_iff_append.mp h
  refine ⟨by simpa using hp, before, after, hsplit, fun g hg => ?_⟩
  have := hb g hg
  simpa using this

/-- "`init` appends a configuration - leaving prior content of that file intact as a prefix":
    after a writing `init` the picked file holds old content ++ separator ++ default text and
    every other file is unchanged -/
theorem C19_prefix (fs fs' : ProjFS) (parses : Bool) (year : Nat) (file : Str)
    (h : cliInit fs false parses year = (.written file, fs')) :
    file = pickConfigFile (worldOf fs) ∧
    ∃ text, defaultConfigText (worldOf fs) file (initialVersion year) = .ok text ∧
      fs' file = some ((fs file).getD [] ++ (if (fs file).isSome then "\n".toList else []) ++ text) ∧
      ∀ g, g ≠ file → fs' g = fs g := by
  unfold cliInit at h
  simp only [] at h
  split at h
  · cases h
  · split at h
    · cases h
    · rename_i text htext
      simp only [Bool.false_eq_true, if_false] at h
      cases h
      refine ⟨rfl, text, htext, ?_, ?_⟩
      · unfold writeContent
        simp only [if_true]
        cases fs (pickConfigFile (worldOf fs)) <;> simp
      · intro g hg
        unfold writeContent
        simp only [if_neg hg]

/-- "`init --dry` writes nothing" -/
theorem C19_dry_pure (fs : ProjFS) (parses : Bool) (year : Nat) :
    (cliInit fs true parses year).2 = fs ∧
    ∀ file, (cliInit fs true parses year).1 ≠ .written file := by
  unfold cliInit
  simp only []
  split
  · exact ⟨rfl, fun _ h => by cases h⟩
  · split
    · exact ⟨rfl, fun _ h => by cases h⟩
    · exact ⟨rfl, fun _ h => by cases h⟩

/-- a refusal changes nothing either -/
theorem C19_refusal_pure (fs : ProjFS) (dry parses : Bool) (year : Nat)
    (h : (cliInit fs dry parses year).1 = .refused) : (cliInit fs dry parses year).2 = fs := by
  unfold cliInit at h ⊢
  simp only [] at h ⊢
  split
  · rfl
  · rename_i hc
    simp only [hc, Bool.false_eq_true, if_false] at h
    split
    · rfl
    · split
      · rfl
      · rename_i text htext hd
        simp only [htext, hd, Bool.false_eq_true, if_false] at h
        cases h

/-- the text `init` writes, for every world: the one section header of the dialect, directly
    followed by `current_version = "<year>.1001-alpha"`; no further config-section header; the
    file_patterns table of the dialect with an entry for the config file itself whose pattern is
    `current_version = "{version}"` -/
theorem C19_text_wellformed (w : World) (year : Nat) :
    ∃ rest, defaultConfigText w (pickConfigFile w) (initialVersion year) =
        .ok (sectionHeader (pickConfigFile w) ++ "\ncurrent_version = \"".toList ++ initialVersion year ++
             "\"\n".toList ++ rest) ∧
      RestWellFormed (pickConfigFile w) rest := by
  have hn := pick_mem w
  have hb := baseFacts_all _ hn
  simp only [baseFacts, Bool.and_eq_true, beq_iff_eq] at hb
  obtain ⟨⟨⟨⟨hpre, hpost⟩, _⟩, _⟩, _⟩ := hb
  refine ⟨postRest (pickConfigFile w) ++ tailOf w (pickConfigFile w), ?_,
    rest_wellformed w _ hn (pick_exists_or_fallback w)⟩
  rw [defaultConfigText_eq w _ _ (candidates_format _ hn), hpre]
  have : postOf (baseOf (pickConfigFile w)) = "\"\n".toList ++ postRest (pickConfigFile w) := by
    unfold postRest
    rw [← hpost, List.take_append_drop]
  rw [this]
  simp only [List.append_assoc]

/-- the initial version is this year's: `<year>.1001-alpha` -/
theorem C19_initial_version (year : Nat) :
    initialVersion year = natToStr year ++ ".1001-alpha".toList ∧ initialVersion 2026 = "2026.1001-alpha".toList := by
  constructor
  · rfl
  · decide

/-- "a second `init` refuses and changes nothing": after a writing `init`, as soon as the file
    written parses (observed on every world by the harness), any further `init` — dry or not —
    refuses and leaves every file as it is; the same file is picked again. -/
theorem C19_second_refuses (fs fs' : ProjFS) (parses : Bool) (year : Nat) (file : Str)
    (h : cliInit fs false parses year = (.written file, fs')) (dry : Bool) (year' : Nat) :
    pickConfigFile (worldOf fs') = file ∧ cliInit fs' dry true year' = (.refused, fs') := by
  obtain ⟨hfile, text, htext, hnew, hother⟩ := C19_prefix fs fs' parses year file h
  have hn := pick_mem (worldOf fs)
  rw [← hfile] at hn
  -- the written file is classified as holding a section
  have hsec : worldOf fs' file = .hasSection := by
    rw [defaultConfigText_eq _ _ _ (candidates_format _ hn)] at htext
    cases htext
    obtain ⟨m1, m2⟩ := markers_in_pre_baseOf file
    unfold worldOf
    rw [hnew]
    apply classify_hasSection
    · have := isInfix_mid "bumpver]".toList ((fs file).getD [] ++ (if (fs file).isSome then "\n".toList else []))
        (preOf (baseOf file)) (initialVersion year ++ postOf (baseOf file) ++ tailOf (worldOf fs) file) m1
      simpa [List.append_assoc] using this
    · have := isInfix_mid "current_version".toList ((fs file).getD [] ++ (if (fs file).isSome then "\n".toList else []))
        (preOf (baseOf file)) (initialVersion year ++ postOf (baseOf file) ++ tailOf (worldOf fs) file) m2
      simpa [List.append_assoc] using this
  have hpick : pickConfigFile (worldOf fs') = file := by
    rw [hfile]
    apply pick_stable
    · intro g hg
      unfold worldOf
      rw [hother g (by rw [hfile]; exact hg)]
    · rw [← hfile]; exact hsec
  refine ⟨hpick, ?_⟩
  unfold cliInit
  simp only [hpick]
  have hex : (worldOf fs').exists_ file = true := by
    unfold World.exists_
    rw [hsec]
    rfl
  simp [hex]

/-! ### non-vacuity -/

/-- an empty directory: `bumpver.toml` is created with the `[bumpver]` dialect and an entry for
    itself -/
example : (cliInit (fun _ => none) false false 2026).1 = .written "bumpver.toml".toList := by decide +kernel

example : ((cliInit (fun _ => none) false false 2026).2 "bumpver.toml".toList).map
      (fun s => "[bumpver]\ncurrent_version = \"2026.1001-alpha\"\nversion_pattern".toList.isPrefixOf s) = some true := by
  decide +kernel

/-- a setup.cfg with unrelated content next to a pyproject.toml holding a section: the latter wins -/
example : pickConfigFile (worldOf (fun f =>
    if f = "setup.cfg".toList then some "[metadata]\nname = x\n".toList
    else if f = "pyproject.toml".toList then some "[tool.bumpver]\ncurrent_version = \"1\"\n".toList
    else none)) = "pyproject.toml".toList := by decide +kernel

end BV
