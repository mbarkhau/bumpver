/-
  Props/C11.lean — property C11: uncommitted changes are never swept into the bump commit.

  "When committing, `update` aborts before modifying any file if the working tree has
   uncommitted changes, unless --allow-dirty is given; even with --allow-dirty it aborts if
   any file carrying a version pattern has uncommitted changes (staged, unstaged or
   untracked). Untracked files that carry no pattern never block an update."

  Model: `statusParse` / `assertNotDirty` (Model/Vcs.lean) = `VCSAPI.status` +
  `vcs.assert_not_dirty` after the D9 repair (lines are stripped before the status code is
  split off).  The theorem quantifies over EVERY two-character status code git's porcelain
  v1 format can print and every path git prints verbatim; paths that git C-quotes
  (blanks, quotes, non-ASCII) and `old -> new` rename lines are outside `PLine.wf`
  (known finding F-C11-quoted).  That the abort happens before any file is modified is the
  step order of `_update` (C10).  That the listing asked for is the porcelain one with every untracked file listed is
  `C11_status_templates` (Props/VcsTable.lean).
-/
import BumpverVerif.Model.Vcs
import BumpverVerif.Proofs.VcsLemmas
namespace BV

/-- one line of `git status --porcelain` (v1): `XY path` -/
structure PLine where
  x : Char
  y : Char
  path : Str

/-- the status letters of porcelain v1 (and blank) -/
def statusChar (c : Char) : Bool :=
  c == ' ' || c == 'M' || c == 'A' || c == 'D' || c == 'R' || c == 'C' || c == 'U' ||
  c == '?' || c == '!' || c == 'T'

/-- documented shape: two status characters, not both blank; the path is printed verbatim,
    i.e. it is non-empty, has no blank or line break anywhere (git C-quotes such paths). -/
def PLine.wf (l : PLine) : Bool :=
  statusChar l.x && statusChar l.y && !(l.x == ' ' && l.y == ' ') &&
  !l.path.isEmpty && l.path.all (fun c => !isPySpace c)

def PLine.render (l : PLine) : Str := l.x :: l.y :: ' ' :: l.path

def PLine.untracked (l : PLine) : Bool := l.x == '?' && l.y == '?'

/-! glue between `PLine` and the generic lemmas of Proofs/VcsLemmas.lean -/

private theorem statusChar_cases {c : Char} (h : statusChar c = true) :
    c = ' ' ∨ isPySpace c = false := by
  simp only [statusChar, Bool.or_eq_true, beq_iff_eq, or_assoc] at h
  rcases h with rfl | rfl | rfl | rfl | rfl | rfl | rfl | rfl | rfl | rfl <;>
    first | exact Or.inl rfl | exact Or.inr (by decide)

private theorem wf_hyps (ls : List PLine) (hwf : ∀ l ∈ ls, l.wf = true) :
    ∀ l ∈ ls, (l.x = ' ' ∨ isPySpace l.x = false) ∧ (l.y = ' ' ∨ isPySpace l.y = false)
      ∧ ¬ (l.x = ' ' ∧ l.y = ' ') ∧ l.path ≠ [] ∧ ∀ c ∈ l.path, isPySpace c = false := by
  intro l hl
  have h := hwf l hl
  simp only [PLine.wf, Bool.and_eq_true, Bool.not_eq_true', Bool.and_eq_false_iff,
    beq_eq_false_iff_ne, List.all_eq_true, List.isEmpty_eq_false_iff] at h
  obtain ⟨⟨⟨⟨h1, h2⟩, h3⟩, h4⟩, h5⟩ := h
  refine ⟨statusChar_cases h1, statusChar_cases h2, ?_, h4, h5⟩
  rintro ⟨hx, hy⟩
  rcases h3 with h3 | h3 <;> simp_all

/-- the verdict in closed form -/
private theorem verdict_eq (ls : List PLine) (hwf : ∀ l ∈ ls, l.wf = true)
    (files : List Str) (allowDirty : Bool) :
    assertNotDirty (ls.map PLine.render) files allowDirty =
      if (!allowDirty && ls.any (fun l => files.contains l.path || !l.untracked))
          || ls.any (fun l => files.contains l.path)
      then .abort else .proceed :=
  assertNotDirty_porcelain files PLine.x PLine.y PLine.path ls allowDirty (wf_hyps ls hwf)

/-- the decision rule of the README, for every porcelain status -/
theorem C11_decision (ls : List PLine) (hwf : ∀ l ∈ ls, l.wf = true)
    (files : List Str) (allowDirty : Bool) :
    assertNotDirty (ls.map PLine.render) files allowDirty = .abort ↔
      ((allowDirty = false ∧ ∃ l ∈ ls, ¬ (l.untracked = true ∧ l.path ∉ files))
       ∨ (∃ l ∈ ls, l.path ∈ files)) := by
  rw [verdict_eq ls hwf]
  have hb : ∀ b : Bool, ((if b = true then DirtyVerdict.abort else .proceed) = .abort) ↔ b = true := by
    intro b; cases b <;> simp
  rw [hb]
  cases allowDirty <;>
    simp only [Bool.not_true, Bool.not_false, Bool.false_and, Bool.true_and, Bool.false_or,
      Bool.or_eq_true, List.any_eq_true, List.contains_iff_mem, Bool.not_eq_true',
      false_and, true_and, false_or, reduceCtorEq]
  have he : ∀ l : PLine, (l.path ∈ files ∨ l.untracked = false)
      ↔ ¬(l.untracked = true ∧ ¬ l.path ∈ files) := by
    intro l; cases l.untracked <;> simp
  simp only [he]

/-- … and it never crashes on documented status lines: the only other outcome is `proceed` -/
theorem C11_no_crash (ls : List PLine) (hwf : ∀ l ∈ ls, l.wf = true)
    (files : List Str) (allowDirty : Bool) :
    assertNotDirty (ls.map PLine.render) files allowDirty ≠ .crash := by
  rw [verdict_eq ls hwf]
  split <;> simp

/-- a dirty pattern file always aborts, with or without --allow-dirty, whatever its status
    (staged, unstaged, both, added, deleted, untracked …) -/
theorem C11_pattern_file_always_blocks (ls : List PLine) (hwf : ∀ l ∈ ls, l.wf = true)
    (files : List Str) (allowDirty : Bool) (l : PLine) (hl : l ∈ ls) (hp : l.path ∈ files) :
    assertNotDirty (ls.map PLine.render) files allowDirty = .abort :=
  (C11_decision ls hwf files allowDirty).2 (Or.inr ⟨l, hl, hp⟩)

/-- untracked files that carry no pattern never block -/
theorem C11_untracked_unrelated_never_blocks (ls : List PLine) (hwf : ∀ l ∈ ls, l.wf = true)
    (files : List Str) (allowDirty : Bool)
    (hu : ∀ l ∈ ls, l.untracked = true ∧ l.path ∉ files) :
    assertNotDirty (ls.map PLine.render) files allowDirty = .proceed := by
  have h1 := C11_no_crash ls hwf files allowDirty
  have h2 : assertNotDirty (ls.map PLine.render) files allowDirty ≠ .abort := by
    rw [Ne, C11_decision ls hwf files allowDirty]
    rintro (⟨_, l, hl, h⟩ | ⟨l, hl, h⟩)
    · exact h (hu l hl)
    · exact (hu l hl).2 h
  cases h : assertNotDirty (ls.map PLine.render) files allowDirty <;> simp_all

/-- a clean tree never blocks -/
theorem C11_clean (files : List Str) (allowDirty : Bool) :
    assertNotDirty [] files allowDirty = .proceed := by
  cases allowDirty <;> rfl

/-! the defect that was repaired (DESIGN.md D9): an unstaged modification is printed as
    `" M a.txt"`; the pre-repair parser split on the FIRST blank, saw status `""` and path
    `"M a.txt"`, so with --allow-dirty the edit of a pattern file was swept into the commit.
    With the repaired parser the witness aborts: -/
theorem C11_unstaged_pattern_file_witness :
    assertNotDirty [" M a.txt".toList] ["a.txt".toList] true = .abort := by decide +kernel

/-! non-vacuity -/
example : (PLine.mk ' ' 'M' "a.txt".toList).wf = true := by decide +kernel
example : (PLine.mk '?' '?' "notes.md".toList).wf = true ∧ (PLine.mk '?' '?' "notes.md".toList).untracked = true := by decide +kernel
example : (PLine.mk 'M' 'M' "src/x.py".toList).render = "MM src/x.py".toList := by decide +kernel

end BV
