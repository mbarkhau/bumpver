/-
  Props/C08.lean — property C08: any sequence of updates keeps files, config and tags in agreement.

  "Starting from a consistent project, after every successful `update` in any sequence of
   invocations, the config's current_version, every configured occurrence in every file, the
   version `show` reports and - when tagging is on - the newest VCS tag all denote the same
   version, which is strictly greater than the previous one, so a further update is always
   possible. Each committing update adds exactly one commit containing only the configured
   files, and one tag on that commit."

  Model: Model/History.lean — the version state (config value, tags) under ANY sequence of
  invocations of ANY length (induction over the list of operations), built from C09's
  `startVersion` and C01's `gate`.  The file side is C03 (`C03_every_occurrence`: a successful
  rewrite puts the new version into every configured occurrence) and C06 (a failed one changes
  nothing); "one commit with only the configured files, one tag" is C10 (`C10_success_complete`,
  `C10_tag_push_gated`) on the plan model.  PARTIAL: real git (commits, tags, branches) is
  exercised by the check with real repositories, not modelled beyond the tag list; that a
  rendered occurrence is found again by its own pattern on the next run is C02
  (`C02_roundtrip_ast`).
-/
import BumpverVerif.Model.History
import BumpverVerif.Proofs.CliLemmas
import BumpverVerif.Proofs.HistoryLemmas
namespace BV

/-- a successful update announces a version that is valid for the pattern and strictly greater
    than the previous config value -/
theorem C08_step_greater (pat : Str) (today : Nat × Nat × Nat) (s : HState) (op : HOp)
    (hc : Consistent pat today s) (hok : (hstep pat today s op).2 = true) :
    pepLt s.cfg (hstep pat today s op).1.cfg = true ∧
    isValid (hstep pat today s op).1.cfg pat today = .ok true := by
  obtain ⟨new, -, hval, hlt, hst⟩ := hstep_ok_consistent hc hok
  rw [hst]
  exact ⟨hlt, hval⟩

/-- a failed invocation leaves the version state exactly as it was -/
theorem C08_step_fail (pat : Str) (today : Nat × Nat × Nat) (s : HState) (op : HOp)
    (hfail : (hstep pat today s op).2 = false) : (hstep pat today s op).1 = s :=
  hstep_fail hfail

/-- consistency is an invariant of every invocation, successful or not -/
theorem C08_step_consistent (pat : Str) (today : Nat × Nat × Nat) (s : HState) (op : HOp)
    (hc : Consistent pat today s) : Consistent pat today (hstep pat today s op).1 :=
  hstep_consistent hc

/-- … hence of every history, of any length -/
theorem C08_history_consistent (pat : Str) (today : Nat × Nat × Nat) (s : HState) (ops : List HOp)
    (hc : Consistent pat today s) : Consistent pat today (hrun pat today s ops) := by
  induction ops generalizing s with
  | nil => exact hc
  | cons op ops ih => exact ih _ (hstep_consistent hc)

/-- in a consistent project `show` (= the start version of the next update) reports the config
    value, up to PEP 440 equality of a tag with it — config, `show` and tags agree (the proof gives the
    config value itself: `startVersion_consistent`) -/
theorem C08_show_is_config (pat : Str) (today : Nat × Nat × Nat) (s : HState)
    (hc : Consistent pat today s) :
    ∃ v, startVersion .default pat s.cfg today s.tags = .ok v ∧ pepLe v s.cfg = true ∧ pepLe s.cfg v = true :=
  ⟨s.cfg, startVersion_consistent hc, pepLe_refl _, pepLe_refl _⟩

/-- when every successful update commits and tags, the newest tag denotes the config version (in this
    model it IS the config version: the proof always takes the first alternative) -/
theorem C08_newest_tag (pat : Str) (today : Nat × Nat × Nat) (s : HState) (op : HOp)
    (hc : Consistent pat today s) (hop : op.commit = true ∧ op.tag = true)
    (hok : (hstep pat today s op).2 = true) :
    latestOf (hstep pat today s op).1.tags = some (hstep pat today s op).1.cfg ∨
    ∃ t, latestOf (hstep pat today s op).1.tags = some t ∧
         pepLe t (hstep pat today s op).1.cfg = true ∧ pepLe (hstep pat today s op).1.cfg t = true := by
  obtain ⟨new, -, -, hlt, hst⟩ := hstep_ok_consistent hc hok
  left
  rw [hst, hop.1, hop.2]
  exact latestOf_cons_of_le new s.tags
    (fun u hu => pepLe_trans (hc.2 u hu).2 (pepLe_of_lt hlt))

/-- versions along a history never decrease (a successful step strictly increases: `C08_step_greater`) -/
theorem C08_history_monotone (pat : Str) (today : Nat × Nat × Nat) (s : HState) (ops : List HOp)
    (hc : Consistent pat today s) : pepLe s.cfg (hrun pat today s ops).cfg = true := by
  induction ops generalizing s with
  | nil => exact pepLe_refl _
  | cons op ops ih =>
    exact pepLe_trans (hstep_mono (op := op) hc) (ih _ (hstep_consistent hc))

/-- a further update is always possible: any candidate that is valid for the pattern and greater
    than the config value is accepted in a consistent project -/
theorem C08_next_possible (pat : Str) (today : Nat × Nat × Nat) (s : HState) (new : Str) (c t : Bool)
    (hc : Consistent pat today s)
    (hv : ∃ vi, parseVersionInfo new pat today = .ok vi) (hg : pepLt s.cfg new = true) :
    (hstep pat today s { candidate := some new, commit := c, tag := t }).2 = true := by
  obtain ⟨vi, hv⟩ := hv
  unfold hstep
  rw [startVersion_consistent hc]
  simp only
  rw [gate_accept_of hv hg]

end BV
