/-
  Props/C02Tie.lean — THE TIE between the pattern TREE (on which the round-trip and read-back theorems of
  C02 / C15 are stated: `Pat`, `Pat.compile`, `Pat.render`, Model/PatAst.lean) and bumpver's STRING SURGERY
  (`compileRe` = escape table, bracket loop, `_iter_part_patterns`, sort by (-end, -len), right-to-left
  substitution, `re.compile`; Model/V2Patterns.lean — the faithful model of the code), proved IN GENERAL
  under the decidable, local side condition `tokSafe` (Model/PatText.lean):

    compile_tie   : tokSafe p → compileRe (Pat.text p) = Pat.compile p
    tokenize_tie  : tokSafe p → tokenize (Pat.text p) = some p          (the tree is recoverable from the text)
    format_tie    : tokSafe p → Pat.vok v p → tagCoh v → formatVersion v (Pat.text p) = .ok (Pat.render v p)

  `tokSafe p` says (all on the pattern SOURCE text, nothing is "run"):
    * literal characters are not upper-case letters, backslash, `^`, `$`; every part is in both tables; no `[]`;
    * no part name BEGINS AT A LITERAL character (`0` + `MM…`: the code would see `0M`);
    * no part name begins inside a part token and RUNS PAST ITS END (`NUM`+`MM`: the code sees `MM` at index 2);
    * every field at most once (no `_N` group suffix);
    * a part name contained in a part of the pattern (TAG in PYTAG, YY in YYYY) has the same field, or its field does
      not occur in the pattern (PYTAG … TAG would name the real TAG group `tag_1`).
  That SOME side condition is necessary is shown by `tie_needs_condition` (kernel-evaluated).

  Proof: Proofs/TokTie_*.lean.  String level `compileStr_text` (escape loop pointwise; the `while True` bracket
  loop rewrites every bare bracket on EVERY string; all occurrences found by `_iter_part_patterns` lie inside
  tokens; the dict/sort keeps every token and the right-to-left loop skips everything else); parser level
  `parse_regexText` (fuel monotonicity and tail extension of the regex parser; each table regex parses — checked by
  kernel evaluation over the REGENERATED tables).
-/
import BumpverVerif.Proofs.TokTie_Parse
import BumpverVerif.Proofs.TokTie_Tokenize
import BumpverVerif.Proofs.TokTie_Format
import BumpverVerif.Props.C02
namespace BV

/-- STRING LEVEL: the regex SOURCE `_compile_pattern_re` builds from the text of a `tokSafe` tree is the structural
    concatenation escaped-literal / `(?:`…`)?` / `(?P<field>table-regex)` -/
theorem compileStr_tie (p : Pat) (h : tokSafe p = true) : compileStr (Pat.text p) = Pat.regexText p :=
  compileStr_text p h

/-- PARSER LEVEL: the structural regex source parses to the structurally compiled regex -/
theorem parse_tie (p : Pat) (h : p.shapeOk = true) : parseRe (Pat.regexText p) = Pat.compile p :=
  parse_regexText p h

theorem tokSafe_shapeOk (p : Pat) (h : tokSafe p = true) : p.shapeOk = true := by
  simp only [tokSafe, Bool.and_eq_true] at h
  exact h.1.1.1

/-- THE TIE: for every `tokSafe` tree, the code's string surgery on its source text compiles to EXACTLY the regex the
    tree compiles to -/
theorem compile_tie (p : Pat) (h : tokSafe p = true) : compileRe (Pat.text p) = Pat.compile p := by
  rw [compileRe, compileStr_tie p h, parse_tie p (tokSafe_shapeOk p h)]

/-- … and that regex exists -/
theorem compile_tie_some (p : Pat) (h : tokSafe p = true) : ∃ r, compileRe (Pat.text p) = some r ∧ Pat.compile p = some r := by
  have hs := compile_isSome p (tokSafe_shapeOk p h)
  cases hc : Pat.compile p with
  | none => rw [hc] at hs; cases hs
  | some r => exact ⟨r, by rw [compile_tie p h, hc], rfl⟩

/-- the tree is recoverable from its source text by the longest-match tokeniser -/
theorem tokenize_tie (p : Pat) (h : tokSafe p = true) : tokenize (Pat.text p) = some p :=
  tokenize_text p h

/-- the tie for pattern TEXT: a text that tokenises to a `tokSafe` tree whose source text it is -/
theorem compile_tie_text (s : Str) (p : Pat) (ht : tokenize s = some p) (hs : Pat.text p = s) (h : tokSafe p = true) :
    compileRe s = Pat.compile p := by
  have _ := ht
  rw [← hs]
  exact compile_tie p h

/-- ACCEPTED IN FULL, now about the CODE's regex: `re.match` of the regex `_compile_pattern_re` builds from the
    pattern text consumes all of the rendered text (C02_accepted_in_full composed with the tie) -/
theorem C02_accepted_in_full_str (p : Pat) (v : VInfo) (hs : tokSafe p = true)
    (hwf : Pat.wf p FSet.endOnly = true) (hv : Pat.vok v p = true) :
    ∃ r, compileRe (Pat.text p) = some r ∧
      reMatch r (Pat.render v p) =
        some { start := 0, stop := (Pat.render v p).length, caps := (Pat.caps v p).reverse } := by
  obtain ⟨r, h1, h2⟩ := compile_tie_some p hs
  exact ⟨r, h1, C02_accepted_in_full p v r hwf hv h2⟩

/-- THE ROUND TRIP, now about the CODE's regex (C02_roundtrip_ast composed with the tie) -/
theorem C02_roundtrip_str (p : Pat) (v : VInfo) (today : Nat × Nat × Nat) (hs : tokSafe p = true)
    (hwf : Pat.wfTop p = true) (hv : Pat.vok v p = true) (htc : tagCoh v = true) (hc : CalReadsBack p v today) :
    ∃ r v', compileRe (Pat.text p) = some r ∧ parseWithRe r (Pat.render v p) today = .ok v' ∧
      Pat.agree v v' p = true ∧ Pat.render v' p = Pat.render v p := by
  obtain ⟨r, h1, h2⟩ := compile_tie_some p hs
  obtain ⟨v', a, b, c⟩ := C02_roundtrip_ast p v r today hwf hv htc hc h2
  exact ⟨r, v', h1, a, b, c⟩

/-- THE RENDERING TIE: `format_version`'s string surgery (`_parse_segtree`, `_format_segment_tree`, and in
    `_format_segment` the `isInfix` test per part, the un-escaping, and the sequential `str.replace` of part names by
    values, longest name first) on the source text of a `tokSafe` tree renders exactly `Pat.render`, for every record
    in the domain of the rendered parts (`Pat.vok`) that is tag/pytag-coherent (`tagCoh`: needed because `TAG` is a
    substring of `PYTAG`, so a `[PYTAG…]` group is omitted only if the TAG value is zero too) -/
theorem format_tie (p : Pat) (v : VInfo) (hs : tokSafe p = true) (hv : Pat.vok v p = true) (htc : tagCoh v = true) :
    formatVersion v (Pat.text p) = .ok (Pat.render v p) :=
  formatVersion_text p v hs hv htc

/-- a pattern text without the `{version}` / `{pep440_version}` placeholders is its own normal form -/
theorem normalizePattern_self (raw : Str) (h1 : isInfix "{version}".toList raw = false)
    (h2 : isInfix "{pep440_version}".toList raw = false) : normalizePattern raw raw = raw := by
  unfold normalizePattern
  simp only [h1, h2, Bool.false_eq_true, if_false]

/-- `parse_version_info` with the pattern text of a `tokSafe` tree reads through the TREE's regex -/
theorem parseVersionInfo_tie (p : Pat) (s : Str) (today : Nat × Nat × Nat) (r : Re) (hs : tokSafe p = true)
    (h1 : isInfix "{version}".toList (Pat.text p) = false)
    (h2 : isInfix "{pep440_version}".toList (Pat.text p) = false) (hr : Pat.compile p = some r) :
    parseVersionInfo s (Pat.text p) today = parseWithRe r s today := by
  unfold parseVersionInfo
  rw [normalizePattern_self _ h1 h2, compile_tie p hs, hr]

/-- THE ROUND TRIP ON THE CODE'S OWN FUNCTIONS: what `format_version` renders from the pattern text,
    `parse_version_info` with the same pattern text accepts in full and reads back as a record that agrees on every
    part and renders to the same text (C02_roundtrip_ast composed with the three ties) -/
theorem C02_roundtrip_code (p : Pat) (v : VInfo) (today : Nat × Nat × Nat) (hs : tokSafe p = true)
    (h1 : isInfix "{version}".toList (Pat.text p) = false)
    (h2 : isInfix "{pep440_version}".toList (Pat.text p) = false)
    (hwf : Pat.wfTop p = true) (hv : Pat.vok v p = true) (htc : tagCoh v = true) (hc : CalReadsBack p v today) :
    ∃ s v', formatVersion v (Pat.text p) = .ok s ∧ parseVersionInfo s (Pat.text p) today = .ok v' ∧
      Pat.agree v v' p = true ∧ Pat.render v' p = s := by
  obtain ⟨r, -, hr⟩ := compile_tie_some p hs
  obtain ⟨v', a, b, c⟩ := C02_roundtrip_ast p v r today hwf hv htc hc hr
  exact ⟨Pat.render v p, v', format_tie p v hs hv htc,
    by rw [parseVersionInfo_tie p _ today r hs h1 h2 hr]; exact a, b, c⟩

theorem Re.beq_refl (r : Re) : Re.beq r r = true := by
  induction r with
  | seq a b iha ihb => simp only [Re.beq, iha, ihb, Bool.and_self]
  | alt a b iha ihb => simp only [Re.beq, iha, ihb, Bool.and_self]
  | rep r mn mx ih => simp only [Re.beq, ih, beq_self_eq_true, Bool.and_self]
  | grp n r ih => simp only [Re.beq, ih, beq_self_eq_true, Bool.and_self]
  | _ => simp only [Re.beq, beq_self_eq_true, Bool.and_self]

/-! ### non-vacuity -/

set_option maxRecDepth 100000 in
/-- the README's example patterns, tokenised once: each tree is `tokSafe` with the pattern as its source text,
    satisfies the hypotheses of the round-trip theorems, and compiles -/
theorem readme_trees :
    readmePatterns.all (fun s => match tokenize s.toList with
      | some p => (tokSafe p && (Pat.text p == s.toList)) && ((p.wfTop && p.calAnchored) && p.compile.isSome)
      | none => false) = true := by
  decide +kernel

theorem readme_tree (s : String) (hs : s ∈ readmePatterns) :
    ∃ p, tokenize s.toList = some p ∧ tokSafe p = true ∧ Pat.text p = s.toList ∧ p.wfTop = true ∧
      p.calAnchored = true ∧ p.compile.isSome = true := by
  have h := List.all_eq_true.mp readme_trees s hs
  cases ht : tokenize s.toList with
  | none => rw [ht] at h; cases h
  | some p =>
    rw [ht] at h
    simp only [Bool.and_eq_true, beq_iff_eq] at h
    exact ⟨p, rfl, h.1.1, h.1.2, h.2.1.1, h.2.1.2, h.2.2⟩

/-- every README example pattern tokenises to a `tokSafe` tree whose source text is the pattern: the tie covers all
    of them -/
theorem C02Tie_readme_tokSafe :
    readmePatterns.all (fun s => match tokenize s.toList with
      | some p => tokSafe p && (Pat.text p == s.toList)
      | none => false) = true := by
  rw [List.all_eq_true]
  intro s hs
  obtain ⟨p, ht, hsafe, htext, -⟩ := readme_tree s hs
  rw [ht]
  simp only [hsafe, htext, beq_self_eq_true, Bool.and_self]

/-- … hence for every README pattern the code's regex IS the tree's regex, by the general theorem -/
theorem C02Tie_readme (s : String) (hs : s ∈ readmePatterns) :
    ∃ p, tokenize s.toList = some p ∧ compileRe s.toList = Pat.compile p := by
  obtain ⟨p, ht, hsafe, htext, -⟩ := readme_tree s hs
  exact ⟨p, ht, compile_tie_text s.toList p ht htext hsafe⟩

/-- NON-VACUITY and scope: every README example pattern tokenises to a tree that satisfies the hypotheses
    of the round-trip theorems -/
theorem C02_readme_patterns_wf :
    readmePatterns.all (fun s => match tokenize s.toList with
      | some p => p.wfTop && p.calAnchored
      | none => false) = true := by
  rw [List.all_eq_true]
  intro s hs
  obtain ⟨p, ht, -, -, hwf, hcal, -⟩ := readme_tree s hs
  rw [ht]
  simp only [hwf, hcal, Bool.and_self]

/-- THE TIE between the tree and the string pipeline (the faithful model of the code) for the README's
    patterns: the tree compiles to EXACTLY the regex `_compile_pattern_re`'s string surgery produces
    (an instance of `compile_tie`; for every other generated pattern the driver op `ast_tie` checks this, and the
    equality of the two renderers, on every run) -/
theorem C02_readme_tree_tie :
    readmePatterns.all (fun s => match tokenize s.toList with
      | some p => (match p.compile, compileRe s.toList with
        | some a, some b => Re.beq a b
        | _, _ => false)
      | none => false) = true := by
  rw [List.all_eq_true]
  intro s hs
  obtain ⟨p, ht, hsafe, htext, -, -, hc⟩ := readme_tree s hs
  rw [ht, compile_tie_text s.toList p ht htext hsafe]
  obtain ⟨r, hr⟩ := Option.isSome_iff_exists.mp hc
  simp only [hr, Re.beq_refl]

/-- nested optional groups, adjacent parts (`YYYY0M`) and escaped brackets: `vYYYY0M\[.BUILD\][-TAG[NUM]]` -/
def tieExample : Pat :=
  .lit 'v' (.part "YYYY".toList (.part "0M".toList (.lit '[' (.lit '.' (.part "BUILD".toList (.lit ']'
    (.opt (.lit '-' (.part "TAG".toList (.opt (.part "NUM".toList .done) .done))) .done)))))))

set_option maxRecDepth 100000 in
example : tokSafe tieExample = true ∧ Pat.text tieExample = "vYYYY0M\\[.BUILD\\][-TAG[NUM]]".toList := by
  decide +kernel

/-- core adjacency use cases are inside `tokSafe` -/
example : ["YYYY0M", "MAJORMINOR", "PYTAGNUM", "YYYY0M0D", "INC0INC1", "GGGG0V"].all (fun s =>
    match tokenize s.toList with
    | some p => tokSafe p && (Pat.text p == s.toList)
    | none => false) = true := by
  decide +kernel

set_option maxRecDepth 100000 in
/-- the hypotheses of `format_tie` / `C02_roundtrip_code` are satisfiable: v2024.0013-beta under `vYYYY.BUILD[-TAG]` -/
example :
    let v : VInfo := { cal := (calInfo 2024 3 9).toOpt, major := 0, minor := 0, patch := 0, bid := "0013".toList,
                       tag := "beta".toList, pytag := "b".toList, num := 0, inc0 := 0, inc1 := 1 }
    (match tokenize "vYYYY.BUILD[-TAG]".toList with
     | some p => tokSafe p && (Pat.text p == "vYYYY.BUILD[-TAG]".toList) && p.wfTop && p.vok v && tagCoh v &&
                 !isInfix "{version}".toList (Pat.text p) && !isInfix "{pep440_version}".toList (Pat.text p) &&
                 (p.render v == "v2024.0013-beta".toList)
     | none => false) = true := by
  decide +kernel

/-! ### a side condition is necessary -/

/-- the tree NUM · MM has source text `NUMMM`; the code's scan for `MM` finds it at index 2 (across the token
    boundary), so its regex source is `NU(?P<month>…)M` — not the tree's regex.  `tokSafe` rejects the tree. -/
def tieCounterexample : Pat := .part "NUM".toList (.part "MM".toList .done)

set_option maxRecDepth 100000 in
theorem tie_needs_condition :
    tokSafe tieCounterexample = false ∧ Pat.text tieCounterexample = "NUMMM".toList ∧
    compileStr (Pat.text tieCounterexample) = "NU(?P<month>1[0-2]|[1-9])M".toList ∧
    (match compileRe (Pat.text tieCounterexample), Pat.compile tieCounterexample with
      | some a, some b => Re.beq a b
      | _, _ => false) = false := by
  decide +kernel

end BV
