/-
  Props/C01.lean — property C01: a successful bump yields a valid, strictly greater version.

  "Whenever `bumpver test` or `bumpver update` (dry or real, automatic increment or
   --set-version) exits 0, the version it announces matches the configured version pattern in
   full and is strictly greater, under PEP 440 ordering, than the version it started from (the
   config value or the newest VCS tag, per tag scope). In every other case it exits non-zero
   and no project file is changed."

  Model: Model/Cli.lean (`gate`, `cliTest`, `cliUpdateVersion`), Model/V2Version.lean
  (`parseVersionInfo`: the first match must consume the whole string), C16's order,
  Model/Plan.lean for "no project file is changed".  For ALL patterns, versions, flag sets,
  dates and --set-version targets (the theorem does not care how the candidate was produced).
-/
import BumpverVerif.Model.Cli
import BumpverVerif.Model.Plan
import BumpverVerif.Props.C10
import BumpverVerif.Proofs.CliLemmas
namespace BV

/-- "matches the pattern in full": the compiled regex's first match consumes the whole string -/
def FullMatch (pat s : Str) : Prop :=
  ∃ r m, compileRe (normalizePattern pat pat) = some r ∧ reMatch r s = some m ∧ m.stop = s.length

theorem C01_parse_is_full_match (s pat : Str) (today : Nat × Nat × Nat) (v : VInfo)
    (h : parseVersionInfo s pat today = .ok v) : FullMatch pat s := by
  unfold parseVersionInfo at h
  generalize hc : compileRe (normalizePattern pat pat) = oc at h
  cases oc with
  | none => cases h
  | some r =>
    simp only [parseWithRe] at h
    generalize hm : reMatch r s = om at h
    cases om with
    | none => cases h
    | some m =>
      simp only at h
      split at h
      · cases h
      · rename_i hlt
        have hstop : m.stop ≤ s.length := by
          unfold reMatch at hm
          split at hm
          · injection hm with hm
            subst hm
            exact Nat.sub_le _ _
          · cases hm
        exact ⟨r, m, hc, hm, by omega⟩

/-- THE GATE: acceptance means full match and strictly greater -/
theorem C01_gate_sound (pat old new : Str) (unique : Bool) (tags : List Str) (today : Nat × Nat × Nat)
    (h : gate pat old new unique tags today = .ok .accept) :
    FullMatch pat new ∧ pepLt old new = true := by
  obtain ⟨⟨v, hv⟩, hle, -⟩ := gate_accept h
  exact ⟨C01_parse_is_full_match new pat today v hv, pepLt_of_not_le hle⟩

/-- a candidate that is not strictly greater is never accepted — including PEP 440-equal but
    textually different ones (1.2 vs 1.2.0), equal ones and tag downgrades -/
theorem C01_not_greater_rejected (pat old new : Str) (unique : Bool) (tags : List Str)
    (today : Nat × Nat × Nat) (h : pepLe new old = true) :
    gate pat old new unique tags today ≠ .ok .accept := by
  intro hacc
  have hle := (gate_accept hacc).2.1
  rw [h] at hle
  cases hle

/-- `bumpver test`: an announced version matches in full, is strictly greater than the version
    given, and the PEP 440 line is its canonical form -/
theorem C01_test_sound (old pat : Str) (fl : IncrFlags) (dg : Bool) (date today : Nat × Nat × Nat)
    (sv : Option Str) (new pep : Str)
    (h : cliTest old pat fl dg date today sv = .announce new pep) :
    FullMatch pat new ∧ pepLt old new = true ∧ pep = verStr (parseVersion new) := by
  obtain ⟨hgate, hpep⟩ := cliTest_announce h
  obtain ⟨hfull, hlt⟩ := C01_gate_sound pat old new false [] today hgate
  exact ⟨hfull, hlt, hpep⟩

/-- `bumpver update`: an announced version matches in full and is strictly greater than the start
    version, which is the config value or the newest matching tag per scope (C09) -/
theorem C01_update_sound (scope : TagScope) (ign : Bool) (pat cfgv : Str) (fl : IncrFlags) (dg : Bool)
    (date today : Nat × Nat × Nat) (sv : Option Str) (scopeTags globalTags : List Str)
    (new pep start : Str)
    (h : cliUpdateVersion scope ign pat cfgv fl dg date today sv scopeTags globalTags = (.announce new pep, start)) :
    FullMatch pat new ∧ pepLt start new = true ∧
    (if ign then start = cfgv else startVersion scope pat cfgv today scopeTags = .ok start) := by
  obtain ⟨hstart, hgate⟩ := cliUpdateVersion_announce h
  obtain ⟨hfull, hlt⟩ := C01_gate_sound pat start new _ globalTags today hgate
  refine ⟨hfull, hlt, ?_⟩
  cases ign
  · simpa using hstart
  · simp only [if_true, Except.ok.injEq] at hstart
    simp [hstart]

/-- in every other case the exit code is non-zero (the outcome type has no other success) … -/
theorem C01_otherwise_nonzero (o : CliOutcome) (h : ∀ n p, o ≠ .announce n p) :
    o = .exit1 ∨ ∃ e, o = .crash e := by
  cases o with
  | announce n p => exact absurd rfl (h n p)
  | exit1 => exact .inl rfl
  | crash e => exact .inr ⟨e, rfl⟩

/-- … and no project file is changed: without an accepted version the update never reaches the
    rewrite step, runs no hook and no mutating VCS command (Model/Plan.lean) -/
theorem C01_rejected_no_rewrite (c : PlanCfg) (a : PlanCli) (e : PlanEnv) (hg : e.gateOk = false) :
    (plan c a e).2 = 1 ∧ ∀ ev ∈ (plan c a e).1, ev ≠ .rewrite ∧ ev.mutating = false ∧ ev.isHook = false := by
  obtain ⟨hcode, hall⟩ := plan_gate_rejected c a e hg
  refine ⟨hcode, fun ev hev => ?_⟩
  rcases hall ev hev with rfl | rfl | rfl | ⟨-, rfl | rfl | rfl⟩ <;>
    simp [Ev.mutating, Ev.isHook]

end BV
