/-
  Props/C17.lean — property C17: BUILD numbers grow numerically and lexically forever.

  "Across any number of successive bumps from any starting BUILD value, each new
   BUILD is greater than the previous one as an integer and - from the first
   bumpver-generated value on, or at once if the start has four or more digits -
   also as a plain string; leading zeros are never lost. This holds up to the
   scheme's documented maximum (all digits 9)."

  Model: `BV.bumpBid` (Model/LexId.lean) = the BUILD step of `_incr_numeric`
  (`int(bid) < 1000 → str(int(bid)+1000)`, then `lexid.next_id`).
  The property theorems and `bumpN_chain` (induction along a chain of bumps, once); the digit-string lemmas are in
  Proofs/Digits.lean.
-/
import BumpverVerif.Model.LexId
import BumpverVerif.Model.V2Version
import BumpverVerif.Proofs.Digits
namespace BV

/-- `n` successive bumps; `none` as soon as the documented maximum is hit. -/
def bumpN : Nat → Str → Option Str
  | 0, b => some b
  | n + 1, b => (bumpBid b).bind (bumpN n)

/-- a bumpver-generated value -/
def Generated (b : Str) : Prop := ∃ c, isDigitStr c = true ∧ bumpBid c = some b

/-- the result of a bump is again a BUILD value (so chains are well-defined) -/
theorem C17_closed (b b' : Str) (hb : isDigitStr b = true) (h : bumpBid b = some b') :
    isDigitStr b' = true := by
  unfold bumpBid at h
  exact (nextId_spec _ _ (isDigitStr_padBid b hb) h).1

/-- each new BUILD is greater as an integer -/
theorem C17_int_strict (b b' : Str) (hb : isDigitStr b = true) (h : bumpBid b = some b') :
    strToNat b < strToNat b' := by
  unfold bumpBid at h
  have hp := strToNat_padBid_ge b
  rcases (nextId_spec _ _ (isDigitStr_padBid b hb) h).2 with ⟨_, _, hv⟩ | ⟨d, _, _, _, _, hv⟩
  · omega
  · omega

/-- … and as a plain string, at once if the start has ≥ 4 digits, or from the first generated value on -/
theorem C17_lex_strict (b b' : Str) (hb : isDigitStr b = true)
    (hlen : 4 ≤ b.length ∨ Generated b) (h : bumpBid b = some b') :
    strLt b b' = true := by
  have hcase : 1000 ≤ strToNat b ∨ (strToNat b < 1000 ∧ 4 ≤ b.length) := by
    rcases hlen with hl | ⟨c, hc, hcb⟩
    · omega
    · left
      unfold bumpBid at hcb
      have hp := (strToNat_padBid_ge c).2
      rcases (nextId_spec _ _ (isDigitStr_padBid c hc) hcb).2 with
        ⟨_, _, hv⟩ | ⟨d, _, _, _, _, hv⟩
      · omega
      · omega
  have hbd := (isDigitStr_iff b).mp hb
  unfold bumpBid at h
  -- `nextId_spec`: either same first digit, same length, value + 1 (compare as numbers of equal width), or the id
  -- grows by a digit and its first digit by one (compare the first characters)
  obtain ⟨hb'd, hspec⟩ := nextId_spec _ _ (isDigitStr_padBid b hb) h
  have hb'd := (isDigitStr_iff b').mp hb'd
  rcases hcase with hge | ⟨hlt, hl4⟩
  · rw [padBid_of_ge b hge] at hspec
    rcases hspec with ⟨_, hlen', hv⟩ | ⟨d, hd, hph, hb'h, _, _⟩
    · exact (strLt_iff_of_length_eq b b' hbd.2 hb'd.2 hlen'.symm).mpr (by omega)
    · cases b with
      | nil => cases hph
      | cons c t =>
        cases b' with
        | nil => cases hb'h
        | cons x xs =>
          simp only [List.head?_cons, Option.some.injEq] at hph hb'h
          subst hph hb'h
          exact strLt_of_head_lt _ _ _ _ (digitChar_lt d (d + 1) (by omega) (by omega))
  · obtain ⟨t, hpt, _⟩ := padBid_lt_shape b hlt
    rw [hpt] at hspec
    cases b with
    | nil => simp at hl4
    | cons c u =>
      rw [allDigits_cons] at hbd
      simp only [List.length_cons] at hl4
      have hc0 := head_zero_of_lt_1000 c u hbd.2.1 (by omega) hlt
      subst hc0
      cases b' with
      | nil => exact absurd rfl hb'd.1
      | cons x xs =>
        rcases hspec with ⟨hhead, _, _⟩ | ⟨d, hd, _, hb'h, _, _⟩
        · simp only [List.head?_cons, Option.some.injEq] at hhead
          subst hhead
          exact strLt_of_head_lt _ _ _ _ (by decide)
        · simp only [List.head?_cons, Option.some.injEq] at hb'h
          subst hb'h
          exact strLt_of_head_lt _ _ _ _ (digitChar_lt 0 (d + 1) (by omega) (by omega))

/-- at or above 1000 the width never shrinks, and while the leading digit is unchanged it
    stays the same: leading zeros are kept (BUILD is carried as a string, never through `int`) -/
theorem C17_width (b b' : Str) (hb : isDigitStr b = true) (h1000 : 1000 ≤ strToNat b)
    (h : bumpBid b = some b') :
    b.length ≤ b'.length ∧ (b.head? = b'.head? → b'.length = b.length) := by
  unfold bumpBid at h
  rw [padBid_of_ge b h1000] at h
  rcases (nextId_spec b b' hb h).2 with ⟨_, hl, _⟩ | ⟨d, hd, hph, hb'h, hl, _⟩
  · exact ⟨by omega, fun _ => hl⟩
  · refine ⟨by omega, fun hh => ?_⟩
    rw [hph, hb'h] at hh
    have hlt := digitChar_lt d (d + 1) (by omega) (by omega)
    rw [Option.some.inj hh] at hlt
    exact absurd hlt (Char.lt_irrefl _)

/-- Known finding F-C17-pad: below 1000 the padding rule goes through `int`, so an id of five or
    more digits whose value is below 1000 loses its leading zeros (the result is still greater
    as an integer and as a string). Witness, replayed on the implementation by the check. -/
theorem C17_pad_drops_zeros_witness : bumpBid "00012".toList = some "1013".toList := by decide

/-- the only way a bump fails is the documented maximum: all digits 9 (after padding) -/
theorem C17_max_only (b : Str) (hb : isDigitStr b = true) :
    bumpBid b = none ↔ (padBid b).all (· == '9') = true := by
  -- holds for every string; `hb` is not needed
  have _ := hb
  unfold bumpBid
  exact nextId_none_iff _

theorem bumpN_chain (P : Str → Prop) (R : Str → Str → Prop) (htr : ∀ a b c, R a b → R b c → R a c)
    (hstep : ∀ b b1, P b → bumpBid b = some b1 → P b1 ∧ R b b1) :
    ∀ (n : Nat) (b bn : Str), P b → bumpN (n + 1) b = some bn → P bn ∧ R b bn := by
  intro n
  induction n with
  | zero =>
    intro b bn hb h
    obtain ⟨b1, hb1, h⟩ := Option.bind_eq_some_iff.mp h
    cases h
    exact hstep b bn hb hb1
  | succ n ih =>
    intro b bn hb h
    obtain ⟨b1, hb1, h⟩ := Option.bind_eq_some_iff.mp h
    obtain ⟨hp1, hr1⟩ := hstep b b1 hb hb1
    obtain ⟨hpn, hrn⟩ := ih b1 bn hp1 h
    exact ⟨hpn, htr _ _ _ hr1 hrn⟩

/-- chains of any length: strictly increasing as integers … -/
theorem C17_chain_int (n : Nat) (b bn : Str) (hb : isDigitStr b = true) (hn : 0 < n)
    (h : bumpN n b = some bn) : strToNat b < strToNat bn := by
  obtain ⟨m, rfl⟩ : ∃ m, n = m + 1 := ⟨n - 1, by omega⟩
  exact (bumpN_chain (isDigitStr · = true) (fun a c => strToNat a < strToNat c) (fun _ _ _ => Nat.lt_trans)
    (fun b b1 hb h => ⟨C17_closed b b1 hb h, C17_int_strict b b1 hb h⟩) m b bn hb h).2

/-- … and as plain strings between any two later points of the chain -/
theorem C17_chain_lex (i j : Nat) (b x y : Str) (hb : isDigitStr b = true)
    (hi : 0 < i ∨ 4 ≤ b.length) (hj : 0 < j)
    (hx : bumpN i b = some x) (hy : bumpN j x = some y) : strLt x y = true := by
  have hx' : isDigitStr x = true ∧ (4 ≤ x.length ∨ Generated x) := by
    cases i with
    | zero => cases hx; exact ⟨hb, .inl (by omega)⟩
    | succ k =>
      have := bumpN_chain (isDigitStr · = true) (fun _ c => Generated c) (fun _ _ _ _ h => h)
        (fun b b1 hb h => ⟨C17_closed b b1 hb h, b, hb, h⟩) k b x hb hx
      exact ⟨this.1, .inr this.2⟩
  obtain ⟨m, rfl⟩ : ∃ m, j = m + 1 := ⟨j - 1, by omega⟩
  exact (bumpN_chain (fun x => isDigitStr x = true ∧ (4 ≤ x.length ∨ Generated x)) (fun a c => strLt a c = true)
    strLt_trans (fun b b1 hb h => ⟨⟨C17_closed b b1 hb.1 h, .inr ⟨b, hb.1, h⟩⟩, C17_lex_strict b b1 hb.1 hb.2 h⟩)
    m x y hx' hy).2

/-- BUILD is carried and rendered as a STRING: the regenerated renderer table formats the BUILD
    part with `str(v)` (not through `int`), so every BUILD value — leading zeros included — is
    rendered verbatim; only BLD strips zeros.  (A table edit that routes BUILD through `int`
    breaks this obligation.) -/
theorem C17_render_verbatim (b : Str) :
    lookup "BUILD".toList Gen.partFormats = some .str ∧ fmtValue .str (.str b) = b ∧
    lookup "BUILD".toList Gen.partFields = some "bid".toList := by
  refine ⟨by decide, rfl, by decide⟩

/-! non-vacuity: concrete instances meeting the hypotheses, incl. a 999→11000-style jump -/
example : bumpBid "0999".toList = some "22000".toList := by decide
example : bumpBid "7".toList = some "1008".toList := by decide
example : bumpBid "19999".toList = some "220000".toList := by decide
example : bumpN 3 "0998".toList = some "22001".toList := by decide
example : bumpBid "9999".toList = none := by decide

end BV
