/-
  Props/VcsTable.lean — the argument-free VCS command templates (regenerated from `vcs.VCS_SUBCOMMANDS_BY_NAME` on every run)
  are EXACTLY the commands the properties rely on.  What these commands list decides C09 (which tags are seen), C10 (fetch / probes) and
  C11 (what counts as dirty: `--porcelain --untracked-files=all`, no `--ignore-submodules`, no pathspec); the fake git of the harness and the
  status model answer exactly these command lines.  An edited option therefore breaks this obligation by name; whether the property still
  holds is then for the search on the implementation (real git scenarios) to find out.
-/
import BumpverVerif.Gen.VcsTemplates
import BumpverVerif.Proofs.VcsLemmas
namespace BV

def vcsTemplate (vcs cmd : String) : Option Str :=
  (lookup vcs.toList Gen.vcsTemplates).bind (lookup cmd.toList)

theorem vcsTemplates_nodup :
    (Gen.vcsTemplates.map Prod.fst).Nodup ∧ ∀ vc ∈ Gen.vcsTemplates, (vc.2.map Prod.fst).Nodup := by
  decide +kernel

/-- by position (VCS `i`, command `j`): `hi` and `hj` hold by `rfl` without any string being evaluated; the names are
    compared once, in `vcsTemplates_nodup` -/
theorem vcsTemplate_entry {vcs cmd : String} {tbl : List (Str × Str)} {tmpl : Str} (i j : Nat)
    (hi : Gen.vcsTemplates[i]? = some (vcs.toList, tbl)) (hj : tbl[j]? = some (cmd.toList, tmpl)) :
    vcsTemplate vcs cmd = some tmpl := by
  have hn := vcsTemplates_nodup.2 _ (List.mem_of_getElem? hi)
  rw [vcsTemplate, lookup_getElem vcsTemplates_nodup.1 hi, Option.bind_some, lookup_getElem hn hj]

/-- C11: the dirty check asks git for the porcelain listing with every untracked file listed individually and hides nothing
    (no `--ignore-submodules`, no `--ignored`, no pathspec); hg for modified/added/removed/deleted/unknown files -/
theorem C11_status_templates :
    vcsTemplate "git" "status" = some "git status --porcelain --untracked-files=all".toList ∧
    vcsTemplate "hg" "status" = some "hg status -umard".toList :=
  ⟨vcsTemplate_entry 0 4 rfl rfl, vcsTemplate_entry 1 4 rfl rfl⟩

/-- C09: the tag listings are all tags / the tags merged into HEAD -/
theorem C09_tag_listing_templates :
    vcsTemplate "git" "ls_tags" = some "git tag --list".toList ∧
    vcsTemplate "git" "ls_tags_branch" = some "git tag --list --merged".toList ∧
    vcsTemplate "hg" "ls_tags" = some "hg tags".toList :=
  ⟨vcsTemplate_entry 0 2 rfl rfl, vcsTemplate_entry 0 3 rfl rfl, vcsTemplate_entry 1 2 rfl rfl⟩

/-- C10: fetch, the usability probe and the remote probes -/
theorem C10_probe_templates :
    vcsTemplate "git" "fetch" = some "git fetch".toList ∧
    vcsTemplate "git" "is_usable" = some "git rev-parse --git-dir".toList ∧
    vcsTemplate "git" "show_remotes" = some "git config --get remote.origin.url".toList ∧
    vcsTemplate "git" "ls_branches" = some "git branch -vv".toList ∧
    vcsTemplate "hg" "fetch" = some "hg pull".toList ∧
    vcsTemplate "hg" "is_usable" = some "hg root".toList ∧
    vcsTemplate "hg" "show_remotes" = some "hg paths".toList :=
  ⟨vcsTemplate_entry 0 1 rfl rfl, vcsTemplate_entry 0 0 rfl rfl, vcsTemplate_entry 0 11 rfl rfl,
    vcsTemplate_entry 0 12 rfl rfl, vcsTemplate_entry 1 1 rfl rfl, vcsTemplate_entry 1 0 rfl rfl,
    vcsTemplate_entry 1 11 rfl rfl⟩

end BV
