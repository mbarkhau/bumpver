/-
  Props/V1Rewrite.lean — properties C03, C04, C06, C13 for the LEGACY rewrite path (v1rewrite.py; the
  properties name it next to v2rewrite.py: "v1rewrite L82-85, L151-152").

  Model: Model/V1Rewrite.lean.  v1rewrite.py and v2rewrite.py have the same shape and differ in how a match's
  replacement is rendered and which compiler made the regexes; the model is therefore ONE engine
  `RwEngine V`, parametric in the version record, the renderer and the regex of a pattern, and the property
  theorems of C03, C04, C06 are proved for EVERY engine in Props/RewriteEngine.lean.  Here are the instances
  for the legacy engine (`v1Engine`: `v1FormatVersion`, `v1CompileRe`) and the theorems about the legacy dry
  path (`v1rewrite.diff`, which differs from v2's).
-/
import BumpverVerif.Props.RewriteEngine
import BumpverVerif.Proofs.V1RewriteLemmas
import BumpverVerif.Props.C03
namespace BV

/-- the text a match is replaced with by the legacy engine: `v1version.format_version(new_vinfo, raw_pattern)` -/
def v1ReplOf (v : V1Info) (m : PMatch) : Str := v1Engine.replOf v m

theorem v1ReplOf_eq (v : V1Info) (m : PMatch) (s : Str) (h : v1FormatVersion v m.pat.raw = .ok s) :
    v1ReplOf v m = s := by
  have : v1Engine.render v m.pat = .ok s := (v1Render_ok v m.pat s).2 h
  simp only [v1ReplOf, RwEngine.replOf, this]

def v1ShiftedStart (v : V1Info) (ms : List PMatch) (m : PMatch) : Int := v1Engine.shiftedStart v ms m

/-- C03, legacy: the surviving matches never overlap or touch -/
theorem V1_C03_matches_disjoint (lines : List Str) (pats : List CPat) (ms : List PMatch)
    (h : v1IterMatches lines pats = some ms) :
    ms.Pairwise (fun a b => a.lineno ≠ b.lineno ∨ a.stop < b.start ∨ b.stop < a.start) :=
  v1Engine.C03_matches_disjoint lines pats ms h

theorem V1_C03_matches_in_bounds (lines : List Str) (pats : List CPat) (ms : List PMatch)
    (h : v1IterMatches lines pats = some ms) :
    ∀ m ∈ ms, ∃ line, lines[m.lineno]? = some line ∧ m.start < m.stop ∧ m.stop ≤ line.length :=
  v1Engine.C03_matches_in_bounds lines pats ms h

theorem V1_C03_all_patterns_found (pats : List CPat) (v : V1Info) (old new : List Str) (ms : List PMatch)
    (hm : v1IterMatches old pats = some ms) (h : v1RewriteLines pats v old = .ok new) :
    ∀ p ∈ pats, ∃ m ∈ ms, m.pat = p :=
  v1Engine.C03_all_patterns_found pats v old new ms hm h

/-- C03, legacy: EVERY OCCURRENCE IS REPLACED, also several on one line — after a successful
    `v1rewrite.rewrite_lines` each surviving match shows `v1version.format_version(new_vinfo, raw_pattern)`
    of its own pattern at its (shifted) position in the new line -/
theorem V1_C03_every_occurrence (pats : List CPat) (v : V1Info) (old new : List Str) (ms : List PMatch)
    (hm : v1IterMatches old pats = some ms) (h : v1RewriteLines pats v old = .ok new)
    (m : PMatch) (hmem : m ∈ ms) :
    v1FormatVersion v m.pat.raw = .ok (v1ReplOf v m) ∧
    ∃ newLine, new[m.lineno]? = some newLine ∧
      (newLine.drop (v1ShiftedStart v ms m).toNat).take (v1ReplOf v m).length = v1ReplOf v m := by
  obtain ⟨h1, h2⟩ := v1Engine.C03_every_occurrence pats v old new ms hm h m hmem
  exact ⟨(v1Render_ok v m.pat _).1 h1, h2⟩

/-- `{version}` in a legacy file pattern denotes the version pattern itself (`_normalized_pattern`) -/
theorem V1_C03_version_placeholder (vp : Str) :
    (v1CPat vp "{version}".toList).raw =
      (match lookup vp Gen.v1Pep440VersionMap with
       | some rep => replaceAll "{pep440_version}".toList rep vp
       | none => vp) := by
  unfold v1CPat v1NormalizedPattern
  simp only []
  rw [replaceAll_self _ _ (by decide)]
  cases lookup vp Gen.v1Pep440VersionMap <;> rfl

/-- C04, legacy -/
theorem V1_C04_line_count (pats : List CPat) (v : V1Info) (old new : List Str)
    (h : v1RewriteLines pats v old = .ok new) : new.length = old.length :=
  v1Engine.C04_line_count pats v old new h

theorem V1_C04_unmatched_lines (pats : List CPat) (v : V1Info) (old new : List Str) (ms : List PMatch)
    (hm : v1IterMatches old pats = some ms) (h : v1RewriteLines pats v old = .ok new)
    (i : Nat) (hi : ∀ m ∈ ms, m.lineno ≠ i) : new[i]? = old[i]? :=
  v1Engine.C04_unmatched_lines pats v old new ms hm h i hi

/-- C04, legacy: ONLY THE SPAN CHANGES on a line with one match -/
theorem V1_C04_single_span (pats : List CPat) (v : V1Info) (old new : List Str) (ms : List PMatch)
    (hm : v1IterMatches old pats = some ms) (h : v1RewriteLines pats v old = .ok new)
    (m : PMatch) (hmem : m ∈ ms) (honly : ∀ m' ∈ ms, m'.lineno = m.lineno → m' = m)
    (line : Str) (hl : old[m.lineno]? = some line) :
    ∃ repl, v1FormatVersion v m.pat.raw = .ok repl ∧
      new[m.lineno]? = some (line.take m.start ++ repl ++ line.drop m.stop) := by
  obtain ⟨repl, h1, h2⟩ := v1Engine.C04_single_span pats v old new ms hm h m hmem honly line hl
  exact ⟨repl, (v1Render_ok v m.pat _).1 h1, h2⟩

/-- C04, legacy: on any line only the spans of that line's matches change -/
theorem V1_C04_only_spans (pats : List CPat) (v : V1Info) (old new : List Str) (ms : List PMatch)
    (hm : v1IterMatches old pats = some ms) (h : v1RewriteLines pats v old = .ok new) (i : Nat) :
    new[i]? = (old[i]?).map (spliceLineG (v1ReplOf v) (lineMatches ms i)) ∧
    (lineMatches ms i).Pairwise (fun a b => b.stop < a.start) :=
  v1Engine.C04_only_spans pats v old new ms hm h i

/-- C04, legacy: join ∘ split — a file without a match to replace is written back byte for byte -/
theorem V1_C04_content_identity (pats : List CPat) (v : V1Info) (s s' : Str)
    (hm : v1IterMatches (splitOn (detectLineSep s) s) pats = some [])
    (h : v1RewriteContent pats v s = .ok s') : s' = s :=
  v1Engine.C04_content_identity pats v s s' hm h

theorem V1_C04_content_lines (pats : List CPat) (v : V1Info) (s s' : Str) (h : v1RewriteContent pats v s = .ok s') :
    ∃ newLines, v1RewriteLines pats v (splitOn (detectLineSep s) s) = .ok newLines ∧
      s' = join (detectLineSep s) newLines ∧ newLines.length = (splitOn (detectLineSep s) s).length :=
  v1Engine.C04_content_lines pats v s s' h

theorem V1_C04_other_files (fs : FS) (fps : List (Str × List CPat)) (v : V1Info) (p : Str)
    (hp : ∀ fp ∈ fps, fp.1 ≠ p) : lookup p (v1RewriteFiles fs fps v).1 = lookup p fs :=
  v1Engine.C04_other_files fs fps v p hp

/-- C06, legacy: ALL OR NOTHING -/
theorem V1_C06_all_or_nothing (fs : FS) (fps : List (Str × List CPat)) (v : V1Info) (e : RwErr)
    (h : (v1RewriteFiles fs fps v).2 = .error e) : (v1RewriteFiles fs fps v).1 = fs :=
  v1Engine.C06_all_or_nothing fs fps v e h

theorem V1_C06_error_iff (fs : FS) (fps : List (Str × List CPat)) (v : V1Info) :
    (∃ e, (v1RewriteFiles fs fps v).2 = .error e) ↔
      ∃ fp ∈ fps, lookup fp.1 fs = none ∨ ∃ c e, lookup fp.1 fs = some c ∧ v1RewriteContent fp.2 v c = .error e :=
  v1Engine.C06_error_iff fs fps v

theorem V1_C06_success_writes (fs : FS) (fps : List (Str × List CPat)) (v : V1Info)
    (h : (v1RewriteFiles fs fps v).2 = .ok ()) :
    ∀ fp ∈ fps, ∃ c, lookup fp.1 fs = some c ∧ ∃ c', v1RewriteContent fp.2 v c = .ok c' :=
  v1Engine.C06_success_writes fs fps v h

theorem V1_C06_missing_pattern_fails (pats : List CPat) (v : V1Info) (lines : List Str) (ms : List PMatch)
    (hm : v1IterMatches lines pats = some ms) (p : CPat) (hp : p ∈ pats) (hno : ∀ m ∈ ms, m.pat ≠ p) :
    ∃ e, v1RewriteLines pats v lines = .error e :=
  v1Engine.C06_missing_pattern_fails pats v lines ms hm p hp hno

/-- C06, legacy: an exception of `format_version` for ONE match (KeyError for `{foo}`, TypeError for a
    calendar part of a record without a date) fails the file; together with `V1_C06_all_or_nothing`
    nothing is written -/
theorem V1_C06_render_crash_fails (pats : List CPat) (v : V1Info) (lines : List Str) (ms : List PMatch)
    (hm : v1IterMatches lines pats = some ms) (m : PMatch) (hmem : m ∈ ms) (e : V1Err)
    (hr : v1FormatVersion v m.pat.raw = .error e) : ∃ e', v1RewriteLines pats v lines = .error e' := by
  refine v1Engine.C06_render_crash_fails pats v lines ms hm m hmem (v1ErrToPErr e) ?_
  show v1Render v m.pat = _
  simp only [v1Render, hr]

/-- C13, legacy: the diff path and the write path compute the SAME new lines for a file -/
theorem V1_C13_same_new_lines (fs : FS) (old new : V1Info) (path : Str) (pats : List CPat)
    (ol nl : List Str) (h : v1DiffFile fs old new path pats = .ok (ol, nl)) :
    ∃ content, lookup path fs = some content ∧ ol = splitOn (detectLineSep content) content ∧
      v1RewriteContent pats new content = .ok (join (detectLineSep content) nl) :=
  v1DiffFile_rewriteContent h

/-- C13, legacy: a dry run that reports no error ⇒ the real run's rewrite phase succeeds too -/
theorem V1_C13_dry_ok_real_ok (fs : FS) (old new : V1Info) (fps : List (Str × List CPat))
    (rs : List (Str × List Str × List Str)) (h : v1DiffFiles fs old new fps = .ok rs) :
    (v1RewriteFiles fs fps new).2 = .ok () := by
  obtain ⟨ws, hws, -⟩ := v1PlanWrites_of_diffFiles fs old new fps rs h
  unfold v1RewriteFiles RwEngine.rewriteFiles
  unfold v1PlanWrites at hws
  simp only [hws]

/-- … also for `v1rewrite.diff` as it is (existence of all files first, files in the order of their
    paths): the real run, which takes them in configuration order, succeeds -/
theorem V1_C13_dry_ok_real_ok_sorted (fs : FS) (old new : V1Info) (fps : List (Str × List CPat))
    (rs : List (Str × List Str × List Str)) (h : v1DiffAll fs old new fps = .ok rs) :
    (v1RewriteFiles fs fps new).2 = .ok () := by
  unfold v1DiffAll at h
  split at h
  · have := V1_C13_dry_ok_real_ok fs old new _ rs h
    exact v1Engine.rewriteFiles_ok_of_mem fs new _ fps (fun x hx => (mem_sortByPath fps x).2 hx) this
  · cases h

/-- … and the real run writes, for every configured file, exactly the new lines the dry run diffed -/
theorem V1_C13_dry_shows_real (fs : FS) (old new : V1Info) (fps : List (Str × List CPat))
    (hnd : (fps.map (·.1)).Nodup)
    (rs : List (Str × List Str × List Str)) (h : v1DiffFiles fs old new fps = .ok rs) :
    ∀ r ∈ rs, ∃ content, lookup r.1 fs = some content ∧
      lookup r.1 (v1RewriteFiles fs fps new).1 = some (join (detectLineSep content) r.2.2) := by
  obtain ⟨ws, hws, hall⟩ := v1PlanWrites_of_diffFiles fs old new fps rs h
  unfold v1PlanWrites at hws
  have hp := v1Engine.planWrites_paths fs new fps ws hws
  intro r hr
  obtain ⟨content, hc, hm⟩ := hall r hr
  refine ⟨content, hc, ?_⟩
  unfold v1RewriteFiles RwEngine.rewriteFiles
  simp only [hws]
  exact lookup_foldl_write_mem ws fs _ _ (hp ▸ hnd) hm

/-- C13, legacy: the extra "no change" error of `v1rewrite.diff` — old and new lines equal although some
    pattern renders differently for the old and the new record — is an error of the DRY path only: the
    write path succeeds on such a file (it rewrites it to itself).  The same asymmetry as in v2rewrite. -/
theorem V1_C13_no_change_error_is_dry_only (fs : FS) (old new : V1Info) (path : Str) (pats : List CPat)
    (content : Str) (hc : lookup path fs = some content)
    (hu : v1HasUpdatedVersion old new pats = .ok true)
    (hr : v1RewriteLines pats new (splitOn (detectLineSep content) content) = .ok (splitOn (detectLineSep content) content)) :
    v1DiffFile fs old new path pats = .error .noMatch ∧
    v1RewriteContent pats new content = .ok content := by
  constructor
  · unfold v1DiffFile
    simp [hc, hu, hr]
  · unfold v1RewriteLines at hr
    unfold v1RewriteContent RwEngine.rewriteContent
    simp only [hr]
    rw [join_split_detect content]

/-! non-vacuity / concrete instances of the legacy engine (tests) -/

def v1WitnessInfo : V1Info :=
  { year := none, quarter := none, month := none, dom := none, doy := none, isoWeek := none, usWeek := none,
    major := 1, minor := 2, patch := 4, bid := "1000".toList, tag := "final".toList }

/-- the two witnesses below, evaluated by the kernel in one declaration (most of the work is converting the
    legacy pattern tables from string literals, which the kernel does once per declaration) -/
theorem v1_rewrite_witnesses :
    (v1RewriteContentOfPairs
        [("{MAJOR}.{MINOR}.{PATCH}".toList, "a={version}".toList),
         ("{MAJOR}.{MINOR}.{PATCH}".toList, "b={MAJOR}.{MINOR}.{PATCH}".toList)] v1WitnessInfo
        "a=1.2.3 b=1.2.3\r\nx".toList = .ok "a=1.2.4 b=1.2.4\r\nx".toList) ∧
    (let p := v1CPat "{MAJOR}.{MINOR}.{PATCH}".toList "v {version}".toList
     let fs : FS := [("a".toList, "v 1.2.3".toList)]
     let fps := [("a".toList, [p]), ("b".toList, [p])]
     (v1RewriteFilesLazy v1WitnessInfo fs fps).1 = [("a".toList, "v 1.2.4".toList)] ∧
     (v1RewriteFilesLazy v1WitnessInfo fs fps).2 = .error .missingFile ∧
     (v1RewriteFiles fs fps v1WitnessInfo).1 = fs ∧
     (v1RewriteFiles fs fps v1WitnessInfo).2 = .error .missingFile) := by
  decide +kernel

/-- two legacy patterns on one line (the D2 situation), CRLF content without final newline -/
theorem V1_C03_shared_line_witness :
    v1RewriteContentOfPairs
        [("{MAJOR}.{MINOR}.{PATCH}".toList, "a={version}".toList),
         ("{MAJOR}.{MINOR}.{PATCH}".toList, "b={MAJOR}.{MINOR}.{PATCH}".toList)] v1WitnessInfo
        "a=1.2.3 b=1.2.3\r\nx".toList = .ok "a=1.2.4 b=1.2.4\r\nx".toList :=
  v1_rewrite_witnesses.1

/-- the lazy loop (`rewrite_files` without `list(...)`) writes the first file before the second one fails;
    the real `rewrite_files` writes nothing -/
theorem V1_C06_lazy_partial_write_witness :
    let p := v1CPat "{MAJOR}.{MINOR}.{PATCH}".toList "v {version}".toList
    let fs : FS := [("a".toList, "v 1.2.3".toList)]
    let fps := [("a".toList, [p]), ("b".toList, [p])]
    (v1RewriteFilesLazy v1WitnessInfo fs fps).1 = [("a".toList, "v 1.2.4".toList)] ∧
    (v1RewriteFilesLazy v1WitnessInfo fs fps).2 = .error .missingFile ∧
    (v1RewriteFiles fs fps v1WitnessInfo).1 = fs ∧
    (v1RewriteFiles fs fps v1WitnessInfo).2 = .error .missingFile :=
  v1_rewrite_witnesses.2

/-- Props/C03's main theorem, stated for v2rewrite.py, is the instance of `RwEngine.C03_every_occurrence`
    at `v2Engine` -/
theorem C03_every_occurrence_from_generic (pats : List CPat) (v : VInfo) (old new : List Str) (ms : List PMatch)
    (hm : iterMatches old pats = some ms) (h : rewriteLines pats v old = .ok new)
    (m : PMatch) (hmem : m ∈ ms) :
    ∃ newLine, new[m.lineno]? = some newLine ∧
      (newLine.drop (shiftedStart v ms m).toNat).take (replOf v m).length = replOf v m :=
  C03_every_occurrence pats v old new ms hm h m hmem

end BV
