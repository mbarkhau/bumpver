/-
  Props/C07.lean — property C07: literal pattern text matches only itself.

  "Everything in a search pattern that is not a part name, an unescaped square bracket or a
   leading/trailing ^/$ anchor is matched literally: the pattern finds exactly the lines
   containing that text (with `\[` and `\]` standing for brackets) and no others, whatever
   regex metacharacters the text contains."

  Model: Model/V2Patterns.lean (`escapePattern` over the GENERATED `RE_PATTERN_ESCAPES`,
  `bracketsToGroups`, `iterPartPatterns`, `substParts`, `compileStr`) and Model/Regex.lean
  (`parseRe`, `reSearch`).  The quantifier is the property's: literal text over any characters
  except upper-case ASCII letters (so no part name can occur), brackets only in escaped form;
  also excluding backslash and `^`/`$` (known findings F-C07-backslash, F-C07-anchor:
  they are NOT in the escape table / are semantic, see `C07_table_complete`).
-/
import BumpverVerif.Model.V2Patterns
import BumpverVerif.Proofs.PatternLemmas
namespace BV

/-- the characters the generated table escapes (entries for the semantic characters are skipped) -/
def escapedChars : List Char :=
  (Gen.rePatternEscapes.filter (fun ce => !(ce.1.all (fun c => "[]\\".toList.contains c) && !ce.1.isEmpty))).filterMap
    (fun ce => ce.1.head?)

def escChar (c : Char) : Str := if escapedChars.contains c then ['\\', c] else [c]

/-- shape of the regenerated table: every applied entry replaces one character `c` by `\c`,
    the characters are pairwise distinct and none is the backslash -/
theorem C07_table_shape :
    (Gen.rePatternEscapes.all (fun ce =>
        (ce.1.all (fun c => "[]\\".toList.contains c) && !ce.1.isEmpty) ||
        (match ce.1 with | [c] => ce.2 == ['\\', c] && c != '\\' | _ => false))) = true
    ∧ escapedChars.Nodup := by
  decide +kernel

/-- COMPLETENESS of the table: every regex metacharacter of Python's `re` is either one of the
    documented semantic characters (`[ ] \ ^ $`) or escaped by the table.  (This is the
    statement that fails, naming the character, when an entry is missing, e.g. `|`.) -/
theorem C07_table_complete :
    ∀ c ∈ ".^$*+?{}[]\\|()".toList, c ∈ "[]\\^$".toList ∨ escapedChars.contains c = true := by
  decide +kernel

/-- the sequential `str.replace` loop is a pointwise map: each character is escaped on its own,
    independently of its neighbours and of the order of the table — for EVERY string -/
theorem C07_escape_pointwise (s : Str) :
    escapePattern Gen.rePatternEscapes s = s.flatMap escChar := by
  have hbs : '\\' ∉ escapedChars := by decide
  exact (escapePattern_eq_fold Gen.rePatternEscapes C07_table_shape.1 s).trans
    (escFold_pointwise escapedChars hbs C07_table_shape.2 s)

/-- literal pattern text: any characters except upper-case letters, `^`, `$`, bare brackets and
    bare backslashes; `\[` / `\]` stand for brackets.  Returns the text it denotes. -/
def litDecode : Str → Option Str
  | [] => some []
  | '\\' :: '[' :: r => (litDecode r).map ('[' :: ·)
  | '\\' :: ']' :: r => (litDecode r).map (']' :: ·)
  | c :: r =>
    if isUpper c || c == '\\' || c == '[' || c == ']' || c == '^' || c == '$' then none
    else (litDecode r).map (c :: ·)

theorem escapedChars_eq : escapedChars = escList := by decide +kernel

theorem escChar_eq (c : Char) : escChar c = if escList.contains c then ['\\', c] else [c] := by
  simp only [escChar, escapedChars_eq]

/-- the escaped form of literal pattern text is the escaped form of the text it denotes -/
theorem litDecode_enc (p t : Str) (h : litDecode p = some t) :
    p.flatMap escChar = enc t ∧ t.all litChar = true := by
  -- one step: the source characters `pre` denote the character `c`
  have step : ∀ (pre r : Str) (c : Char) (t : Str), (litDecode r).map (c :: ·) = some t →
      (∀ t', litDecode r = some t' → r.flatMap escChar = enc t' ∧ t'.all litChar = true) →
      pre.flatMap escChar = encChar c → litChar c = true →
      (pre ++ r).flatMap escChar = enc t ∧ t.all litChar = true := by
    intro pre r c t h ih hpre hc
    cases hr : litDecode r with
    | none => simp [hr] at h
    | some t' =>
      obtain ⟨e, ha⟩ := ih t' hr
      simp only [hr, Option.map_some, Option.some.injEq] at h
      subst h
      exact ⟨by rw [List.flatMap_append, hpre, e, enc_cons], by simp only [List.all_cons, hc, ha, Bool.and_self]⟩
  fun_induction litDecode p generalizing t with
  | case1 => cases h; exact ⟨rfl, rfl⟩
  | case2 r ih => exact step ['\\', '['] r '[' t h ih (by decide) (by decide)
  | case3 r ih => exact step ['\\', ']'] r ']' t h ih (by decide) (by decide)
  | case4 => cases h
  | case5 c r _ _ hc ih =>
    simp only [Bool.or_eq_true, beq_iff_eq, not_or] at hc
    obtain ⟨⟨⟨⟨⟨h1, h2⟩, h3⟩, h4⟩, h5⟩, h6⟩ := hc
    exact step [c] r c t h ih (by simp [escChar_eq, encChar, h3, h4]) (by simp [litChar, h1, h2, h5, h6])

/-- LITERAL TEXT COMPILES TO ITSELF: whatever metacharacters it contains, the regex bumpver
    builds for a literal pattern is exactly the literal-sequence regex of the denoted text -/
theorem C07_literal_compiles (p t : Str) (h : litDecode p = some t) :
    compileRe p = some (Re.lits t) := by
  obtain ⟨he, ha⟩ := litDecode_enc p t h
  rw [compileRe, compileStr, compileStrWith, C07_escape_pointwise, he, replaceParts_enc t ha,
    parseRe_enc t ha]

/-- … and a leading `^` / trailing `$` are the anchors around it -/
theorem C07_anchored (p t : Str) (h : litDecode p = some t) :
    compileRe ('^' :: p ++ ['$']) = some (.seq .bol (Re.litsThen t .eol)) := by
  obtain ⟨he, ha⟩ := litDecode_enc p t h
  have e1 : escChar '^' = ['^'] := by decide
  have e2 : escChar '$' = ['$'] := by decide
  have hs : ('^' :: p ++ ['$']).flatMap escChar = '^' :: (enc t ++ ['$']) := by
    simp only [List.cons_append, List.flatMap_cons, List.flatMap_append, List.flatMap_nil, he, e1, e2,
      List.nil_append, List.append_nil]
  rw [compileRe, compileStr, compileStrWith, C07_escape_pointwise, hs, replaceParts_enc_anchored t ha,
    parseRe_enc_anchored t ha]

/-- the literal-sequence regex finds exactly the lines containing the text: a match is an
    occurrence of `t` … -/
theorem C07_lits_match_is_occurrence (t line : Str) (m : Match)
    (h : reSearch (Re.lits t) line = some m) :
    m.stop = m.start + t.length ∧ (line.drop m.start).take t.length = t := by
  rw [reSearch, searchGo_lits] at h
  cases hf : findIdx t line with
  | none => simp [hf] at h
  | some i =>
    simp only [hf, Option.map_some, Option.some.injEq] at h
    subst h
    obtain ⟨r, hr⟩ := List.isPrefixOf_iff_prefix.mp (findIdx_some_prefix hf)
    simp [← hr]

/-- … every line containing `t` is found … -/
theorem C07_lits_finds (t line : Str) (h : isInfix t line = true) :
    (reSearch (Re.lits t) line).isSome = true := by
  rw [reSearch, searchGo_lits]
  simpa [isInfix] using h

/-- … and no other line is -/
theorem C07_lits_only (t line : Str) (h : isInfix t line = false) :
    reSearch (Re.lits t) line = none := by
  rw [reSearch, searchGo_lits]
  simpa [isInfix] using h

/-- why the `|` entry matters (DESIGN.md D6): without it `a|b` compiles to an alternation, with it to the literal text -/
theorem C07_pipe_witness :
    parseRe (compileStrWith (Gen.rePatternEscapes.filter (fun ce => ce.1 != ['|'])) Gen.partPatterns Gen.partFields "a|b".toList)
      = some (.alt (.chr 'a') (.chr 'b')) ∧
    compileRe "a|b".toList = some (Re.lits "a|b".toList) := by
  have w1 : compileStrWith (Gen.rePatternEscapes.filter (fun ce => ce.1 != ['|'])) Gen.partPatterns
      Gen.partFields "a|b".toList = "a|b".toList := by decide +kernel
  have w2 : parseRe "a|b".toList = some (.alt (.chr 'a') (.chr 'b')) := rfl
  exact ⟨by rw [w1, w2], C07_literal_compiles _ _ (by decide)⟩

/-! non-vacuity -/
example : litDecode "version = \"(c)*+?{}|.\\[x\\]\"".toList = some "version = \"(c)*+?{}|.[x]\"".toList := by decide +kernel

end BV
