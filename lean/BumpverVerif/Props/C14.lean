/-
  Props/C14.lean — property C14: calendar versions never run backwards as the date advances.

  "For every coherent calendar pattern (calendar year with month/day, day of year, quarter or
   Monday/Sunday week number; ISO year with ISO week) the version rendered for a later date is
   never lower than the one for an earlier date, and bumping never moves calendar parts backwards
   even when the current version lies in the future. Patterns pairing a calendar year with the
   ISO week, or an ISO year with a non-ISO week - for which this fails around New Year - are
   rejected."

  Model (Model/Calendar.lean): `calInfo` = `v2version.cal_info` on Python's proleptic Gregorian
  `datetime.date` (compared with the real function on every date 0001-01-01 … 9999-12-31 by
  harness/dev/calendar_difftest.py), `isValidWeekPattern` = `is_valid_week_pattern`,
  `isCalGt` = `_is_cal_gt`. A pattern's calendar parts are a `List CalField`, most significant
  first; `calKey fs c` are their numeric values and `lexLe` is their order (two-digit year parts
  are the year mod 100, so they need the two dates to lie in one century).

  The theorems hold for EVERY ordinal n ≥ 1 (no upper bound is needed; Python's dates are the
  ordinals 1 … 3652059 = `maxOrdinal`).
  Only property theorems live here; helper lemmas are in Proofs/CalendarLemmas.lean.
-/
import BumpverVerif.Model.Calendar
import BumpverVerif.Proofs.CalendarLemmas
-- imported for the build only: this module builds only if the ties (generated-from-source definition = hand model) of these functions are proved
import BumpverVerif.Proofs.Tie_isCalGt
import BumpverVerif.Proofs.Tie_isValidWeekPattern
import BumpverVerif.Proofs.Tie_quarterFromMonth
namespace BV

/-! ### later date, never a lower version -/

/-- one day forward: for every coherent shape the calendar parts do not decrease
    (two-digit years: as long as the day does not cross a century) -/
theorem C14_step (fs : List CalField) (hc : coherent fs = true) (n : Nat) (h1 : 1 ≤ n)
    (hcentY : fs.contains .yearY2 = true →
      (calInfoOrd n).yearY / 100 = (calInfoOrd (n + 1)).yearY / 100)
    (hcentG : fs.contains .yearG2 = true →
      (calInfoOrd n).yearG / 100 = (calInfoOrd (n + 1)).yearG / 100) :
    lexLe (calKey fs (calInfoOrd n)) (calKey fs (calInfoOrd (n + 1))) = true :=
  lexLe_of_stepFacts _ _ (step_facts n h1) fs hc hcentY hcentG

/-- any two dates `n ≤ n'` (as ordinals): for every coherent shape the calendar parts of the
    later date are not lower (two-digit years: the two dates lie in the same century) -/
theorem C14_fields_monotone (fs : List CalField) (hc : coherent fs = true) (n n' : Nat)
    (h1 : 1 ≤ n) (h : n ≤ n')
    (hcentY : fs.contains .yearY2 = true →
      (calInfoOrd n).yearY / 100 = (calInfoOrd n').yearY / 100)
    (hcentG : fs.contains .yearG2 = true →
      (calInfoOrd n).yearG / 100 = (calInfoOrd n').yearG / 100) :
    lexLe (calKey fs (calInfoOrd n)) (calKey fs (calInfoOrd n')) = true := by
  obtain ⟨d, rfl⟩ : ∃ d, n' = n + d := ⟨n' - n, by omega⟩
  exact lexLe_calKey_add fs hc n h1 d hcentY hcentG

/-- the same on `datetime.date` values: Python orders dates as `(year, month, day)` tuples -/
theorem C14_dates_monotone (fs : List CalField) (hc : coherent fs = true)
    (y m d y' m' d' : Nat) (hv : validDate y m d = true) (hv' : validDate y' m' d' = true)
    (hle : lexLe [y, m, d] [y', m', d'] = true)
    (hcentY : fs.contains .yearY2 = true → y / 100 = y' / 100)
    (hcentG : fs.contains .yearG2 = true → isoYear y m d / 100 = isoYear y' m' d' / 100) :
    lexLe (calKey fs (calInfo y m d)) (calKey fs (calInfo y' m' d')) = true := by
  have ho := ordinal_le_of_date_le y m d y' m' d' hv hv' hle
  have h1 : 1 ≤ ordinal y m d := by
    simp only [validDate, Bool.and_eq_true, decide_eq_true_eq] at hv
    unfold ordinal; omega
  have := C14_fields_monotone fs hc (ordinal y m d) (ordinal y' m' d') h1 ho
  rw [calInfoOrd_ordinal y m d hv, calInfoOrd_ordinal y' m' d' hv'] at this
  exact this hcentY hcentG

/-- `calInfoOrd` is `cal_info` of the date with that ordinal -/
theorem C14_ordinal_roundtrip (y m d : Nat) (hv : validDate y m d = true) :
    fromOrdinal (ordinal y m d) = (y, m, d) ∧ calInfoOrd (ordinal y m d) = calInfo y m d :=
  ⟨fromOrdinal_ordinal y m d hv, calInfoOrd_ordinal y m d hv⟩

/-- the day of year rendered for a date lies inside that year (never 366 in a common year), and
    `version.date_from_doy` leads from (year, day of year) back to the same date -/
theorem C14_doy_roundtrip (n : Nat) (h1 : 1 ≤ n) (h2 : n ≤ maxOrdinal) :
    1 ≤ (calInfoOrd n).doy ∧ (calInfoOrd n).doy ≤ yearLen (calInfoOrd n).yearY ∧
    dateFromDoy (calInfoOrd n).yearY (calInfoOrd n).doy = some (fromOrdinal n) :=
  doy_roundtrip n h1 h2

/-- Outside that range `date_from_doy` runs into the next year: day 366 of the common year 2019
    is 2020-01-01 (the parser then keeps `year_y = 2019` with month 1, day 1 — finding
    F-C14-doy366: the hand-written version `2019.366` is read as 2019-01-01 and bumps to a
    lower day of year; bumpver itself never renders such a version, see `C14_doy_roundtrip`). -/
theorem C14_doy366_common_year_witness :
    dateFromDoy 2019 366 = some (2020, 1, 1) ∧ yearLen 2019 = 365 := by decide

/-! ### the rejected pairings -/

/-- a pattern is rejected exactly when it pairs a calendar-year part with the ISO week, or an ISO-year part with a
    Monday- or Sunday-based week -/
theorem C14_rejected_iff' (p : Str) :
    isValidWeekPattern p = false ↔
      (hasYPart p = true ∧ hasVPart p = true) ∨ (hasGPart p = true ∧ hasWUPart p = true) := by
  unfold isValidWeekPattern
  cases hasYPart p <;> cases hasVPart p <;> cases hasGPart p <;> cases hasWUPart p <;> simp

/-- the same with the two alternatives made exclusive, as the code tests them one after the other -/
theorem C14_rejected_iff (p : Str) :
    isValidWeekPattern p = false ↔
      (hasYPart p = true ∧ hasVPart p = true) ∨
      (¬ (hasYPart p = true ∧ hasVPart p = true) ∧ hasGPart p = true ∧ hasWUPart p = true) := by
  rw [C14_rejected_iff']
  by_cases h : hasYPart p = true ∧ hasVPart p = true
  · exact ⟨fun _ => .inl h, fun _ => .inl h⟩
  · exact ⟨fun h' => h'.elim (fun a => absurd a h) (fun b => .inr ⟨h, b⟩), fun h' => h'.elim .inl (fun b => .inr b.2)⟩

/-- the six rejected pairings of a year part with a week part -/
def rejectedPairings : List (List CalField) :=
  [[.yearY, .weekV], [.yearY2, .weekV], [.yearG, .weekW], [.yearG, .weekU], [.yearG2, .weekW],
   [.yearG2, .weekU]]

/-- none of them is a coherent shape … -/
theorem C14_rejected_not_coherent : ∀ fs ∈ rejectedPairings, coherent fs = false := by decide

/-- … and each of them runs backwards around New Year, inside one century and inside Python's
    date range: 2021-01-03 (Sunday, ISO 2020-W53) → 2021-01-04 (ISO 2021-W01) for a calendar year
    with the ISO week, 2020-12-31 (ISO 2020-W53, %W = %U = 52) → 2021-01-01 (still ISO year 2020,
    %W = %U = 0) for the ISO year with a Monday- or Sunday-based week. -/
theorem C14_rejected_nonmonotone : ∀ fs ∈ rejectedPairings,
    ∃ n, 1 ≤ n ∧ n + 1 ≤ maxOrdinal ∧
      (calInfoOrd n).yearY / 100 = (calInfoOrd (n + 1)).yearY / 100 ∧
      (calInfoOrd n).yearG / 100 = (calInfoOrd (n + 1)).yearG / 100 ∧
      lexLt (calKey fs (calInfoOrd (n + 1))) (calKey fs (calInfoOrd n)) = true := by
  intro fs hfs
  simp only [rejectedPairings, List.mem_cons, List.not_mem_nil, or_false] at hfs
  rcases hfs with rfl | rfl | rfl | rfl | rfl | rfl
  · exact ⟨737793, by decide⟩
  · exact ⟨737793, by decide⟩
  · exact ⟨737790, by decide⟩
  · exact ⟨737790, by decide⟩
  · exact ⟨737790, by decide⟩
  · exact ⟨737790, by decide⟩

/-- the witnesses as dates -/
theorem C14_rejected_witness_dates :
    fromOrdinal 737793 = (2021, 1, 3) ∧ fromOrdinal 737794 = (2021, 1, 4) ∧
    fromOrdinal 737790 = (2020, 12, 31) ∧ fromOrdinal 737791 = (2021, 1, 1) ∧
    calKey [.yearY, .weekV] (calInfoOrd 737793) = [2021, 53] ∧
    calKey [.yearY, .weekV] (calInfoOrd 737794) = [2021, 1] ∧
    calKey [.yearG, .weekW] (calInfoOrd 737790) = [2020, 52] ∧
    calKey [.yearG, .weekW] (calInfoOrd 737791) = [2020, 0] ∧
    calKey [.yearG, .weekU] (calInfoOrd 737790) = [2020, 52] ∧
    calKey [.yearG, .weekU] (calInfoOrd 737791) = [2020, 0] := by decide

/-! ### the future-version guard `_is_cal_gt` -/

/-- `incr` keeps the old calendar parts iff `_is_cal_gt(old_vinfo, cur_cinfo)`. For a version
    whose pattern shows exactly the parts `fs` (a coherent shape; the other `V2CalendarInfo`
    fields are `None`) against a complete `cal_info`, the guard is false exactly when the old
    parts are not above the current ones — so taking the current parts never moves them back. -/
theorem C14_guard (fs : List CalField) (hfs : fs ∈ fullYearShapes) (old cur : CalInfo) :
    isCalGt (old.mask fs) cur.toOpt = false ↔ lexLe (calKey fs old) (calKey fs cur) = true := by
  rw [guard_mask fs hfs old cur]
  cases lexLe (calKey fs old) (calKey fs cur) <;> simp

/-- the shapes of `C14_guard` are the coherent shapes with four-digit years -/
theorem C14_guard_shapes (fs : List CalField) :
    fs ∈ fullYearShapes ↔
      (coherent fs = true ∧ fs.contains .yearY2 = false ∧ fs.contains .yearG2 = false) := by
  constructor
  · intro h
    simp only [fullYearShapes, yShapes, gShapes, List.mem_append, List.mem_cons, List.not_mem_nil,
      or_false] at h
    rcases h with (rfl | rfl | rfl | rfl | rfl | rfl | rfl | rfl | rfl) | (rfl | rfl) <;> decide
  · rintro ⟨hc, hy, hg⟩
    have hm := mem_coherentShapes fs hc
    simp only [coherentShapes, yShapes, gShapes, List.mem_append, List.mem_cons, List.not_mem_nil,
      or_false] at hm
    rcases hm with (((rfl | rfl | rfl | rfl | rfl | rfl | rfl | rfl | rfl) |
      (rfl | rfl | rfl | rfl | rfl | rfl | rfl | rfl | rfl)) | (rfl | rfl)) | (rfl | rfl) <;>
      first | decide | (exact absurd hy (by decide)) | (exact absurd hg (by decide))

/-- a pattern with a month part: the parser also fills `quarter` from the month
    (`parse_field_values_to_cinfo`), so `_is_cal_gt` sees year, quarter, month(, day); the outcome
    is still the order of year, month(, day) -/
theorem C14_guard_derived_quarter (old cur : CalInfo)
    (hq : old.quarter = quarterFromMonth old.month) (hq' : cur.quarter = quarterFromMonth cur.month) :
    (isCalGt (old.mask [.yearY, .quarter, .month]) cur.toOpt = false ↔
      lexLe (calKey [.yearY, .month] old) (calKey [.yearY, .month] cur) = true) ∧
    (isCalGt (old.mask [.yearY, .quarter, .month, .dom]) cur.toOpt = false ↔
      lexLe (calKey [.yearY, .month, .dom] old) (calKey [.yearY, .month, .dom] cur) = true) := by
  rw [C14_guard _ (by decide), C14_guard _ (by decide)]
  unfold quarterFromMonth at hq hq'
  simp only [calKey, List.map, CalField.get, lexLe, Bool.or_eq_true, Bool.and_eq_true,
    decide_eq_true_eq, beq_iff_eq, and_true]
  constructor <;> constructor <;> intro h <;> omega

/-- a pattern that pins a full date (year + month + day, or year + day of year): the parser
    fills all nine fields from that date, and the guard is then exactly "the old date is later" -/
theorem C14_guard_full_date (n n' : Nat) (h : 1 ≤ n) (h' : 1 ≤ n') :
    isCalGt (calInfoOrd n).toOpt (calInfoOrd n').toOpt = decide (n' < n) :=
  guard_full n n' h h'

/-- The guard compares ALL fields present on both sides, most significant first in the order of
    `V2CalendarInfo` (year_y, year_g, quarter, …). With fields beyond a coherent shape present
    it does not protect the shape: here the ISO parts go from 2021-W01 back to 2020-W53 although
    `_is_cal_gt` is false (such a pattern, calendar year with ISO week, is rejected up front). -/
theorem C14_guard_needs_exact_fields :
    let old : CalInfo := { (calInfo 2021 1 4) with yearY := 2020 }
    let cur : CalInfo := calInfo 2021 1 3
    isCalGt (old.mask [.yearY, .yearG, .weekV]) cur.toOpt = false ∧
    lexLe (calKey [.yearG, .weekV] old) (calKey [.yearG, .weekV] cur) = false := by decide

/-! ### non-vacuity: concrete instances meeting the hypotheses -/

example : coherent [.yearY, .month, .dom] = true := by decide
example : coherent [.yearG2, .weekV] = true := by decide
example : coherent [.yearY, .weekV] = false := by decide
example : calInfo 2019 4 7 = ⟨2019, 2019, 2, 4, 7, 97, 13, 14, 14⟩ := by decide
example : calInfoOrd 737793 = calInfo 2021 1 3 := by decide
example : ordinal 9999 12 31 = maxOrdinal := by decide
example : validDate 2020 2 29 = true ∧ validDate 2019 2 29 = false := by decide
-- New Year with a Sunday-based week: 2022-12-31 (week 52) → 2023-01-01 (a Sunday, week 1)
example : lexLe (calKey [.yearY, .weekU] (calInfo 2022 12 31)) (calKey [.yearY, .weekU] (calInfo 2023 1 1)) = true := by
  decide
-- ISO shape across New Year: 2020-12-31 (2020-W53) → 2021-01-04 (2021-W01)
example : calKey [.yearG, .weekV] (calInfo 2020 12 31) = [2020, 53] ∧
    calKey [.yearG, .weekV] (calInfo 2021 1 4) = [2021, 1] := by decide
-- the century side condition is needed: 1999-12-31 → 2000-01-01 with a two-digit year
example : lexLe (calKey [.yearY2, .month] (calInfo 1999 12 31)) (calKey [.yearY2, .month] (calInfo 2000 1 1)) = false := by
  decide
example : isValidWeekPattern "vYYYY.0V".toList = false := by decide
example : isValidWeekPattern "GGGG.WW".toList = false := by decide
example : isValidWeekPattern "vGGGG.0V".toList = true := by decide
example : isValidWeekPattern "vYYYY.0W".toList = true := by decide
-- the guard on a version "from the future": old 2031.05 against 2026-09 keeps the old parts
example : isCalGt ((calInfo 2031 5 1).mask [.yearY, .quarter, .month]) (calInfo 2026 9 29).toOpt = true := by
  decide
example : isCalGt ((calInfo 2026 5 1).mask [.yearY, .quarter, .month]) (calInfo 2026 9 29).toOpt = false := by
  decide

end BV
