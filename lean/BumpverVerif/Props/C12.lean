/-
  Props/C12.lean — property C12: messages, tag names and paths reach the VCS verbatim.

  "The commit message and tag message bumpver passes to git/hg are exactly the configured or
   CLI-given templates with the documented placeholders substituted, each as a single
   argument; the tag name is exactly the new version and each staged path exactly the
   configured path. No character in those values can add, remove or alter VCS command-line
   arguments."

  Model: Model/Vcs.lean (`argv` = split the template once, format each token) over the
  GENERATED table Gen/VcsTemplates.lean (= vcs.VCS_SUBCOMMANDS_BY_NAME of the working tree).
  Every theorem below quantifies over ALL strings (any Unicode, quotes, backslashes,
  newlines, leading dashes …).  Helper lemmas: Proofs/VcsLemmas.lean.

  Main lemma: `argv_of_pieces` (a template that `shlex.split`s into rendered `Piece`s has the
  pieces' values as its argument vector).
-/
import BumpverVerif.Model.Vcs
import BumpverVerif.Gen.VcsTemplates
import BumpverVerif.Proofs.VcsLemmas
import BumpverVerif.Props.VcsTable
namespace BV

/-- the command template of the working tree for (vcs, command): `(vcsTemplate vcs cmd).getD []` (Props/VcsTable.lean) -/
def tmplOf (vcs cmd : String) : Str :=
  ((lookup vcs.toList Gen.vcsTemplates).bind (lookup cmd.toList)).getD []

private def S (s : String) : Str := s.toList

theorem tmplOf_entry {vcs cmd : String} {tbl : List (Str × Str)} {tmpl : Str} (i j : Nat)
    (hi : Gen.vcsTemplates[i]? = some (vcs.toList, tbl)) (hj : tbl[j]? = some (cmd.toList, tmpl)) :
    tmplOf vcs cmd = tmpl :=
  congrArg (·.getD []) (vcsTemplate_entry i j hi hj)

/-! ### message rendering: templates with the documented placeholders -/

inductive Piece
  | txt (s : Str)      -- literal text (may contain anything; braces are written doubled)
  | ph (k : Str)       -- `{k}`

def escBraces : Str → Str
  | [] => []
  | c :: r => if c == '{' then '{' :: '{' :: escBraces r
              else if c == '}' then '}' :: '}' :: escBraces r else c :: escBraces r

def Piece.render : Piece → Str
  | .txt s => escBraces s
  | .ph k => '{' :: k ++ ['}']

def Piece.value (kw : List (Str × Str)) : Piece → Str
  | .txt s => s
  | .ph k => (lookup k kw).getD []

private theorem Except_map_map {ε α β γ} (f : α → β) (g : β → γ) (x : Except ε α) :
    (x.map f).map g = x.map (fun a => g (f a)) := by
  cases x <;> rfl

private theorem fmtGo_escBraces (kw : List (Str × Str)) (s rest : Str) :
    fmtGo kw .text (escBraces s ++ rest) = (fmtGo kw .text rest).map (s ++ ·) := by
  induction s with
  | nil =>
    show fmtGo kw .text rest = _
    cases fmtGo kw .text rest <;> rfl
  | cons c s ih =>
    unfold escBraces
    split
    · rename_i hc; simp only [beq_iff_eq] at hc; subst hc
      rw [List.cons_append, List.cons_append, fmtGo_text_lbrace2, ih, Except_map_map]; rfl
    · split
      · rename_i hc; simp only [beq_iff_eq] at hc; subst hc
        rw [List.cons_append, List.cons_append, fmtGo_text_rbrace2, ih, Except_map_map]; rfl
      · rename_i h1 h2
        simp only [beq_iff_eq] at h1 h2
        rw [List.cons_append, fmtGo_text_plain kw _ h1 h2, ih, Except_map_map]; rfl

/-- `template.format(**kwargs)` is the template with each placeholder replaced by its value,
    in one pass (values are never re-interpreted, whatever braces they contain) -/
theorem C12_message_render (ps : List Piece) (kw : List (Str × Str))
    (hk : ∀ p ∈ ps, ∀ k, p = .ph k → simpleName k = true ∧ (lookup k kw).isSome = true) :
    pyFormat kw (ps.flatMap Piece.render) = .ok (ps.flatMap (Piece.value kw)) := by
  unfold pyFormat
  induction ps with
  | nil => rfl
  | cons p ps ih =>
    have ih' := ih (fun p' hp' => hk p' (by simp [hp']))
    rw [List.flatMap_cons, List.flatMap_cons]
    cases p with
    | txt s => rw [Piece.render, fmtGo_escBraces, ih']; rfl
    | ph k =>
      obtain ⟨hs, hl⟩ := hk (.ph k) (by simp) k rfl
      obtain ⟨v, hv⟩ := Option.isSome_iff_exists.1 hl
      simp only [Piece.render, List.append_assoc, List.singleton_append]
      rw [fmtGo_slot kw _ hs hv, ih']
      simp [Piece.value, hv, Except.map]

/-- the value `str.format` gives a piece that is a whole token, if it accepts it: a placeholder
    needs a name of the supported form that `kw` binds -/
def Piece.value? (kw : List (Str × Str)) : Piece → Option Str
  | .txt s => some s
  | .ph k => if simpleName k then lookup k kw else none

theorem Piece.format_render {kw : List (Str × Str)} {p : Piece} {v : Str} (h : p.value? kw = some v) :
    pyFormat kw p.render = .ok v := by
  cases p with
  | txt s =>
    obtain rfl : s = v := Option.some.inj h
    simpa [pyFormat, Piece.render, fmtGo, Except.map] using fmtGo_escBraces kw s []
  | ph k =>
    by_cases hs : simpleName k = true
    · exact pyFormat_slot kw hs (by simpa [Piece.value?, hs] using h)
    · simp [Piece.value?, hs] at h

/-- a template that splits into rendered pieces: the argument vector is the pieces' values, one
    argument per piece, whatever the values contain -/
theorem argv_of_pieces {tmpl : Str} {kw : List (Str × Str)} (tks : List Piece) {vs : List Str}
    (hs : shlexSplit tmpl = some (tks.map Piece.render))
    (hv : tks.map (Piece.value? kw) = vs.map some) : argv tmpl kw = .ok vs := by
  simp only [argv, hs]
  clear hs
  induction tks generalizing vs with
  | nil => cases vs <;> first | rfl | cases hv
  | cons p tks ih =>
    cases vs with
    | nil => cases hv
    | cons v vs =>
      simp only [List.map_cons, List.cons.injEq] at hv
      simp only [List.map_cons, mapFormat, Piece.format_render hv.1, ih hv.2, Except.map]

theorem argv_entry {vcs cmd : String} {tbl : List (Str × Str)} {tmpl : Str} {kw : List (Str × Str)} (i j : Nat)
    (hi : Gen.vcsTemplates[i]? = some (vcs.toList, tbl)) (hj : tbl[j]? = some (cmd.toList, tmpl))
    (tks : List Piece) {vs : List Str} (hs : shlexSplit tmpl = some (tks.map Piece.render))
    (hv : tks.map (Piece.value? kw) = vs.map some) : argv (tmplOf vcs cmd) kw = .ok vs :=
  tmplOf_entry i j hi hj ▸ argv_of_pieces tks hs hv

/-! ### every value-carrying command: the value is exactly one argv element, verbatim

The string literals are decoded by `String.toList_ofList` first: evaluating `String.toList` on a literal would run
the UTF-8 decoder, in the kernel too. -/

theorem C12_git_commit_argv (m : Str) :
    argv (tmplOf "git" "commit") [(S "message", m)] = .ok [S "git", S "commit", S "--message", m] := by
  refine argv_entry 0 6 rfl rfl
    [.txt (S "git"), .txt (S "commit"), .txt (S "--message"), .ph (S "message")] ?_ ?_
  all_goals
    unfold S
    repeat rw [String.toList_ofList]
  · decide +kernel
  · rfl

theorem C12_git_tag_argv (t m : Str) :
    argv (tmplOf "git" "tag") [(S "tag", t), (S "message", m)]
      = .ok [S "git", S "tag", S "--annotate", t, S "--message", m] := by
  refine argv_entry 0 7 rfl rfl
    [.txt (S "git"), .txt (S "tag"), .txt (S "--annotate"), .ph (S "tag"), .txt (S "--message"),
      .ph (S "message")] ?_ ?_
  all_goals
    unfold S
    repeat rw [String.toList_ofList]
  · decide +kernel
  · rfl

theorem C12_git_tag_light_argv (t : Str) :
    argv (tmplOf "git" "tag_light") [(S "tag", t)] = .ok [S "git", S "tag", t] := by
  refine argv_entry 0 8 rfl rfl
    [.txt (S "git"), .txt (S "tag"), .ph (S "tag")] ?_ ?_
  all_goals
    unfold S
    repeat rw [String.toList_ofList]
  · decide +kernel
  · rfl

theorem C12_git_add_argv (p : Str) :
    argv (tmplOf "git" "add_path") [(S "path", p)] = .ok [S "git", S "add", S "--update", p] := by
  refine argv_entry 0 5 rfl rfl
    [.txt (S "git"), .txt (S "add"), .txt (S "--update"), .ph (S "path")] ?_ ?_
  all_goals
    unfold S
    repeat rw [String.toList_ofList]
  · decide +kernel
  · rfl

theorem C12_git_push_tag_argv (r t : Str) :
    argv (tmplOf "git" "push_tag") [(S "tag", t), (S "remote", r)]
      = .ok [S "git", S "push", r, S "--follow-tags", t, S "HEAD"] := by
  refine argv_entry 0 9 rfl rfl
    [.txt (S "git"), .txt (S "push"), .ph (S "remote"), .txt (S "--follow-tags"), .ph (S "tag"),
      .txt (S "HEAD")] ?_ ?_
  all_goals
    unfold S
    repeat rw [String.toList_ofList]
  · decide +kernel
  · rfl

theorem C12_git_push_argv (r : Str) :
    argv (tmplOf "git" "push") [(S "remote", r)] = .ok [S "git", S "push", r, S "HEAD"] := by
  refine argv_entry 0 10 rfl rfl
    [.txt (S "git"), .txt (S "push"), .ph (S "remote"), .txt (S "HEAD")] ?_ ?_
  all_goals
    unfold S
    repeat rw [String.toList_ofList]
  · decide +kernel
  · rfl

theorem C12_hg_commit_argv (p : Str) :
    argv (tmplOf "hg" "commit") [(S "path", p)] = .ok [S "hg", S "commit", S "--logfile", p] := by
  refine argv_entry 1 6 rfl rfl
    [.txt (S "hg"), .txt (S "commit"), .txt (S "--logfile"), .ph (S "path")] ?_ ?_
  all_goals
    unfold S
    repeat rw [String.toList_ofList]
  · decide +kernel
  · rfl

theorem C12_hg_tag_argv (t m : Str) :
    argv (tmplOf "hg" "tag") [(S "tag", t), (S "message", m)]
      = .ok [S "hg", S "tag", t, S "--message", m] := by
  refine argv_entry 1 7 rfl rfl
    [.txt (S "hg"), .txt (S "tag"), .ph (S "tag"), .txt (S "--message"), .ph (S "message")] ?_ ?_
  all_goals
    unfold S
    repeat rw [String.toList_ofList]
  · decide +kernel
  · rfl

theorem C12_hg_tag_light_argv (t : Str) :
    argv (tmplOf "hg" "tag_light") [(S "tag", t)] = .ok [S "hg", S "tag", t] := by
  refine argv_entry 1 8 rfl rfl
    [.txt (S "hg"), .txt (S "tag"), .ph (S "tag")] ?_ ?_
  all_goals
    unfold S
    repeat rw [String.toList_ofList]
  · decide +kernel
  · rfl

theorem C12_hg_add_argv (p : Str) :
    argv (tmplOf "hg" "add_path") [(S "path", p)] = .ok [S "hg", S "add", p] := by
  refine argv_entry 1 5 rfl rfl
    [.txt (S "hg"), .txt (S "add"), .ph (S "path")] ?_ ?_
  all_goals
    unfold S
    repeat rw [String.toList_ofList]
  · decide +kernel
  · rfl

/-- Mercurial's `push_tag` template has no `{remote}`: whatever remote is passed, it is not an argument -/
theorem hg_push_tag_argv (t r : Str) :
    argv (tmplOf "hg" "push_tag") [(S "tag", t), (S "remote", r)] = .ok [S "hg", S "push", t] := by
  refine argv_entry 1 9 rfl rfl
    [.txt (S "hg"), .txt (S "push"), .ph (S "tag")] ?_ ?_
  all_goals
    unfold S
    repeat rw [String.toList_ofList]
  · decide +kernel
  · rfl

theorem C12_hg_push_tag_argv (t : Str) :
    argv (tmplOf "hg" "push_tag") [(S "tag", t), (S "remote", [])] = .ok [S "hg", S "push", t] :=
  hg_push_tag_argv t []

/-- the rendered message then travels as one argument (composition with `C12_git_commit_argv`) -/
theorem C12_commit_message_end_to_end (ps : List Piece) (kw : List (Str × Str))
    (hk : ∀ p ∈ ps, ∀ k, p = .ph k → simpleName k = true ∧ (lookup k kw).isSome = true) :
    (pyFormat kw (ps.flatMap Piece.render)).toOption.map
        (fun m => argv (tmplOf "git" "commit") [(S "message", m)])
      = some (.ok [S "git", S "commit", S "--message", ps.flatMap (Piece.value kw)]) := by
  rw [C12_message_render ps kw hk]
  simp only [Except.toOption, Option.map_some, C12_git_commit_argv]

/-! ### the general statement over the whole generated table

`slotName` / `tokOk` / `tokValue` read off a token what a `Piece` states (`.ph k` renders to a token with
`slotName = some k`, `.txt s` to a static one of value `s`): no piece list is needed, but the argv is computed
(`tokValue`), where the per-command theorems above write it out. -/

/-- a token of a split template is either a single slot `{name}` or contains no placeholder -/
def slotName (tok : Str) : Option Str :=
  match tok with
  | '{' :: rest =>
    if rest.getLast? == some '}' && simpleName rest.dropLast then some rest.dropLast else none
  | _ => none

def tokOk (tok : Str) : Bool :=
  (slotName tok).isSome || (pyFormat [] tok).toOption.isSome   -- static: formats without any key

/-- every template of the working tree splits into tokens each of which is a lone slot or static -/
theorem C12_table_shape :
    Gen.vcsTemplates.all (fun vc => vc.2.all (fun ct =>
      match shlexSplit ct.2 with
      | some toks => toks.all tokOk
      | none => false)) = true := by
  unfold Gen.vcsTemplates
  repeat rw [String.toList_ofList]
  decide +kernel

/-- the value substituted for a token -/
def tokValue (kw : List (Str × Str)) (tok : Str) : Str :=
  match slotName tok with
  | some k => (lookup k kw).getD []
  | none => (pyFormat [] tok).toOption.getD []

/-! glue: what `slotName` / `tokOk` say about a token (generic lemmas: Proofs/VcsLemmas.lean) -/

private theorem slotName_spec {tok k : Str} (h : slotName tok = some k) :
    tok = '{' :: k ++ ['}'] ∧ simpleName k = true := by
  unfold slotName at h
  split at h
  · rename_i rest
    split at h
    · rename_i hc
      simp only [Bool.and_eq_true, beq_iff_eq] at hc
      cases h
      exact ⟨by rw [List.cons_append, dropLast_append_of_getLast? hc.1], hc.2⟩
    · cases h
  · cases h

private theorem pyFormat_tok (kw : List (Str × Str)) (tok : Str) (hok : tokOk tok = true)
    (hkeys : ∀ k, slotName tok = some k → (lookup k kw).isSome = true) :
    pyFormat kw tok = .ok (tokValue kw tok) := by
  unfold tokValue
  cases hsl : slotName tok with
  | some k =>
    obtain ⟨rfl, hs⟩ := slotName_spec hsl
    obtain ⟨v, hv⟩ := Option.isSome_iff_exists.1 (hkeys k hsl)
    simp only [hv, Option.getD_some]
    exact pyFormat_slot kw hs hv
  | none =>
    simp only [tokOk, hsl, Option.isSome_none, Bool.false_or] at hok
    cases hf : pyFormat [] tok with
    | error e => simp [hf, Except.toOption] at hok
    | ok r => simpa [Except.toOption] using pyFormat_static kw hf

private theorem mapFormat_toks (kw : List (Str × Str)) (toks : List Str)
    (hok : toks.all tokOk = true)
    (hkeys : ∀ t ∈ toks, ∀ k, slotName t = some k → (lookup k kw).isSome = true) :
    mapFormat kw toks = .ok (toks.map (tokValue kw)) := by
  induction toks with
  | nil => rfl
  | cons t ts ih =>
    simp only [List.all_cons, Bool.and_eq_true] at hok
    simp only [mapFormat, pyFormat_tok kw t hok.1 (hkeys t (by simp)),
      ih hok.2 (fun t' ht' => hkeys t' (by simp [ht'])), Except.map, List.map_cons]

/-- for ANY template with that shape and ANY values: argv is the token list with each slot
    replaced by its value — one value, one argument, nothing added, removed or altered -/
theorem C12_single_argument (tmpl : Str) (toks : List Str) (kw : List (Str × Str))
    (hs : shlexSplit tmpl = some toks) (hok : toks.all tokOk = true)
    (hkeys : ∀ t ∈ toks, ∀ k, slotName t = some k → (lookup k kw).isSome = true) :
    argv tmpl kw = .ok (toks.map (tokValue kw)) := by
  simp only [argv, hs]
  exact mapFormat_toks kw toks hok hkeys

/-! ### the defect that was repaired (DESIGN.md D10): format-then-split let values alter argv -/

theorem C12_legacy_injection_witness :
    argvLegacy (tmplOf "git" "commit") [(S "message", S "a' --amend --author='x")]
      = .ok [S "git", S "commit", S "--message", S "a", S "--amend", S "--author=x"] := by
  rw [tmplOf_entry 0 6 rfl rfl]
  unfold S
  repeat rw [String.toList_ofList]
  decide +kernel

theorem C12_legacy_quote_crash_witness :
    argvLegacy (tmplOf "git" "commit") [(S "message", S "it's")] = .error .shlex := by
  rw [tmplOf_entry 0 6 rfl rfl]
  unfold S
  repeat rw [String.toList_ofList]
  decide +kernel

/-! ### OLD/NEW shorthand: two test vectors of `subMsgTemplate` -/
example : subMsgTemplate (S "bump OLD -> NEW") = S "bump {OLD_VERSION} -> {NEW_VERSION}" := by
  unfold S
  repeat rw [String.toList_ofList]
  decide +kernel
example : subMsgTemplate (S "HOLD NEWS OLD_ xOLD") = S "HOLD NEWS OLD_ xOLD" := by
  unfold S
  repeat rw [String.toList_ofList]
  decide +kernel

/-! non-vacuity of `C12_single_argument`'s hypotheses on the real table -/
example : ∃ toks, shlexSplit (tmplOf "git" "tag") = some toks ∧ toks.all tokOk = true := by
  refine ⟨[S "git", S "tag", S "--annotate", S "{tag}", S "--message", S "{message}"], ?_⟩
  rw [tmplOf_entry 0 7 rfl rfl]
  unfold S
  repeat rw [String.toList_ofList]
  decide +kernel

end BV
