/-
  Props/RewriteEngine.lean — properties C03, C04, C06 for EVERY rewrite engine.

  v1rewrite.py and v2rewrite.py have the same shape and differ in how a match's replacement is rendered and
  which compiler made the regexes; the model is therefore ONE engine `RwEngine V` (Model/V1Rewrite.lean),
  parametric in the version record, the renderer and the regex of a pattern.  The property theorems are
  stated and proved here once, for every engine (lemmas: Proofs/RewriteGeneric.lean).  Props/C03, C04, C06
  are the instances at `v2Engine` (which IS Model/Rewrite.lean: `v2Engine_rewriteLines` …), Props/V1Rewrite
  the instances at `v1Engine`.
-/
import BumpverVerif.Proofs.RewriteGeneric
namespace BV
namespace RwEngine
variable {V : Type} (E : RwEngine V)

/-- offset of a match's replacement in the NEW line: its old start, shifted by the growth of the
    replacements to its left on the same line -/
def shiftedStart (v : V) (ms : List PMatch) (m : PMatch) : Int :=
  (m.start : Int) + ((ms.filter (fun m' => m'.lineno == m.lineno && m'.stop < m.start)).map
      (fun m' => ((E.replOf v m').length : Int) - ((m'.stop : Int) - (m'.start : Int)))).sum

theorem C03_matches_disjoint (lines : List Str) (pats : List CPat) (ms : List PMatch)
    (h : E.iterMatches lines pats = some ms) :
    ms.Pairwise (fun a b => a.lineno ≠ b.lineno ∨ a.stop < b.start ∨ b.stop < a.start) :=
  (E.iterMatches_facts lines pats ms h).1

theorem C03_matches_in_bounds (lines : List Str) (pats : List CPat) (ms : List PMatch)
    (h : E.iterMatches lines pats = some ms) :
    ∀ m ∈ ms, ∃ line, lines[m.lineno]? = some line ∧ m.start < m.stop ∧ m.stop ≤ line.length := by
  intro m hm
  obtain ⟨-, h2, line, h3, h4⟩ := (E.iterMatches_facts lines pats ms h).2 m hm
  exact ⟨line, h3, h2, h4⟩

theorem C03_all_patterns_found (pats : List CPat) (v : V) (old new : List Str) (ms : List PMatch)
    (hm : E.iterMatches old pats = some ms) (h : E.rewriteLines pats v old = .ok new) :
    ∀ p ∈ pats, ∃ m ∈ ms, m.pat = p := by
  intro p hp
  obtain ⟨ms', hms', -, hall⟩ := E.rewriteLines_ok h
  rw [hm] at hms'
  cases hms'
  rw [List.all_eq_true] at hall
  have := hall p hp
  rw [List.any_eq_true] at this
  obtain ⟨m, hmem, hmp⟩ := this
  exact ⟨m, hmem, by simpa using hmp⟩

/-- EVERY OCCURRENCE IS REPLACED, also several on one line: after a successful rewrite each surviving
    match shows the new version rendered through its own pattern, at its (shifted) position -/
theorem C03_every_occurrence (pats : List CPat) (v : V) (old new : List Str) (ms : List PMatch)
    (hm : E.iterMatches old pats = some ms) (h : E.rewriteLines pats v old = .ok new)
    (m : PMatch) (hmem : m ∈ ms) :
    E.render v m.pat = .ok (E.replOf v m) ∧
    ∃ newLine, new[m.lineno]? = some newLine ∧
      (newLine.drop (E.shiftedStart v ms m).toNat).take (E.replOf v m).length = E.replOf v m := by
  refine ⟨(E.rewriteLines_line hm h).1 m hmem, ?_⟩
  have hshift : E.shiftedStart v ms m = (m.start : Int) +
      ((ms.filter (fun m' => m'.lineno == m.lineno && decide (m'.stop < m.start))).map
        (growthG (E.replOf v))).sum := rfl
  rw [hshift]
  exact E.rewriteLines_occ hm h m hmem

theorem C04_line_count (pats : List CPat) (v : V) (old new : List Str)
    (h : E.rewriteLines pats v old = .ok new) : new.length = old.length := by
  obtain ⟨ms, _, happ, _⟩ := E.rewriteLines_ok h
  exact (E.applyMatches_ok v _ _ _ happ).2.1

theorem C04_unmatched_lines (pats : List CPat) (v : V) (old new : List Str) (ms : List PMatch)
    (hm : E.iterMatches old pats = some ms) (h : E.rewriteLines pats v old = .ok new)
    (i : Nat) (hi : ∀ m ∈ ms, m.lineno ≠ i) : new[i]? = old[i]? := by
  obtain ⟨-, -, h3⟩ := E.rewriteLines_line hm h
  have hnil : lineMatches ms i = [] := by
    rw [List.eq_nil_iff_forall_not_mem]
    intro m hmem
    exact hi m (mem_lineMatches.1 hmem).1 (mem_lineMatches.1 hmem).2
  rw [h3 i, hnil]
  cases old[i]? <;> rfl

theorem C04_single_span (pats : List CPat) (v : V) (old new : List Str) (ms : List PMatch)
    (hm : E.iterMatches old pats = some ms) (h : E.rewriteLines pats v old = .ok new)
    (m : PMatch) (hmem : m ∈ ms) (honly : ∀ m' ∈ ms, m'.lineno = m.lineno → m' = m)
    (line : Str) (hl : old[m.lineno]? = some line) :
    ∃ repl, E.render v m.pat = .ok repl ∧
      new[m.lineno]? = some (line.take m.start ++ repl ++ line.drop m.stop) := by
  obtain ⟨h1, -, h3⟩ := E.rewriteLines_line hm h
  refine ⟨E.replOf v m, h1 m hmem, ?_⟩
  rw [h3 m.lineno, hl, E.lineMatches_single hm m hmem honly]
  rfl

theorem C04_only_spans (pats : List CPat) (v : V) (old new : List Str) (ms : List PMatch)
    (hm : E.iterMatches old pats = some ms) (h : E.rewriteLines pats v old = .ok new) (i : Nat) :
    new[i]? = (old[i]?).map (spliceLineG (E.replOf v) (lineMatches ms i)) ∧
    (lineMatches ms i).Pairwise (fun a b => b.stop < a.start) :=
  ⟨(E.rewriteLines_line hm h).2.2 i, E.lineMatches_sorted hm i⟩

theorem C04_content_identity (pats : List CPat) (v : V) (s s' : Str)
    (hm : E.iterMatches (splitOn (detectLineSep s) s) pats = some [])
    (h : E.rewriteContent pats v s = .ok s') : s' = s := by
  unfold rewriteContent at h
  simp only at h
  split at h
  · cases h
  · rename_i newLines hnl
    cases h
    obtain ⟨ms, hms, happ, -⟩ := E.rewriteLines_ok hnl
    rw [hm] at hms
    cases hms
    have : newLines = splitOn (detectLineSep s) s := by
      simpa [sortMatches, applyMatches] using happ.symm
    rw [this]
    exact join_split_detect s

theorem C04_content_lines (pats : List CPat) (v : V) (s s' : Str) (h : E.rewriteContent pats v s = .ok s') :
    ∃ newLines, E.rewriteLines pats v (splitOn (detectLineSep s) s) = .ok newLines ∧
      s' = join (detectLineSep s) newLines ∧ newLines.length = (splitOn (detectLineSep s) s).length := by
  unfold rewriteContent at h
  simp only at h
  split at h
  · cases h
  · rename_i newLines hnl
    cases h
    exact ⟨newLines, hnl, rfl, E.C04_line_count _ _ _ _ hnl⟩

theorem C04_other_files (fs : FS) (fps : List (Str × List CPat)) (v : V) (p : Str)
    (hp : ∀ fp ∈ fps, fp.1 ≠ p) : lookup p (E.rewriteFiles fs fps v).1 = lookup p fs := by
  unfold rewriteFiles
  split
  · rfl
  · rename_i ws hws
    apply lookup_foldl_write
    intro w hw
    have hpaths := E.planWrites_paths fs v fps ws hws
    have : w.1 ∈ fps.map (·.1) := hpaths ▸ List.mem_map.2 ⟨w, hw, rfl⟩
    obtain ⟨fp, hfp, hfe⟩ := List.mem_map.1 this
    rw [← hfe]
    exact hp fp hfp

/-- ALL OR NOTHING: an error in the rewrite phase — missing file, pattern without match, a crash of the
    renderer, anything — leaves every file exactly as it was -/
theorem C06_all_or_nothing (fs : FS) (fps : List (Str × List CPat)) (v : V) (e : RwErr)
    (h : (E.rewriteFiles fs fps v).2 = .error e) : (E.rewriteFiles fs fps v).1 = fs := by
  unfold rewriteFiles at h ⊢
  split
  · rfl
  · rename_i ws hws
    rw [hws] at h
    cases h

theorem C06_error_iff (fs : FS) (fps : List (Str × List CPat)) (v : V) :
    (∃ e, (E.rewriteFiles fs fps v).2 = .error e) ↔
      ∃ fp ∈ fps, lookup fp.1 fs = none ∨ ∃ c e, lookup fp.1 fs = some c ∧ E.rewriteContent fp.2 v c = .error e := by
  rw [← E.planWrites_error_iff]
  unfold rewriteFiles
  cases E.planWrites fs v fps with
  | error e => simp
  | ok ws => simp

theorem C06_success_writes (fs : FS) (fps : List (Str × List CPat)) (v : V)
    (h : (E.rewriteFiles fs fps v).2 = .ok ()) :
    ∀ fp ∈ fps, ∃ c, lookup fp.1 fs = some c ∧ ∃ c', E.rewriteContent fp.2 v c = .ok c' := by
  intro fp hfp
  have hne : ¬ ∃ e, (E.rewriteFiles fs fps v).2 = .error e := by
    rintro ⟨e, he⟩
    rw [h] at he
    cases he
  rw [E.C06_error_iff] at hne
  cases hl : lookup fp.1 fs with
  | none => exact absurd ⟨fp, hfp, .inl hl⟩ hne
  | some c =>
    refine ⟨c, rfl, ?_⟩
    cases hr : E.rewriteContent fp.2 v c with
    | error e => exact absurd ⟨fp, hfp, .inr ⟨c, e, hl, hr⟩⟩ hne
    | ok c' => exact ⟨c', rfl⟩

theorem C06_missing_pattern_fails (pats : List CPat) (v : V) (lines : List Str) (ms : List PMatch)
    (hm : E.iterMatches lines pats = some ms) (p : CPat) (hp : p ∈ pats) (hno : ∀ m ∈ ms, m.pat ≠ p) :
    ∃ e, E.rewriteLines pats v lines = .error e := by
  cases hr : E.rewriteLines pats v lines with
  | error e => exact ⟨e, rfl⟩
  | ok new =>
    obtain ⟨m, hmem, hmp⟩ := E.C03_all_patterns_found pats v lines new ms hm hr p hp
    exact absurd hmp (hno m hmem)

/-- the rendering crash of ONE match is an error of the file (and of the phase), not a partial rewrite -/
theorem C06_render_crash_fails (pats : List CPat) (v : V) (lines : List Str) (ms : List PMatch)
    (hm : E.iterMatches lines pats = some ms) (m : PMatch) (hmem : m ∈ ms) (e : PErr)
    (hr : E.render v m.pat = .error e) : ∃ e', E.rewriteLines pats v lines = .error e' := by
  cases h : E.rewriteLines pats v lines with
  | error e' => exact ⟨e', rfl⟩
  | ok new =>
    have := (E.rewriteLines_line hm h).1 m hmem
    rw [hr] at this
    cases this

end RwEngine

end BV
